import RedkaModel.Props.C02ref

-- the property theorems
#print axioms Redka.Props.C02.classifiers_are_the_catalogue
#print axioms Redka.Props.C02.liveListLen_eq
#print axioms Redka.Props.C02.list_refines_lwf
#print axioms Redka.Props.C02.list_refines_partial
#print axioms Redka.Props.C02.spec_listInsert_out_ne
#print axioms Redka.Props.C02.spacious_not_collides
#print axioms Redka.Props.C02.pushSpacious_of_exact
#print axioms Redka.Props.C02.exact_spacious
#print axioms Redka.Props.C02.list_refines_partial_exact
#print axioms Redka.Props.C02.list_preserves_lwf
#print axioms Redka.Props.C02.list_preserves_wf
#print axioms Redka.Props.C02.list_seq_refines
#print axioms Redka.Props.C02.list_seq_refines_inv
#print axioms Redka.Props.C02.anyCollides_insert
#print axioms Redka.Props.C02.ne_unique_of_anyCollides
#print axioms Redka.Props.C02.pushSpacious_of_repr
#print axioms Redka.Props.C02.listPop_ok_bytes
#print axioms Redka.Props.C02.spacious_of_representable
#print axioms Redka.Props.C02.list_refines_partial_repr
#print axioms Redka.Props.C02.list_preserves_representable
#print axioms Redka.Props.C02.cleanRun_of_repr
#print axioms Redka.Props.C02.list_seq_refines_repr
#print axioms Redka.Props.C02.len_eq_full_range_count
#print axioms Redka.Props.C02.missing_key_reads_empty
#print axioms Redka.Props.C02.push_back_appends
#print axioms Redka.Props.C02.push_creates
#print axioms Redka.Props.C02.insertAt_length
#print axioms Redka.Props.C02.insert_accepted
#print axioms Redka.Props.C02.pop_back_returns_last
#print axioms Redka.Props.C02.emptied_list_exists
#print axioms Redka.Props.C02.out_of_outErr
#print axioms Redka.Props.C02.range_inverted_agrees
#print axioms Redka.Props.C02.trim_clamped_agrees
#print axioms Redka.Props.C02.range_missing_agrees
#print axioms Redka.Props.C02.insert_collision_deviates
#print axioms Redka.Props.C02.stale_push_deviates
#print axioms Redka.Props.C02.unrepresentable_position_deviates
#print axioms Redka.Props.C02.push_collision_deviates
#print axioms Redka.Props.C02.full_strength_is_false
#print axioms Redka.Props.C02.without_d03_is_false

-- the lemma library
#print axioms Redka.ListOrd.dy_lt_irrefl
#print axioms Redka.ListOrd.dy_lt_trans
#print axioms Redka.ListOrd.dy_lt_of_le_of_lt
#print axioms Redka.ListOrd.dy_lt_of_lt_of_le
#print axioms Redka.ListOrd.dy_le_of_lt
#print axioms Redka.ListOrd.dy_lt_asymm
#print axioms Redka.ListOrd.dy_lt_or_eq_of_le
#print axioms Redka.ListOrd.dy_lt_of_le_of_ne
#print axioms Redka.ListOrd.dy_ne_of_lt
#print axioms Redka.ListOrd.strictTotal_dy
#print axioms Redka.ListOrd.pairwise_ext
#print axioms Redka.ListOrd.nodup_of_pairwise
#print axioms Redka.ListOrd.key_inj_of_pairwise
#print axioms Redka.ListOrd.dyMin_eq_none
#print axioms Redka.ListOrd.dyMax_eq_none
#print axioms Redka.ListOrd.dyMin_spec
#print axioms Redka.ListOrd.dyMax_spec
#print axioms Redka.ListOrd.dyMin_eq_of
#print axioms Redka.ListOrd.dyMax_eq_of
#print axioms Redka.ListOrd.length_filter_not_mem
#print axioms Redka.ListOrd.filter_not_filter
#print axioms Redka.ListOrd.filter_mem_sublist
#print axioms Redka.ListOrd.nodup_reverse
#print axioms Redka.ListOrd.removeFirstN_rows
#print axioms Redka.ListOrd.removeLastN_rows
#print axioms Redka.ListOrd.removeFirstN_length_le
#print axioms Redka.ListOrd.split_first
#print axioms Redka.ListOrd.insertAt_none
#print axioms Redka.ListOrd.insertAt_split
#print axioms Redka.Model.listRows_eq_rowsOf
#print axioms Redka.Model.PosSorted.lt
#print axioms Redka.Model.mem_rowsOf
#print axioms Redka.Model.length_rowsOf
#print axioms Redka.Model.PosNodup.filter_pos
#print axioms Redka.Model.rowsOf_sorted
#print axioms Redka.Model.rowsOf_eq
#print axioms Redka.Model.PosSorted.nodup
#print axioms Redka.Model.PosSorted.pos_inj
#print axioms Redka.Model.PosSorted.filter
#print axioms Redka.Model.PosSorted.sublist
#print axioms Redka.Model.PosNodup.filter
#print axioms Redka.Model.rowsOf_delete
#print axioms Redka.Model.filter_other_delete
#print axioms Redka.Model.PosNodup.append
#print axioms Redka.Model.rowsOf_insert
#print axioms Redka.Model.filter_other_append
#print axioms Redka.Model.filter_self_append_length
#print axioms Redka.Model.setElemRow_kid
#print axioms Redka.Model.setElemRow_pos
#print axioms Redka.Model.rowsOf_setElem
#print axioms Redka.Model.PosNodup.setElem
#print axioms Redka.Model.filter_setElem
#print axioms Redka.Model.filter_other_setElem
#print axioms Redka.DB.Inv.lwf
#print axioms Redka.DB.LWF.rows_sorted
#print axioms Redka.DB.LWF.len_eq
#print axioms Redka.DB.LWF.no_rows_fresh
#print axioms Redka.Spec.Stored.abs
#print axioms Redka.Spec.absVal_list
#print axioms Redka.Model.length_elems
#print axioms Redka.Model.listAt_of_get_list
#print axioms Redka.Proofs.Index.lindex_map
#print axioms Redka.Proofs.Index.lindex_nil
#print axioms Redka.Proofs.Index.sqlLimit_map
#print axioms Redka.Proofs.Index.lrange_map
#print axioms Redka.Proofs.Index.lrange_nil
#print axioms Redka.Model.listLen_refines
#print axioms Redka.Model.listGet_refines
#print axioms Redka.Model.listRange_missing
#print axioms Redka.Model.listRange_refines
#print axioms Redka.Model.listStore_old
#print axioms Redka.Model.delN_id
#print axioms Redka.Model.delN_key
#print axioms Redka.Model.delN_ty
#print axioms Redka.Model.delN_etime
#print axioms Redka.Model.delN_len
#print axioms Redka.Model.foldl_onDelete
#print axioms Redka.Model.listDeleteRows_eq
#print axioms Redka.Model.filter_pos_victims
#print axioms Redka.Model.deleteRows_step
#print axioms Redka.Model.listPop_cases
#print axioms Redka.Model.listPop_refines
#print axioms Redka.Model.delete_core
#print axioms Redka.Model.mem_rows_of_filter
#print axioms Redka.Model.listDelete_refines
#print axioms Redka.Model.sqlLimit_zero_pos
#print axioms Redka.Model.listDeleteN_refines
#print axioms Redka.Proofs.Index.sqlLimit_sublist
#print axioms Redka.Model.modelTrimKeep_sublist
#print axioms Redka.Model.modelTrimKeep_map
#print axioms Redka.Model.listTrim_refines
#print axioms Redka.Model.map_setElem_eq_set
#print axioms Redka.Model.lindexPos_lt
#print axioms Redka.Model.listSet_refines
#print axioms Redka.Model.pushNew_id
#print axioms Redka.Model.pushNew_len
#print axioms Redka.Model.pushOld_id
#print axioms Redka.Model.updKey_lists
#print axioms Redka.Model.listPushKey_eq
#print axioms Redka.Model.listPush_eq
#print axioms Redka.Model.rowsOf_nil_of_filter
#print axioms Redka.Model.listPush_refines
#print axioms Redka.Model.listInsert_eq
#print axioms Redka.Model.pivotPos_none
#print axioms Redka.Model.pivotPos_split
#print axioms Redka.Model.listInsert_refines
#print axioms Redka.Model.spec_popPush
#print axioms Redka.Model.listPopBackPushFront_refines
#print axioms Redka.Model.pos_fresh_iff
#print axioms Redka.Model.listPush_new
#print axioms Redka.Model.listPush_old
#print axioms Redka.Model.listPush_other
#print axioms Redka.Model.listPush_lwf
#print axioms Redka.Model.listInsert_lwf
#print axioms Redka.Model.listPopBackPushFront_lwf
#print axioms Redka.ListPos.dy_lt_add_one
#print axioms Redka.ListPos.dy_sub_one_lt
#print axioms Redka.ListPos.dyHalf_add_self
#print axioms Redka.ListPos.dyHalf_between
#print axioms Redka.ListPos.pushRoom_of_exact
#print axioms Redka.ListPos.insertRoom_of_exact
#print axioms Redka.ListPos.round53_of_bits
#print axioms Redka.ListPos.natBits_le_iff
#print axioms Redka.ListPos.round53_grid
#print axioms Redka.ListPos.ofIntWithPrec_add
#print axioms Redka.ListPos.round53_grid_add
#print axioms Redka.ListPos.round53_int
#print axioms Redka.ListPos.int_add_one
#print axioms Redka.ListPos.int_sub_one
#print axioms Redka.ListPos.pushRoom_of_small_ints
#print axioms Redka.ListPos.insertRoom_of_grid
#print axioms Redka.ListRound.round53_of_repr
#print axioms Redka.ListRound.repr53_neg
#print axioms Redka.ListRound.repr53_zero
#print axioms Redka.ListRound.repr53_dyHalf
#print axioms Redka.ListRound.repr53_dyDouble
#print axioms Redka.ListRound.dyHalf_dyDouble
#print axioms Redka.ListRound.dyDouble_eq
#print axioms Redka.ListRound.pw_pos
#print axioms Redka.ListRound.pw_add
#print axioms Redka.ListRound.pw_nat
#print axioms Redka.ListRound.int_mul_pw_lt
#print axioms Redka.ListRound.int_mul_pw_le
#print axioms Redka.ListRound.mul_pw_shift
#print axioms Redka.ListRound.toRat_grid
#print axioms Redka.ListRound.toRat_odd
#print axioms Redka.ListRound.grid_le_grid
#print axioms Redka.ListRound.two_le_pow
#print axioms Redka.ListRound.no_repr_between
#print axioms Redka.ListRound.quot_facts
#print axioms Redka.ListRound.round53_pos_form
#print axioms Redka.ListRound.round53_neg
#print axioms Redka.ListRound.bracket
#print axioms Redka.ListRound.round53_ge_of_repr_le_pos
#print axioms Redka.ListRound.round53_le_of_repr_ge_pos
#print axioms Redka.ListRound.neg_le_neg_iff'
#print axioms Redka.ListRound.round53_ge_of_repr_le
#print axioms Redka.ListRound.round53_le_of_repr_ge
#print axioms Redka.ListRound.repr53_grid
#print axioms Redka.ListRound.repr53_round53
#print axioms Redka.ListRound.repr53_mid53
#print axioms Redka.ListRound.push_back_order
#print axioms Redka.ListRound.push_front_order
#print axioms Redka.ListRound.dyHalf_le_dyHalf
#print axioms Redka.ListRound.mid_order
#print axioms Redka.ListRound.pushRoom_of_repr
#print axioms Redka.ListRound.insertRoom_of_repr
#print axioms Redka.ListRound.repr53_pushPos
#print axioms Redka.ListRound.repr53_insertPos
#print axioms Redka.ListRound.listDeleteRows_repr
#print axioms Redka.ListRound.listPop_repr
#print axioms Redka.ListRound.listDelete_repr
#print axioms Redka.ListRound.listDeleteN_repr
#print axioms Redka.ListRound.listTrim_repr
#print axioms Redka.ListRound.listSet_repr
#print axioms Redka.ListRound.listPushKey_lists
#print axioms Redka.ListRound.listPush_repr
#print axioms Redka.ListRound.listInsert_repr
#print axioms Redka.ListRound.listPopBackPushFront_repr
