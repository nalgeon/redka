import RedkaModel.Props.C06ref

#print axioms Redka.Props.C06.classifiers_are_the_catalogue
#print axioms Redka.Props.C06.unjudged_is_undecided
#print axioms Redka.Props.C06.key_refines_wf
#print axioms Redka.Props.C06.key_refines_partial
#print axioms Redka.Props.C06.obs_is_id
#print axioms Redka.Props.C06.rename_onto_stale_refines
#print axioms Redka.Props.C06.deleteExpired_invisible
#print axioms Redka.Props.C06.deleteExpired_check
#print axioms Redka.Props.C06.deleteAll_in_tx_fails
#print axioms Redka.Props.C06.covered_all
#print axioms Redka.Props.C06.key_preserves_wf
#print axioms Redka.Props.C06.seq_step
#print axioms Redka.Props.C06.seq_preserves_wf
#print axioms Redka.Props.C06.keyspace_seq_refines
#print axioms Redka.Props.C06.keyspace_seq_refines_inv
#print axioms Redka.Props.C06.map_eq_error
#print axioms Redka.Props.C06.exists_iff_visible
#print axioms Redka.Props.C06.count_counts_visible
#print axioms Redka.Props.C06.len_counts_visible
#print axioms Redka.Props.C06.type_lookup
#print axioms Redka.Props.C06.type_lookup_missing
#print axioms Redka.Props.C06.random_is_visible
#print axioms Redka.Props.C06.random_notfound_only_when_empty
#print axioms Redka.Props.C06.random_check_rule
#print axioms Redka.Props.C06.delete_removes
#print axioms Redka.Props.C06.delete_then_fresh_key_starts_empty
#print axioms Redka.Props.C06.flush_leaves_nothing
#print axioms Redka.Props.C06.flush_empties_keyspace
#print axioms Redka.Props.C06.rename_moves
#print axioms Redka.Props.C06.rename_refuses_other_type
#print axioms Redka.Props.C06.renameNX_refuses_existing
#print axioms Redka.Props.C06.expireAt_sets_expiry
#print axioms Redka.Props.C06.persist_clears_expiry
#print axioms Redka.Props.C06.wrong_type_refused_notrace
#print axioms Redka.Props.C06.wrong_type_keyspace_unchanged
#print axioms Redka.Props.C06.len_counts_expired_deviates
#print axioms Redka.Props.C06.empty_name_rename_deviates
#print axioms Redka.Props.C06.bang_class_keys_deviates
#print axioms Redka.Props.C06.full_strength_is_false
#print axioms Redka.Props.C06.lenStale_is_needed
#print axioms Redka.Props.C06.bangClass_is_needed
#print axioms Redka.Props.C06.rename_onto_stale_example
#print axioms Redka.Props.C06.fk_off_deleted_elements_are_inherited
#print axioms Redka.Props.C06.fresh_key_starts_empty_needs_fk
#print axioms Redka.Model.abs_eq_map
#print axioms Redka.Model.kholder
#print axioms Redka.Model.count_abs
#print axioms Redka.Model.keyCount_refines
#print axioms Redka.Model.keyExists_refines
#print axioms Redka.Model.keyGet_refines
#print axioms Redka.Model.keyLen_refines
#print axioms Redka.Model.keyRandom_refines
#print axioms Redka.Model.keyKeys_refines
#print axioms Redka.Model.abs_retime
#print axioms Redka.Model.keyExpireAt_refines
#print axioms Redka.Model.keyPersist_refines
#print axioms Redka.Model.dkw_wf
#print axioms Redka.Model.get_abs_dkw
#print axioms Redka.Model.keyDelete_refines
#print axioms Redka.Model.keyDeleteAll_refines
#print axioms Redka.Model.findKey_moved
#print axioms Redka.Model.abs_moved
#print axioms Redka.Model.renameStmt_abs
#print axioms Redka.Model.keyRename_refines
#print axioms Redka.Model.keyRenameNX_refines
#print axioms Redka.Model.no_children_of_next_id
#print axioms Redka.Model.empty_of_no_keys
#print axioms Redka.Model.cross_type_single
