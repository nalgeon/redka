import RedkaModel.Props.C03ref

#print axioms Redka.Props.C03.classifiers_are_the_catalogue
#print axioms Redka.Props.C03.set_preserves_wf
#print axioms Redka.Props.C03.set_preserves_dbwf
#print axioms Redka.Props.C03.set_refines_wf
#print axioms Redka.Props.C03.set_refines_partial
#print axioms Redka.Props.C03.covered_is_everything
#print axioms Redka.Props.C03.set_seq_refines
#print axioms Redka.Props.C03.set_seq_refines_inv
#print axioms Redka.Props.C03.reads_agree
#print axioms Redka.Props.C03.missing_reads_empty
#print axioms Redka.Props.C03.add_reports_new
#print axioms Redka.Props.C03.remove_reports_removed
#print axioms Redka.Props.C03.union_is_union
#print axioms Redka.Props.C03.diff_is_diff
#print axioms Redka.Props.C03.inter_is_inter
#print axioms Redka.Props.C03.unionstore_holds_result
#print axioms Redka.Props.C03.diffstore_holds_result
#print axioms Redka.Props.C03.interstore_holds_result
#print axioms Redka.Props.C03.pop_removes_one
#print axioms Redka.Props.C03.move_transfers_one
#print axioms Redka.Props.C03.move_missing_member
#print axioms Redka.Props.C03.stale_add_deviates
#print axioms Redka.Props.C03.stale_othertype_deviates
#print axioms Redka.Props.C03.stale_store_unique_deviates
#print axioms Redka.Props.C03.repeated_inter_now_agrees
#print axioms Redka.Props.C03.repeated_interstore_now_agrees
#print axioms Redka.Props.C03.repeated_inter_disjoint_empty
#print axioms Redka.Props.C03.dest_is_source_deviates
#print axioms Redka.Props.C03.dest_is_source_diff_deviates
#print axioms Redka.Props.C03.full_strength_is_false
#print axioms Redka.Props.C03.stale_is_needed
#print axioms Redka.Props.C03.dest_is_source_is_needed

-- the per-method lemmas of the proof files the property theorems rest on
#print axioms Redka.Model.SetRef.SetWF.of_inv
#print axioms Redka.Model.SetRef.ssorted_ext
#print axioms Redka.Model.SetRef.abs_frame_put
#print axioms Redka.Model.SetRef.abs_frame_same
#print axioms Redka.Model.SetRef.setAddKey_new
#print axioms Redka.Model.SetRef.setAddKey_old
#print axioms Redka.Model.SetRef.setInsertRow_new
#print axioms Redka.Model.SetRef.setAddElems_spec
#print axioms Redka.Model.SetRef.setInsertAll_spec
#print axioms Redka.Model.SetRef.delRows_spec
#print axioms Redka.Model.SetRef.sholder
#print axioms Redka.Model.SetRef.setAt_abs
#print axioms Redka.Model.SetRef.setAdd_cases
#print axioms Redka.Model.SetRef.setAdd_refS
#print axioms Redka.Model.SetRef.setDelete_cases
#print axioms Redka.Model.SetRef.setDelete_refS
#print axioms Redka.Model.SetRef.setUnionRaw_eq
#print axioms Redka.Model.SetRef.setDiffRaw_eq
#print axioms Redka.Model.SetRef.setInterRaw_eq
#print axioms Redka.Model.SetRef.inter_count_any
#print axioms Redka.Model.SetRef.setStore_refS
#print axioms Redka.Model.SetRef.setStore_wf
#print axioms Redka.Model.SetRef.setPop_refS
#print axioms Redka.Model.SetRef.setMove_refS
#print axioms Redka.Model.SetRef.run_setInterStore
