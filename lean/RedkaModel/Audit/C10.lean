import RedkaModel.Props.C10

-- C10 (composition): the property theorems, the TTL rules, the boundary, the witnesses
#print axioms Redka.Props.C10x.cleaned_keys_exact
#print axioms Redka.Props.C10x.cleaned_abs
#print axioms Redka.Props.C10x.cleaned_abs_from
#print axioms Redka.Props.C10x.cleaned_inv
#print axioms Redka.Props.C10x.cleaned_fk_eq
#print axioms Redka.Props.C10x.cleaned_no_stale
#print axioms Redka.Props.C10x.cleaned_no_expired
#print axioms Redka.Props.C10x.cleaned_cleaned_keys
#print axioms Redka.Props.C10x.classifiers_transfer
#print axioms Redka.Props.C10x.spacious_transfers
#print axioms Redka.Props.C10x.staleness_classifiers_empty
#print axioms Redka.Props.C10x.expired_uncleaned_is_absent_str
#print axioms Redka.Props.C10x.expired_uncleaned_is_absent_list
#print axioms Redka.Props.C10x.expired_uncleaned_is_absent_set
#print axioms Redka.Props.C10x.expired_uncleaned_is_absent_hash
#print axioms Redka.Props.C10x.expired_uncleaned_is_absent_zset
#print axioms Redka.Props.C10x.expired_uncleaned_is_absent_key
#print axioms Redka.Props.C10x.readCovered_spec
#print axioms Redka.Props.C10x.expired_invisible_to_reads
#print axioms Redka.Props.C10x.obs_is_id_outside_keys
#print axioms Redka.Props.C10x.readSide_trivial
#print axioms Redka.Props.C10x.expired_invisible_to_key_reads
#print axioms Redka.Props.C10x.plain_set_clears_ttl
#print axioms Redka.Props.C10x.keepttl_preserves
#print axioms Redka.Props.C10x.incr_preserves_ttl
#print axioms Redka.Props.C10x.hash_incr_preserves_ttl
#print axioms Redka.Props.C10x.hash_incr_preserves_ttl_in_range
#print axioms Redka.Props.C10x.rename_carries_ttl
#print axioms Redka.Props.C10x.persist_clears_ttl
#print axioms Redka.Props.C10x.expire_sets_ttl
#print axioms Redka.Props.C10x.expire_relative_sets_ttl
#print axioms Redka.Props.C10x.before_expiry_key_is_present
#print axioms Redka.Props.C10x.persistent_key_is_present
#print axioms Redka.Props.C10x.at_expiry_key_is_gone
#print axioms Redka.Props.C10x.at_expiry_key_is_gone_cleaned
#print axioms Redka.Props.C10x.visible_iff_before_expiry
#print axioms Redka.Props.C10x.mixed_inv
#print axioms Redka.Props.C10x.mixed_fk
#print axioms Redka.Props.C10x.mixed_cleaned
#print axioms Redka.Props.C10x.mixed_abs
#print axioms Redka.Props.C10x.stale_write_distinguishes_cleaning
#print axioms Redka.Props.C10x.stale_write_is_lost
#print axioms Redka.Props.C10x.len_distinguishes_cleaning
#print axioms Redka.Props.C10x.full_strength_is_false

-- helpers (`Proofs/Expiry.lean` and the helper section of `Props/C10.lean`)
#print axioms Redka.ExpiryProofs.BothRefine.agree
#print axioms Redka.ExpiryProofs.writeKeys_read
#print axioms Redka.ExpiryProofs.stale_cleaned
#print axioms Redka.ExpiryProofs.str_overflow_transfers
#print axioms Redka.ExpiryProofs.hash_overflow_transfers
#print axioms Redka.ExpiryProofs.decided_transfers
#print axioms Redka.ExpiryProofs.emptyName_transfers
#print axioms Redka.ExpiryProofs.judged_transfers
#print axioms Redka.ExpiryProofs.lenStale_cleaned
#print axioms Redka.ExpiryProofs.str_both
#print axioms Redka.ExpiryProofs.spacious_transfers'
#print axioms Redka.ExpiryProofs.list_both
#print axioms Redka.ExpiryProofs.set_both
#print axioms Redka.ExpiryProofs.hash_both
#print axioms Redka.ExpiryProofs.zset_both
#print axioms Redka.ExpiryProofs.key_both
#print axioms Redka.ExpiryProofs.readSide_iff
#print axioms Redka.ExpiryProofs.reads_both
#print axioms Redka.ExpiryProofs.cleaned_keys
#print axioms Redka.ExpiryProofs.cleaned_fk
#print axioms Redka.ExpiryProofs.abs_cleaned
#print axioms Redka.ExpiryProofs.abs_cleaned_from
#print axioms Redka.ExpiryProofs.inv_cleaned
#print axioms Redka.ExpiryProofs.keyIdsUnique_cleaned
#print axioms Redka.ExpiryProofs.cleaned_all_live
#print axioms Redka.ExpiryProofs.liveRows_cleaned
#print axioms Redka.ExpiryProofs.staleKey_cleaned
#print axioms Redka.ExpiryProofs.stale_any_cleaned
#print axioms Redka.ExpiryProofs.no_expired_cleaned
#print axioms Redka.ExpiryProofs.liveKeyT_live
#print axioms Redka.ExpiryProofs.liveKey_cleaned
#print axioms Redka.ExpiryProofs.liveKeyT_cleaned
#print axioms Redka.ExpiryProofs.liveKeyT_mem
#print axioms Redka.ExpiryProofs.live_id_not_gone
#print axioms Redka.ExpiryProofs.strs_find_cleaned
#print axioms Redka.ExpiryProofs.lists_filter_cleaned
#print axioms Redka.ExpiryProofs.hashes_filter_cleaned
#print axioms Redka.ExpiryProofs.listRows_cleaned
#print axioms Redka.ExpiryProofs.strGetRaw_cleaned
#print axioms Redka.ExpiryProofs.hashGetRaw_cleaned
#print axioms Redka.ExpiryProofs.liveListLen_cleaned
#print axioms Redka.ExpiryProofs.pruned_cleaned
#print axioms Redka.ExpiryProofs.pushSpacious_eq
#print axioms Redka.ExpiryProofs.pushRoom_congr
#print axioms Redka.ExpiryProofs.Pruned.findKey_eq
#print axioms Redka.ExpiryProofs.Pruned.pushSpacious
#print axioms Redka.ExpiryProofs.filter_comm
#print axioms Redka.ExpiryProofs.touch_nextKeyId
#print axioms Redka.ExpiryProofs.Pruned.touch
#print axioms Redka.ExpiryProofs.staleKey_touch
#print axioms Redka.ExpiryProofs.listDeleteRows_touch
#print axioms Redka.ExpiryProofs.Pruned.deleteRows
#print axioms Redka.ExpiryProofs.staleKey_deleteRows
#print axioms Redka.ExpiryProofs.pushSpacious_cleaned
#print axioms Redka.ExpiryProofs.insertRoom_cleaned
#print axioms Redka.ExpiryProofs.popPushSpacious_cleaned
#print axioms Redka.ExpiryProofs.absVal_isSome
#print axioms Redka.ExpiryProofs.get_abs_of_mem
