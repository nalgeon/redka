import RedkaModel.Props.C02idx

#print axioms Redka.Props.C02.range_window_defined
#print axioms Redka.Props.C02.range_window_missing_key
#print axioms Redka.Props.C02.range_refines
#print axioms Redka.Props.C02.raw_range_limit_exact
#print axioms Redka.Props.C02.raw_range_limit_deviates
#print axioms Redka.Props.C02.raw_range_limit_deviates_neg
#print axioms Redka.Props.C02.range_now_agrees
#print axioms Redka.Props.C02.raw_slice_exact_region
#print axioms Redka.Props.C02.trim_refines
#print axioms Redka.Props.C02.trim_now_agrees
#print axioms Redka.Props.C02.range_eq_trim_window
#print axioms Redka.Props.C02.index_refines
#print axioms Redka.Props.C02.index_pos_refines
#print axioms Redka.Props.C02.set_refines
#print axioms Redka.Props.C02.index_is_listRowAt
#print axioms Redka.Props.C02.rank_slice_refines_partial
#print axioms Redka.Props.C02.rank_range_refines
#print axioms Redka.Props.C02.rank_delete_refines
#print axioms Redka.Props.C02.rank_delete_eq_rank_range
#print axioms Redka.Props.C02.raw_rank_limit_exact
#print axioms Redka.Props.C02.raw_rank_limit_deviates
#print axioms Redka.Props.C02.rank_delete_now_agrees
#print axioms Redka.Props.C02.offset_count_refines
#print axioms Redka.Props.C02.offset_count_refines'
#print axioms Redka.Props.C02.len_eq_full_range
#print axioms Redka.Props.C02.full_range_is_list

#print axioms Redka.Proofs.Index.sqlLimit_eq_take
#print axioms Redka.Proofs.Index.lrange_eq_clampSlice
#print axioms Redka.Proofs.Index.clampSlice_eq
#print axioms Redka.Proofs.Index.sqlLimit_eq_clampSlice
#print axioms Redka.Proofs.Index.raw_sqlLimit_eq_clampSlice_iff
#print axioms Redka.Proofs.Index.bound_some
#print axioms Redka.Proofs.Index.rangeWindow_some
#print axioms Redka.Proofs.Index.rangeWindow_some_ne_none
#print axioms Redka.Proofs.Index.rangeWindow_ne_none
#print axioms Redka.Proofs.Index.rangeWindow_nil
#print axioms Redka.Proofs.Index.modelTrimKeep_eq
#print axioms Redka.Proofs.Index.modelRange_eq
#print axioms Redka.Proofs.Index.trim_eq
#print axioms Redka.Proofs.Index.lrange_of_precheck
#print axioms Redka.Proofs.Index.range_eq
#print axioms Redka.Proofs.Index.modelIndex_eq_pos
#print axioms Redka.Proofs.Index.modelIndexPos_eq
#print axioms Redka.Proofs.Index.lindex_eq_bind
#print axioms Redka.Proofs.Index.lset_eq_map
#print axioms Redka.Proofs.Index.listRowAt_eq
#print axioms Redka.Proofs.Index.sqlLimit_eq_rankSlice_iff
