import RedkaModel.Props.C05ref

#print axioms Redka.Props.C05.classifiers_are_the_catalogue
#print axioms Redka.Props.C05.distinct_iff_nodup
#print axioms Redka.Props.C05.zset_refines_zwf
#print axioms Redka.Props.C05.zset_refines_partial
#print axioms Redka.Props.C05.covered_all
#print axioms Redka.Props.C05.zset_preserves_zwf
#print axioms Redka.Props.C05.zset_seq_refines
#print axioms Redka.Props.C05.zset_seq_refines_inv
#print axioms Redka.Props.C05.dbRun_zLen
#print axioms Redka.Props.C05.dbRun_zCount
#print axioms Redka.Props.C05.dbRun_zRangeRank
#print axioms Redka.Props.C05.dbRun_zRangeScore
#print axioms Redka.Props.C05.dbRun_zGetScore
#print axioms Redka.Props.C05.dbRun_zGetRank
#print axioms Redka.Props.C05.dbRun_zDeleteScore
#print axioms Redka.Props.C05.rankSlice_nil
#print axioms Redka.Props.C05.offsetCount_nil
#print axioms Redka.Props.C05.missing_key_reads_empty
#print axioms Redka.Props.C05.between_all
#print axioms Redka.Props.C05.len_is_number_of_members
#print axioms Redka.Props.C05.add_reports_created
#print axioms Redka.Props.C05.score_after_add
#print axioms Redka.Props.C05.score_lt_le_trans
#print axioms Redka.Props.C05.between_inverted
#print axioms Redka.Props.C05.inverted_score_range_selects_nothing
#print axioms Redka.Props.C05.inverted_rank_range_selects_nothing
#print axioms Redka.Props.C05.dbRun_zDeleteRank
#print axioms Redka.Props.C05.inverted_rank_delete_removes_nothing
#print axioms Redka.Props.C05.dbRun_zInter
#print axioms Redka.Props.C05.dbRun_zUnion
#print axioms Redka.Props.C05.combination_members_any_key_list
#print axioms Redka.Props.C05.stale_add_deviates
#print axioms Redka.Props.C05.repeated_key_now_agrees
#print axioms Redka.Props.C05.dest_is_source_deviates
#print axioms Redka.Props.C05.rank_inverted_now_agrees
#print axioms Redka.Props.C05.sum_order_deviates
#print axioms Redka.Props.C05.full_strength_is_false
#print axioms Redka.Props.C05.catalogue_alone_is_not_enough
#print axioms Redka.Props.C05.addmany_repeated_member
#print axioms Redka.Props.C05.union_repeated_key
#print axioms Redka.Props.C05.inter_repeated_key_sum
#print axioms Redka.Props.C05.nan_is_undecided

-- RedkaModel/Proofs/ZSetRef.lean
#print axioms Redka.ZSetRef.Score.lt_irrefl
#print axioms Redka.ZSetRef.Score.lt_trans
#print axioms Redka.ZSetRef.Score.lt_connected
#print axioms Redka.ZSetRef.Score.lt_asymm
#print axioms Redka.ZSetRef.Score.strictTotal
#print axioms Redka.ZSetRef.strictTotal_zLt
#print axioms Redka.ZSetRef.pairwise_unique
#print axioms Redka.ZSetRef.find?_eq_some_iff_of_unique
#print axioms Redka.ZSetRef.find?_congr_mem
#print axioms Redka.DB.Inv.zwf
#print axioms Redka.ZSetRef.absVal_zset
#print axioms Redka.ZSetRef.zKidRows_elems_nodup
#print axioms Redka.ZSetRef.sorted_zAssoc
#print axioms Redka.ZSetRef.mem_zAssoc
#print axioms Redka.ZSetRef.aget_zAssoc
#print axioms Redka.ZSetRef.length_zAssoc
#print axioms Redka.ZSetRef.zRows_proj
#print axioms Redka.ZSetRef.zsetAt_abs
#print axioms Redka.ZSetRef.zsorted_nil
#print axioms Redka.ZSetRef.zLiveRows_proj
#print axioms Redka.ZSetRef.sorted_zsetAt_abs
#print axioms Redka.ZSetRef.aget_map_zPair
#print axioms Redka.ZSetRef.aget_zsorted
#print axioms Redka.ZSetRef.aget_zsorted_reverse
#print axioms Redka.ZSetRef.indexOf?_proj
#print axioms Redka.ZSetRef.zItem_proj
#print axioms Redka.ZSetRef.rankSlice_map
#print axioms Redka.ZSetRef.offsetCount_map
#print axioms Redka.ZSetRef.filter_proj
#print axioms Redka.ZSetRef.read_refines
#print axioms Redka.ZSetRef.zCount_refines
#print axioms Redka.ZSetRef.zGetScore_refines
#print axioms Redka.ZSetRef.zGetRank_refines
#print axioms Redka.ZSetRef.zLen_refines
#print axioms Redka.ZSetRef.zRangeRank_refines
#print axioms Redka.ZSetRef.zRangeScore_refines

-- RedkaModel/Proofs/ZSetWrite.lean
#print axioms Redka.ZSetRef.metaOf_eq
#print axioms Redka.filterMap_congr_map
#print axioms Redka.mem_of_map_eq
#print axioms Redka.ZSetRef.names_of_core
#print axioms Redka.ZSetRef.ids_of_core
#print axioms Redka.ZSetRef.abs_core_congr
#print axioms Redka.ZSetRef.updKey_core
#print axioms Redka.ZSetRef.mem_updKey_keys
#print axioms Redka.ZSetRef.zwf_rows_update
#print axioms Redka.ZSetRef.abs_zrows
#print axioms Redka.Spec.get_put_self
#print axioms Redka.ZSetRef.zsetAt_put_self
#print axioms Redka.Spec.mem_aput_iff
#print axioms Redka.ZSetRef.zAddKey_eq
#print axioms Redka.ZSetRef.zKidRows_fresh
#print axioms Redka.ZSetRef.zAssoc_of_filter_nil
#print axioms Redka.ZSetRef.zwf_append_key
#print axioms Redka.ZSetRef.abs_append_key
#print axioms Redka.ZSetRef.zAddKey_new
#print axioms Redka.ZSetRef.zOldKey_meta
#print axioms Redka.ZSetRef.zwf_upsert_old
#print axioms Redka.ZSetRef.abs_upsert_old
#print axioms Redka.ZSetRef.mem_upsert_old
#print axioms Redka.ZSetRef.zInsertNew_eq
#print axioms Redka.ZSetRef.zSetRow_hit
#print axioms Redka.ZSetRef.zSetRow_miss
#print axioms Redka.ZSetRef.zHas_iff_zFind
#print axioms Redka.filter_map_fix
#print axioms Redka.ZSetRef.filter_kid_zBump
#print axioms Redka.ZSetRef.zCountOf_zBump
#print axioms Redka.ZSetRef.filter_kid_append_ne
#print axioms Redka.ZSetRef.zCountOf_append_self
#print axioms Redka.ZSetRef.zwf_zBump
#print axioms Redka.ZSetRef.zwf_zInsertNew
#print axioms Redka.ZSetRef.zwf_zSetRow
#print axioms Redka.ZSetRef.mem_zSetRow
#print axioms Redka.ZSetRef.zAssoc_zSetRow
#print axioms Redka.ZSetRef.abs_zSetRow
#print axioms Redka.ZSetRef.zholder
#print axioms Redka.ZSetRef.upsert_other
#print axioms Redka.ZSetRef.upsert_cases
#print axioms Redka.ZSetRef.aget_isSome_eq
#print axioms Redka.ZSetRef.count_created
#print axioms Redka.ZSetRef.zCountElems_eq
#print axioms Redka.ZSetRef.zsetAt_of_get
#print axioms Redka.ZSetRef.zsetAt_of_get_none
#print axioms Redka.ZSetRef.count_one_eq
#print axioms Redka.ZSetRef.zAdd_refines
#print axioms Redka.ZSetRef.zIncr_model
#print axioms Redka.ZSetRef.zIncr_refines
#print axioms Redka.ZSetRef.zAddMany_refines
#print axioms Redka.ZSetRef.zDeleteWhere_some
#print axioms Redka.ZSetRef.zDeleteWhere_none
#print axioms Redka.ZSetRef.zCount_split
#print axioms Redka.ZSetRef.zwf_delete
#print axioms Redka.ZSetRef.zDeleteWhere_refines
#print axioms Redka.ZSetRef.zDeleteWhere_wf
#print axioms Redka.ZSetRef.zRemove_congr
#print axioms Redka.ZSetRef.zRemove_nil
#print axioms Redka.ZSetRef.zDelete_refines
#print axioms Redka.ZSetRef.map_elem_proj
#print axioms Redka.ZSetRef.zDeleteRank_refines
#print axioms Redka.ZSetRef.zDeleteScore_refines
#print axioms Redka.ZSetRef.upsert_wf
#print axioms Redka.ZSetRef.zAddTx_wf
#print axioms Redka.ZSetRef.zAdd_wf
#print axioms Redka.ZSetRef.zAddManyLoop_wf
#print axioms Redka.ZSetRef.zAddMany_wf
#print axioms Redka.ZSetRef.zIncr_wf
#print axioms Redka.ZSetRef.zDelete_wf
#print axioms Redka.ZSetRef.zDeleteRank_wf
#print axioms Redka.ZSetRef.zDeleteScore_wf

-- RedkaModel/Proofs/ZSetComb.lean
#print axioms Redka.ZSetRef.filter_contains_perm
#print axioms Redka.ZSetRef.zKids_perm
#print axioms Redka.ZSetRef.zKids_nodup
#print axioms Redka.ZSetRef.elem_kids_nodup
#print axioms Redka.ZSetRef.scores_perm
#print axioms Redka.ZSetRef.aggScores_eq
#print axioms Redka.ZSetRef.min_rc
#print axioms Redka.ZSetRef.max_rc
#print axioms Redka.ZSetRef.score_add_comm
#print axioms Redka.ZSetRef.foldl_some
#print axioms Redka.ZSetRef.specFold_min
#print axioms Redka.ZSetRef.specFold_max
#print axioms Redka.ZSetRef.perm_pair
#print axioms Redka.ZSetRef.specFold_perm
#print axioms Redka.ZSetRef.agg_eq
#print axioms Redka.ZSetRef.mem_sfromList
#print axioms Redka.ZSetRef.sorted_sfromList
#print axioms Redka.ZSetRef.filterMap_length_eq_iff
#print axioms Redka.ZSetRef.sScores_ne_nil_iff
#print axioms Redka.ZSetRef.mem_sMembers
#print axioms Redka.ZSetRef.spec_zCombine_eq
#print axioms Redka.ZSetRef.spec_foldr_char
#print axioms Redka.ZSetRef.spec_zCombine_char
#print axioms Redka.ZSetRef.model_zCombine_eq
#print axioms Redka.ZSetRef.nullsFirst_withScore
#print axioms Redka.ZSetRef.length_mScores
#print axioms Redka.ZSetRef.mem_elems_iff
#print axioms Redka.ZSetRef.members_iff
#print axioms Redka.ZSetRef.dedup_cons
#print axioms Redka.ZSetRef.dedup_of_nodup
#print axioms Redka.ZSetRef.dedup_dedup
#print axioms Redka.ZSetRef.contains_dedup
#print axioms Redka.ZSetRef.zKids_dedup
#print axioms Redka.ZSetRef.cRows_dedup
#print axioms Redka.ZSetRef.model_zCombine_dedup
#print axioms Redka.ZSetRef.sScores_cons
#print axioms Redka.ZSetRef.mem_sScores
#print axioms Redka.ZSetRef.sScores_dedup_nil
#print axioms Redka.ZSetRef.foldl_absorb
#print axioms Redka.ZSetRef.foldl_sScores_dedup
#print axioms Redka.ZSetRef.min_idem
#print axioms Redka.ZSetRef.max_idem
#print axioms Redka.ZSetRef.specFold_dedup
#print axioms Redka.ZSetRef.mem_sMembers'
#print axioms Redka.ZSetRef.sMembers_dedup
#print axioms Redka.ZSetRef.spec_zCombine_dedup
#print axioms Redka.ZSetRef.spec_result_members
#print axioms Redka.ZSetRef.zCombine_match_nodup
#print axioms Redka.ZSetRef.zCombine_members
#print axioms Redka.ZSetRef.zCombineRun_members
#print axioms Redka.ZSetRef.zCombine_match
#print axioms Redka.ZSetRef.any_isNone_withScore
#print axioms Redka.ZSetRef.items_withScore
#print axioms Redka.ZSetRef.zCombineRun_refines
#print axioms Redka.ZSetRef.spec_zCombine_put
#print axioms Redka.ZSetRef.zDeleteAll_some
#print axioms Redka.ZSetRef.zDeleteAll_none
#print axioms Redka.ZSetRef.zDeleteAll_zwf
#print axioms Redka.ZSetRef.foldl_aput_zsorted
#print axioms Redka.ZSetRef.sorted_spec_result
#print axioms Redka.ZSetRef.length_zsorted
#print axioms Redka.ZSetRef.zCombineStore_refines
#print axioms Redka.ZSetRef.zInsertAll_wf
#print axioms Redka.ZSetRef.zCombineStore_wf
