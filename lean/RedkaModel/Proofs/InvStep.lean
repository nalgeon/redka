/-
  C11 — assembly: every repository method (`Model.tx`, `Model.dbRun`) preserves the invariant,
  except the one narrow Tx-level case classified by `KnownC11` (`tx_wf`, `tx_not_wf`, `dbRun_wf`,
  `run_wf`), and none touches the connection flag `foreign_keys` (`tx_fk`, `dbRun_fk`).  Then the
  owner clause alone under the deleting statements (`ownersOk_*`: orphans need `foreign_keys = off`)
  and the databases `sample`, `collide`, `sampleOff` used by the witnesses of `Props/C11.lean`.
-/
import RedkaModel.Proofs.InvKey
import RedkaModel.Proofs.InvStr
import RedkaModel.Proofs.InvSet
import RedkaModel.Proofs.InvHash
import RedkaModel.Proofs.InvZSet
import RedkaModel.Proofs.InvList
import RedkaModel.Proofs.InvFk
import RedkaModel.Proofs.NoTrace

namespace Redka.Props.C11

open Redka Redka.Model Redka.InvP Redka.Dispatch

/-- the constructors of `Op` for which preservation is proved: all of them -/
def Covered : Op → Bool
  | _ => true

/-- `UNIQUE constraint failed: rlist.kid, rlist.pos` -/
def isSqlUnique : Out → Bool
  | .error .sqlUnique => true
  | _ => false

/-- the error of a result, if any (`Out` itself has no decidable equality) -/
def errOf : Out → Option Err
  | .error e => some e
  | .ok _ => none

instance (db : DB) : Decidable db.Inv := inferInstanceAs (Decidable (db.invB = true))

/-- the methods that run `sqlPush` (bump the key row) before the row insert -/
def isPush : Op → Bool
  | .listPushBack .. | .listPushFront .. | .listPopBackPushFront .. => true
  | _ => false

/-- The narrowest classifier of the cases in which the step does NOT preserve the invariant:
inside a caller-managed transaction (`inTx`), a list push whose computed position collides with a
stored one — the `Tx` method returns the UNIQUE error after `sqlPush` has already added one to
`len`, and a caller that ignores the error commits that. At the `DB` level (`inTx = false`) the
wrapper rolls back: nothing is classified. -/
def KnownC11 (inTx : Bool) (op : Op) (now : Int) (db : DB) : Bool :=
  inTx && isPush op && isSqlUnique (Model.tx true op now db).out

/-- the methods whose statements rely on `ON DELETE CASCADE` (everything else never looks at the
`foreign_keys` flag) -/
def usesCascade : Op → Bool
  | .keyDelete _ | .keyDeleteAll | .keyDeleteExpired _ | .keyRename .. | .keyRenameNX .. => true
  | _ => false

theorem isSqlUnique_false {o : Out} (h : isSqlUnique o = false) : o ≠ .error .sqlUnique := by
  intro e; rw [e] at h; cases h

/-- the `Tx` method, partial effects of a failing call included -/
theorem tx_wf (b : Bool) (op : Op) (now : Int) (db : DB) (h : WF db)
    (hfk : usesCascade op = true → db.fk = true)
    (hk : (isPush op && isSqlUnique (Model.tx b op now db).out) = false) :
    WF (Model.tx b op now db).db := by
  cases op with
  | strIncr k d => exact strIncr_wf h k d now
  | strIncrFloat k d => exact strIncrFloat_wf h k d now
  | strSet k v => exact strSet_wf h k v none now
  | strSetExpires k v ttl => exact strSetExpires_wf h k v ttl now
  | strSetMany items => exact strSetMany_wf items now h
  | strSetWith k v o => exact strSetWith_wf h k v o now
  | keyDelete ks => exact keyDelete_wf h (hfk rfl) ks now
  | keyDeleteAll => exact keyDeleteAll_wf h (hfk rfl) b
  | keyDeleteExpired n => exact keyDeleteExpired_wf h (hfk rfl) n now
  | keyExpire k ttl => exact keyExpire_wf h k ttl now
  | keyExpireAt k t => exact keyExpireAt_wf h k t now
  | keyPersist k => exact keyPersist_wf h k now
  | keyRename k nk => exact keyRename_wf h (hfk rfl) k nk now
  | keyRenameNX k nk => exact keyRenameNX_wf h (hfk rfl) k nk now
  | listDelete k e => exact listDelete_wf h k e now
  | listDeleteBack k e n => exact listDeleteN_wf h k e n true now
  | listDeleteFront k e n => exact listDeleteN_wf h k e n false now
  | listInsertAfter k p e => exact listInsert_wf h k p e true now
  | listInsertBefore k p e => exact listInsert_wf h k p e false now
  | listPopBack k => exact listPop_wf h k false now
  | listPopFront k => exact listPop_wf h k true now
  | listPopBackPushFront s d =>
    exact listPopBackPushFront_wf h s d now (isSqlUnique_false hk)
  | listPushBack k e =>
    exact listPush_wf h k e false now (isSqlUnique_false hk)
  | listPushFront k e =>
    exact listPush_wf h k e true now (isSqlUnique_false hk)
  | listSet k i e => exact listSet_wf h k i e now
  | listTrim k a b => exact listTrim_wf h k a b now
  | setAdd k es => exact setAdd_wf h k es now
  | setDelete k es => exact setDelete_wf h k es now
  | setDiffStore d ks => exact setDiffStore_wf h d ks now
  | setInterStore d ks => exact setInterStore_wf h d ks now
  | setUnionStore d ks => exact setUnionStore_wf h d ks now
  | setMove s d e => exact setMove_wf h s d e now
  | setPop k o => exact setPop_wf h k o now
  | hashDelete k fs => exact hashDelete_wf h k fs now
  | hashIncr k f d => exact hashIncr_wf h k f d now
  | hashIncrFloat k f d => exact hashIncrFloat_wf h k f d now
  | hashSet k f v => exact hashSet_wf h k f v now
  | hashSetMany k items => exact hashSetMany_wf h k items now
  | hashSetNotExists k f v => exact hashSetNotExists_wf h k f v now
  | zAdd k e s => exact zAdd_wf h k e s now
  | zAddMany k items => exact zAddMany_wf h k items now
  | zDelete k es => exact zDelete_wf h k es now
  | zDeleteRank k a b => exact zDeleteRank_wf h k a b now
  | zDeleteScore k lo hi => exact zDeleteScore_wf h k lo hi now
  | zIncr k e d => exact zIncr_wf h k e d now
  | zInterStore d ks agg => exact zCombineStore_wf h d ks agg true now
  | zUnionStore d ks agg => exact zCombineStore_wf h d ks agg false now
  | _ => rw [Proofs.NoTrace.read_notrace b _ now db rfl]; exact h

/-- a colliding push does break the invariant: the classifier is exact -/
theorem tx_not_wf (op : Op) (now : Int) (db : DB) (h : WF db)
    (hk : (isPush op && isSqlUnique (Model.tx true op now db).out) = true) :
    ¬ WF (Model.tx true op now db).db := by
  have unique : ∀ {o : Out}, isSqlUnique o = true → o = .error .sqlUnique := by
    intro o ho
    unfold isSqlUnique at ho
    split at ho
    · rfl
    · cases ho
  cases op with
  | listPopBackPushFront s d => exact listPopBackPushFront_breaks h s d now (unique hk)
  | listPushBack k e => exact listPush_breaks h k e false now (unique hk)
  | listPushFront k e => exact listPush_breaks h k e true now (unique hk)
  | _ => cases hk

/-! ### `foreign_keys` is never touched -/

theorem tx_fk (b : Bool) (op : Op) (now : Int) (db : DB) : (Model.tx b op now db).db.fk = db.fk := by
  cases op with
  | strIncr k d => exact strIncr_fk db k d now
  | strIncrFloat k d => exact strIncrFloat_fk db k d now
  | strSet k v => exact strSet_fk db k v none now
  | strSetExpires k v ttl => exact strSet_fk db k v _ now
  | strSetMany items => exact strSetMany_fk items now db
  | strSetWith k v o => exact strSetWith_fk db k v o now
  | keyDelete ks => exact keyDelete_fk db ks now
  | keyDeleteAll => exact keyDeleteAll_fk db b
  | keyDeleteExpired n => exact keyDeleteExpired_fk db n now
  | keyExpire k ttl => exact keyExpireAt_fk db k _ now
  | keyExpireAt k t => exact keyExpireAt_fk db k t now
  | keyPersist k => exact keyPersist_fk db k now
  | keyRename k nk => exact keyRename_fk db k nk now
  | keyRenameNX k nk => exact keyRenameNX_fk db k nk now
  | listDelete k e => exact listDelete_fk db k e now
  | listDeleteBack k e n => exact listDeleteN_fk db k e n true now
  | listDeleteFront k e n => exact listDeleteN_fk db k e n false now
  | listInsertAfter k p e => exact listInsert_fk db k p e true now
  | listInsertBefore k p e => exact listInsert_fk db k p e false now
  | listPopBack k => exact listPop_fk db k false now
  | listPopFront k => exact listPop_fk db k true now
  | listPopBackPushFront s d => exact listPopBackPushFront_fk db s d now
  | listPushBack k e => exact listPush_fk db k e false now
  | listPushFront k e => exact listPush_fk db k e true now
  | listSet k i e => exact listSet_fk db k i e now
  | listTrim k a b => exact listTrim_fk db k a b now
  | setAdd k es => exact setAdd_fk db k es now
  | setDelete k es => exact setDelete_fk db k es now
  | setDiffStore d ks => exact setStore_fk db d ks now _
  | setInterStore d ks => exact setStore_fk db d ks now _
  | setUnionStore d ks => exact setStore_fk db d ks now _
  | setMove s d e => exact setMove_fk db s d e now
  | setPop k o => exact setPop_fk db k o now
  | hashDelete k fs => exact hashDelete_fk db k fs now
  | hashIncr k f d => exact hashIncr_fk db k f d now
  | hashIncrFloat k f d => exact hashIncrFloat_fk db k f d now
  | hashSet k f v => exact hashSet_fk db k f v now
  | hashSetMany k items => exact hashSetMany_fk db k items now
  | hashSetNotExists k f v => exact hashSetNotExists_fk db k f v now
  | zAdd k e s => exact zAdd_fk db k e s now
  | zAddMany k items => exact zAddMany_fk db k items now
  | zDelete k es => exact zDeleteWhere_fk db k es now
  | zDeleteRank k a b => exact zDeleteRank_fk db k a b now
  | zDeleteScore k lo hi => exact zDeleteWhere_fk db k _ now
  | zIncr k e d => exact zIncr_fk db k e d now
  | zInterStore d ks agg => exact zCombineStore_fk db d ks agg true now
  | zUnionStore d ks agg => exact zCombineStore_fk db d ks agg false now
  | _ => exact congrArg DB.fk (Proofs.NoTrace.read_notrace b _ now db rfl)

theorem isPush_update {op : Op} (h : isPush op = true) : wrapOf op = .update := by
  cases op <;> first | rfl | cases h

theorem dbRun_wf (op : Op) (now : Int) (db : DB) (h : WF db) (hfk : db.fk = true) :
    WF (Model.dbRun op now db).db := by
  refine dbRun_cases (P := fun r => WF r.db) op now db (fun _ v ho => ?_) (fun _ _ _ => h) (fun hw => ?_)
  · exact tx_wf true op now db h (fun _ => hfk) (by rw [ho]; exact Bool.and_false _)
  · refine tx_wf false op now db h (fun _ => hfk) ?_
    cases hp : isPush op
    · rfl
    · exact absurd (isPush_update hp) hw

theorem dbRun_fk (op : Op) (now : Int) (db : DB) : (Model.dbRun op now db).db.fk = db.fk :=
  dbRun_cases (P := fun r => r.db.fk = db.fk) op now db (fun _ _ _ => tx_fk true op now db)
    (fun _ _ _ => rfl) (fun _ => tx_fk false op now db)

/-- the empty database, `foreign_keys = on` -/
def init : DB := {}

/-- a history of `DB`-level calls, each with its clock value -/
def run (ops : List (Op × Int)) (db : DB) : DB :=
  ops.foldl (fun d p => (Model.dbRun p.1 p.2 d).db) db

/-- no step of the history is in the classified set (at the `DB` level the set is empty) -/
def NoKnown : List (Op × Int) → DB → Prop
  | [], _ => True
  | p :: ps, db => KnownC11 false p.1 p.2 db = false ∧ NoKnown ps (Model.dbRun p.1 p.2 db).db

theorem run_wf (ops : List (Op × Int)) : ∀ db : DB, WF db → db.fk = true →
    WF (run ops db) ∧ (run ops db).fk = true := by
  induction ops with
  | nil => intro db h hfk; exact ⟨h, hfk⟩
  | cons p ps ih =>
    intro db h hfk
    exact ih _ (dbRun_wf p.1 p.2 db h hfk) ((dbRun_fk p.1 p.2 db).trans hfk)

/-! ### orphans need `foreign_keys = off` (the D14 mechanism) -/

/-- With the cascade on, deleting key rows never orphans a child row — this needs nothing but the
owner clause itself (no uniqueness of ids). -/
theorem ownersOk_deleteKeysWhere (db : DB) (hfk : db.fk = true) (p : KeyRow → Bool)
    (h : db.ownersOk = true) : (db.deleteKeysWhere p).1.ownersOk = true := by
  rw [ownersOk_iff] at h ⊢
  simp only [DB.deleteKeysWhere, DB.cascade, hfk, if_true]
  exact ⟨owners_deleteKeysWhere rfl h.1, owners_deleteKeysWhere rfl h.2.1,
    owners_deleteKeysWhere rfl h.2.2.1, owners_deleteKeysWhere rfl h.2.2.2.1,
    owners_deleteKeysWhere rfl h.2.2.2.2⟩

theorem ownersOk_updKey (db : DB) (id : Int) (f : KeyRow → KeyRow)
    (hf : ∀ r, (f r).id = r.id ∧ (f r).ty = r.ty) (h : db.ownersOk = true) :
    (db.updKey id f).ownersOk = true := by
  rw [ownersOk_iff] at h ⊢
  obtain ⟨h1, h2, h3, h4, h5⟩ := h
  exact ⟨fun x hx => (h1 x hx).updKey id f hf, fun x hx => (h2 x hx).updKey id f hf,
    fun x hx => (h3 x hx).updKey id f hf, fun x hx => (h4 x hx).updKey id f hf,
    fun x hx => (h5 x hx).updKey id f hf⟩

theorem ownersOk_renameStmt (db : DB) (hfk : db.fk = true) (k nk : Bytes) (now : Int)
    (h : db.ownersOk = true) : (renameStmt db k nk now).ownersOk = true := by
  unfold renameStmt
  split
  · exact h
  · rename_i r _
    show (DB.updKey (db.deleteKeysWhere (fun x => x.key == nk && x.id != r.id)).1 r.id _).ownersOk = true
    exact ownersOk_updKey _ _ _ (fun _ => ⟨rfl, rfl⟩) (ownersOk_deleteKeysWhere db hfk _ h)

/-! ### concrete databases for the witnesses and non-vacuity examples of `Props/C11.lean` -/

/-- a string key, a two-element list and a two-member set -/
def sample : DB :=
  { keys := [
      { id := 1, key := [115], ty := 1, version := 1, etime := none, mtime := 0, len := none },
      { id := 2, key := [108], ty := 2, version := 2, etime := none, mtime := 0, len := some 2 },
      { id := 3, key := [116], ty := 3, version := 1, etime := some 50, mtime := 0, len := some 2 }],
    strs := [{ kid := 1, value := [118] }],
    lists := [{ kid := 2, pos := 0, elem := [97] }, { kid := 2, pos := 1, elem := [98] }],
    sets := [{ rowid := 1, kid := 3, elem := [120] }, { rowid := 2, kid := 3, elem := [121] }] }

/-- a list whose last position is 2^53: `pos + 1` rounds back onto it -/
def collide : DB :=
  { keys := [{ id := 1, key := [108], ty := 2, version := 1, etime := none, mtime := 0, len := some 1 }],
    lists := [{ kid := 1, pos := 9007199254740992, elem := [97] }] }

/-- `sample` on a replaced connection (`foreign_keys = off`) -/
def sampleOff : DB := { sample with fk := false }

end Redka.Props.C11
