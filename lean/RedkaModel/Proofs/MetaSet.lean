/-
  C19 — the set repository (non-storing methods): every `Tx` method is an `Eff` step.
-/
import RedkaModel.Proofs.MetaEff
import RedkaModel.Proofs.InvSet

namespace Redka.MetaProofs

open Redka Redka.Model Redka.InvP

variable {db : DB}

theorem setInsertRow_touch {kid : Int} {e : Bytes} {db' : DB} (h : setInsertRow db kid e = some db') :
    Touch kid db db' := by
  unfold setInsertRow at h
  split at h
  · cases h
  · simp only [Option.some.injEq] at h
    subst h
    refine (Touch.setSets kid db _ (fun i hi => ?_)).trans (Touch.updLen kid _ _ (fun _ => rfl))
    exact (filter_kid_append_other (·.kid) db.sets
      ({ rowid := db.nextSetRowid, kid := kid, elem := e } : SetRow) (i := i)
      (fun (e : kid = i) => hi e.symm)).symm

theorem setAddElems_touch {kid : Int} (es : List Bytes) :
    ∀ {db : DB} (n : Int), Touch kid db (setAddElems db kid es n).1 := by
  induction es with
  | nil => intro db n; exact Touch.refl _ _
  | cons e es ih =>
    intro db n
    unfold setAddElems
    split
    · exact ih n
    · rename_i db' he
      exact (setInsertRow_touch he).trans (ih (n + 1))

theorem setAdd_eff (k : Bytes) (es : List Bytes) (now : Int) :
    Eff now db (setAdd db k es now).db ∧ Keep db (setAdd db k es now).db := by
  unfold setAdd
  cases he : setAddKey db k now with
  | error e => exact ⟨Eff.refl _ _, Keep.refl _⟩
  | ok p =>
    obtain ⟨db1, r⟩ := p
    exact eff_upsert_touch he (fun _ => ⟨rfl, rfl, rfl⟩)
      (isBump_succ now)
      (setAddElems_touch es 0)

/-- `sqlDelete1` + `sqlDelete2`: remove rows of the live set `k`, then update its key row -/
theorem setRemoveLive_eff {k : Bytes} {now : Int} {r : KeyRow} (hl : db.liveKeyT k TSet now = some r)
    (q : SetRow → Bool) (n : Int) :
    let db1 : DB := { db with sets := db.sets.filter (fun x => !(x.kid == r.id && q x)) }
    Eff now db (setUpdKeyAfterDelete db1 k n now) ∧ Keep db (setUpdKeyAfterDelete db1 k n now) := by
  intro db1
  have hl1 : db1.liveKeyT k TSet now = some r := hl
  unfold setUpdKeyAfterDelete
  rw [hl1]
  refine eff_touch_updKey (Touch.setSets r.id db _ (fun i hi => ?_))
    (isBump_succ now)
  refine (filter_kid_filter_other (·.kid) _ db.sets i (fun x _ hx => ?_)).symm
  have : (x.kid == r.id) = false := by simpa [hx] using hi
  simp [this]

theorem setDelete_eff (k : Bytes) (es : List Bytes) (now : Int) :
    Eff now db (setDelete db k es now).db ∧ Keep db (setDelete db k es now).db := by
  unfold setDelete
  split
  · exact ⟨Eff.refl _ _, Keep.refl _⟩
  · rename_i r hl
    simp only
    split
    · exact ⟨Eff.refl _ _, Keep.refl _⟩
    · exact setRemoveLive_eff hl (fun x => es.contains x.elem) _

theorem setPop_eff (k : Bytes) (oracle : Option Bytes) (now : Int) :
    Eff now db (setPop db k oracle now).db := by
  unfold setPop
  split
  · split <;> exact Eff.refl _ _
  · rename_i r hl
    simp only
    split
    · split <;> exact Eff.refl _ _
    · rename_i e
      split
      · exact (setRemoveLive_eff hl (fun x => x.elem == e) 1).1
      · exact Eff.refl _ _

theorem setMove_eff (h : WF db) (s d e : Bytes) (now : Int) : Eff now db (setMove db s d e now).db := by
  unfold setMove
  have h1 := setDelete_eff (db := db) s [e] now
  have hw := setDelete_wf h s [e] now
  generalize setDelete db s [e] now = r at h1 hw
  simp only
  split
  · exact h1.1
  · split
    · exact h1.1
    · have h2 := setAdd_eff (db := r.db) d [e] now
      split <;> exact h1.1.trans h1.2 h2.1
  · exact h1.1

end Redka.MetaProofs
