/-
  C19 — the key repository: deletions and renames are `Eff` steps, the expiry commands are
  `ExpStep`s (version bumped, modification time kept, value untouched).
-/
import RedkaModel.Proofs.MetaEff
import RedkaModel.Proofs.InvKey

namespace Redka.MetaProofs

open Redka Redka.Model Redka.InvP

variable {db : DB}

/-- `delete from rkey where p` (cascade on or off): the surviving rows and their children are
exactly as before -/
theorem deleteKeysWhere_sub {δ : Int → Int} (h : WFd δ db) (p : KeyRow → Bool) :
    ∀ r' ∈ (db.deleteKeysWhere p).1.keys, r' ∈ db.keys ∧ p r' = false ∧
      ChildEq db (db.deleteKeysWhere p).1 r'.id := by
  intro r' hr'
  rw [deleteKeysWhere_keys] at hr'
  obtain ⟨hr, hp⟩ := List.mem_filter.1 hr'
  have hp : p r' = false := by simpa using hp
  refine ⟨hr, hp, ?_⟩
  unfold DB.deleteKeysWhere DB.cascade
  cases db.fk
  · exact ChildEq.of_tables rfl rfl rfl rfl rfl
  · have hc : ((db.keys.filter p).map (·.id)).contains r'.id = false := by
      rw [contains_deleted_ids h p hr, hp]
    have keepc : ∀ {α} (kidf : α → Int) (l : List α),
        l.filter (fun x => kidf x == r'.id) =
        (l.filter (fun x => !((db.keys.filter p).map (·.id)).contains (kidf x))).filter
          (fun x => kidf x == r'.id) := by
      intro α kidf l
      refine (filter_kid_filter_other kidf _ l r'.id (fun x _ e => ?_)).symm
      rw [e, hc]; rfl
    exact ⟨keepc (·.kid) db.strs, keepc (·.kid) db.lists, keepc (·.kid) db.sets,
      keepc (·.kid) db.hashes, keepc (·.kid) db.zsets⟩

theorem deleteKeysWhere_eff {δ : Int → Int} (h : WFd δ db) (p : KeyRow → Bool) (now : Int) :
    Eff now db (db.deleteKeysWhere p).1 := fun r' hr' =>
  .inl ⟨(deleteKeysWhere_sub h p r' hr').1, (deleteKeysWhere_sub h p r' hr').2.2⟩

theorem keyDelete_eff (h : WF db) (ks : List Bytes) (now : Int) :
    Eff now db (keyDelete db ks now).db := deleteKeysWhere_eff h _ now

theorem keyDeleteAll_eff (h : WF db) (inTx : Bool) (now : Int) :
    Eff now db (keyDeleteAll db inTx).db := by
  unfold keyDeleteAll
  cases inTx <;> exact deleteKeysWhere_eff h _ now

theorem keyDeleteExpired_eff (h : WF db) (n now : Int) :
    Eff now db (keyDeleteExpired db n now).db := deleteKeysWhere_eff h _ now

theorem renameStmt_eff (h : WF db) (k nk : Bytes) (now : Int) :
    Eff now db (renameStmt db k nk now) := by
  unfold renameStmt
  split
  · exact Eff.refl _ _
  · rename_i r hlk
    show Eff now db (DB.updKey (db.deleteKeysWhere (fun x => x.key == nk && x.id != r.id)).1 r.id _)
    have hsub := deleteKeysWhere_sub h (fun x => x.key == nk && x.id != r.id)
    generalize (db.deleteKeysWhere (fun x => x.key == nk && x.id != r.id)).1 = db1 at hsub
    intro r'' hr''
    obtain ⟨r', hr', ⟨hi, e⟩ | ⟨hi, e⟩⟩ := mem_updKey hr''
    · obtain ⟨ha, _, _⟩ := hsub r' hr'
      refine .inr ⟨by rw [e], .inl ⟨r', ha, by rw [e], by rw [e], by rw [e]; show r'.version < r'.version + 1; omega⟩⟩
    · obtain ⟨ha, _, hc⟩ := hsub r' hr'
      subst e
      exact .inl ⟨ha, hc.trans (ChildEq.of_tables rfl rfl rfl rfl rfl)⟩

theorem keyRename_eff (h : WF db) (k nk : Bytes) (now : Int) :
    Eff now db (keyRename db k nk now).db :=
  keyRename_db (Eff.refl _ _) (renameStmt_eff h k nk now)

theorem keyRenameNX_eff (h : WF db) (k nk : Bytes) (now : Int) :
    Eff now db (keyRenameNX db k nk now).db :=
  keyRenameNX_db (Eff.refl _ _) (renameStmt_eff h k nk now)

/-- every row is a row of the pre-state, possibly with a larger version and another expiry;
no child table changes -/
structure ExpStep (a b : DB) : Prop where
  keys : ∀ r' ∈ b.keys, ∃ r ∈ a.keys,
    r' = r ∨ (r' = { r with version := r'.version, etime := r'.etime } ∧ r.version < r'.version)
  child : ∀ i, ChildEq a b i

theorem ExpStep.refl (a : DB) : ExpStep a a :=
  ⟨fun r hr => ⟨r, hr, .inl rfl⟩, fun i => ChildEq.refl a i⟩

theorem ExpStep.mono {now : Int} {a b : DB} (h : ExpStep a b) (hm : MonoClock now a) :
    MonoClock now b := by
  intro r' hr'
  obtain ⟨r, hr, e | ⟨e, _⟩⟩ := h.keys r' hr'
  · rw [e]; exact hm r hr
  · rw [e]; exact hm r hr

theorem ExpStep.plain {now : Int} {a b : DB} (h : ExpStep a b)
    (hu : a.keys.Pairwise (fun x y => x.id ≠ y.id)) :
    ∀ r' ∈ b.keys, PlainRowM now a b r' := by
  intro r' hr'
  unfold PlainRowM
  obtain ⟨r, hr, e | ⟨e, hv⟩⟩ := h.keys r' hr'
  · subst e
    rw [rowAt_of_mem hu hr]
    have : Spec.absVal a r' = Spec.absVal b r' := absVal_congr (h.child _)
    exact ⟨Int.le_refl _, fun _ => Int.le_refl _, rfl,
      fun h => by rcases h with h | h <;> exact absurd (by first | exact this | rfl) h,
      fun h => absurd this h⟩
  · have hid : r'.id = r.id := by rw [e]
    have hkey : r'.key = r.key := by rw [e]
    have hty : r'.ty = r.ty := by rw [e]
    have hmt : r'.mtime = r.mtime := by rw [e]
    rw [hid, hkey, rowAt_of_mem hu hr]
    have : Spec.absVal a r = Spec.absVal b r' :=
      (absVal_congr (h.child _)).trans (absVal_row hid hty).symm
    exact ⟨by omega, fun _ => by omega, hty.symm, fun _ => hv, fun h => absurd this h⟩

theorem expUpd_step (i : Int) (f : KeyRow → KeyRow)
    (hf : ∀ o, f o = { o with version := (f o).version, etime := (f o).etime } ∧
      o.version < (f o).version) : ExpStep db (db.updKey i f) := by
  refine ⟨fun r' hr' => ?_, fun i => ChildEq.of_tables rfl rfl rfl rfl rfl⟩
  obtain ⟨r, hr, ⟨_, e⟩ | ⟨_, e⟩⟩ := mem_updKey hr'
  · refine ⟨r, hr, .inr ?_⟩
    rw [e]; exact hf r
  · exact ⟨r, hr, .inl e⟩

theorem keyExpireAt_step (k : Bytes) (at_ now : Int) : ExpStep db (keyExpireAt db k at_ now).db := by
  unfold keyExpireAt
  split
  · exact ExpStep.refl _
  · exact expUpd_step _ _ (fun o => ⟨rfl, by show o.version < o.version + 1; omega⟩)

theorem keyExpire_step (k : Bytes) (ttl now : Int) : ExpStep db (keyExpire db k ttl now).db :=
  keyExpireAt_step k _ now

theorem keyPersist_step (k : Bytes) (now : Int) : ExpStep db (keyPersist db k now).db := by
  unfold keyPersist
  split
  · exact ExpStep.refl _
  · exact expUpd_step _ _ (fun o => ⟨rfl, by show o.version < o.version + 1; omega⟩)

end Redka.MetaProofs
