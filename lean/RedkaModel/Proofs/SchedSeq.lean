/-
  Sequential behaviour used by the corollaries of C08: a run of integer increments of one name adds
  up (whatever the order), and a one-element list / set gives its element to one popper only.
-/
import RedkaModel.Proofs.Sched
import RedkaModel.Proofs.Str
import RedkaModel.Props.C17

namespace Redka.Proofs.Sched

open Redka Redka.Model Redka.Spec Redka.Sched

/-- `k` is a counter standing at `n`: the name is not stored at all (and `n = 0`), or it holds the
text of `n` and never expires. (Tables well-formed in the sense of `DB.WF`, which C11's invariant
implies.) -/
def Counter (db : DB) (k : Bytes) (n : Int) : Prop :=
  db.WF ∧ ((db.findKey k = none ∧ n = 0) ∨
    ∃ b now, valueInt b = some n ∧ get (abs now db) k = some ⟨.str b, none⟩)

/-- a name without expiry looks the same at every clock value -/
theorem get_abs_any_now {db : DB} (hn : (db.keys.map (·.key)).Nodup) {now : Int} {k : Bytes} {v : SVal}
    (h : get (abs now db) k = some ⟨v, none⟩) (now' : Int) :
    get (abs now' db) k = some ⟨v, none⟩ := by
  rw [get_abs hn] at h ⊢
  cases hf : db.findKey k with
  | none => simp [hf] at h
  | some r =>
    rw [hf] at h
    simp only [Option.bind_some] at h ⊢
    obtain ⟨_, he, hv⟩ := rowEntry_live h
    unfold rowEntry
    have : r.live now' = true := by unfold KeyRow.live; rw [← he]; rfl
    rw [this, hv, ← he]; rfl

theorem inInt64_iff {i : Int} : inInt64 i = true ↔ minInt64 ≤ i ∧ i ≤ maxInt64 := by
  simp [inInt64]

theorem strGetRaw_absent {db : DB} {k : Bytes} (hw : db.WF) (hf : db.findKey k = none) (now : Int) :
    strGetRaw db k now = none := by
  rcases holder hw now k with ⟨_, _, hr⟩ | ⟨_, h, _, _, _⟩ | ⟨_, _, h, _, _, _, _⟩ | ⟨_, _, h, _, _, _, _, _⟩
  · exact hr
  all_goals (rw [hf] at h; cases h)

/-- one increment of a counter, inside int64: returns the sum and leaves a counter standing at it -/
theorem counter_incr {db : DB} {k : Bytes} {n : Int} (hc : Counter db k n) (d now : Int)
    (hd : inInt64 d = true) (hnd : inInt64 (n + d) = true) :
    (Model.dbRun (.strIncr k d) now db).out = .ok (.int (n + d)) ∧
      Counter (Model.dbRun (.strIncr k d) now db).db k (n + d) := by
  obtain ⟨hw, hcase⟩ := hc
  have hrun : Model.dbRun (.strIncr k d) now db = update (fun x => strIncr x k d now) db := rfl
  have hw' : (Model.dbRun (.strIncr k d) now db).db.WF := by
    rw [hrun]; exact update_pres hw (strIncr_wf hw k d now)
  have hvi : valueInt (itoa (n + d)) = some (n + d) := by
    have := inInt64_iff.mp hnd
    exact Redka.Props.C17.valueInt_itoa _ this.1 this.2
  rcases hcase with ⟨hf, hn0⟩ | ⟨b, now0, hb, hg0⟩
  · subst hn0
    have hns : staleKey db now k = false := by simp [staleKey, hf]
    have hg : get (abs now db) k = none := by rw [get_abs hw.names, hf]; rfl
    have hraw := strGetRaw_absent hw hf now
    have href := strIncr_refines hw hns d hd (by intro b' n' hb'; rw [hraw] at hb'; cases hb')
    unfold Refines at href
    rw [← hrun] at href
    simp only [Spec.strIncr, hg, Spec.ok] at href
    refine ⟨by rw [href.1]; simp, hw', .inr ⟨itoa (0 + d), now, hvi, ?_⟩⟩
    rw [href.2, get_purge ((sorted_abs hw.names now).put k _), get_put]
    simp [liveAt]
  · have hg := get_abs_any_now hw.names hg0 now
    obtain ⟨_, hns⟩ := get_abs_live hw hg
    have hraw := strGetRaw_of_get hw hg
    have href := strIncr_refines hw hns d hd (by
      intro b' n' hb' hn'
      rw [hraw] at hb'; cases hb'
      rw [hb] at hn'; cases hn'
      exact hnd)
    unfold Refines at href
    rw [← hrun] at href
    simp only [Spec.strIncr, hg, hb, Spec.ok] at href
    refine ⟨href.1, hw', .inr ⟨itoa (n + d), now, hvi, ?_⟩⟩
    rw [href.2, get_purge ((sorted_abs hw.names now).put k _), get_put]
    simp [liveAt]

/-- the amount a job adds to a counter (single increments only) -/
def delta : Job → Int
  | .op (.strIncr _ d) => d
  | _ => 0

def total (tr : List (Job × Int)) : Int := (tr.map (fun c => delta c.1)).sum
def totalAbs (tr : List (Job × Int)) : Nat := (tr.map (fun c => (delta c.1).natAbs)).sum

theorem sum_perm {α : Type} [Add α] [Zero α] (hswap : ∀ a b c : α, a + (b + c) = b + (a + c))
    {l l' : List α} (h : l.Perm l') : l.sum = l'.sum := by
  induction h with
  | nil => rfl
  | cons x _ ih => simp [ih]
  | swap x y l => simp only [List.sum_cons]; exact hswap ..
  | trans _ _ ih1 ih2 => exact ih1.trans ih2

theorem emptyWF : ({} : DB).WF :=
  ⟨List.nodup_nil, List.nodup_nil, (by intro r h; cases h), (by intro r h; cases h), List.nodup_nil⟩

theorem int64_room {n d : Int} {t : Nat} (h : (n.natAbs + ((d.natAbs + t : Nat) : Int)) ≤ maxInt64) :
    inInt64 d = true ∧ inInt64 (n + d) = true ∧ ((n + d).natAbs + t : Int) ≤ maxInt64 := by
  have hmax : maxInt64 = 9223372036854775807 := rfl
  have hmin : minInt64 = -9223372036854775808 := rfl
  refine ⟨inInt64_iff.mpr ?_, inInt64_iff.mpr ?_, ?_⟩ <;> omega

/-- A sequential run of increments of one counter, in ANY order: every call succeeds and the
counter ends at the start value plus the sum — provided no partial sum can leave int64
(`|n| + Σ|dᵢ| ≤ maxInt64`, an order-independent bound; beyond it the code wraps, D17). -/
theorem seqRun_incr (k : Bytes) : ∀ (tr : List (Job × Int)) (db : DB) (n : Int), Counter db k n →
    (∀ c ∈ tr, ∃ d, c.1 = .op (.strIncr k d)) → (n.natAbs + totalAbs tr : Int) ≤ maxInt64 →
    (∀ o ∈ (seqRun tr db).1, ∃ v, o = .ok v) ∧ Counter (seqRun tr db).2 k (n + total tr)
  | [], db, n, hc, _, _ => by
    refine ⟨(by intro o ho; cases ho), ?_⟩
    simpa [seqRun, total] using hc
  | (op, now) :: tr, db, n, hc, hops, hb => by
    obtain ⟨d, hop⟩ := hops (op, now) (List.mem_cons_self ..)
    simp only at hop
    subst hop
    obtain ⟨hd, hnd, hb'⟩ := int64_room (n := n) (d := d) (t := totalAbs tr) (by
      simpa [totalAbs, delta] using hb)
    obtain ⟨hout, hc'⟩ := counter_incr hc d now hd hnd
    have ih := seqRun_incr k tr (Job.seq (.op (.strIncr k d)) now db).db (n + d) hc'
      (fun c hc => hops c (List.mem_cons_of_mem _ hc)) hb'
    refine ⟨?_, ?_⟩
    · intro o ho
      simp only [seqRun, List.mem_cons] at ho
      rcases ho with rfl | ho
      · exact ⟨_, hout⟩
      · exact ih.1 o ho
    · have : n + total ((.op (.strIncr k d), now) :: tr) = n + d + total tr := by
        simp [total, delta]; omega
      rw [this]
      exact ih.2

end Redka.Proofs.Sched

namespace Redka.Proofs.Sched

open Redka Redka.Model Redka.Sched

/-- ids of the key rows named `k` (no assumption that there is at most one) -/
def kidsOf (db : DB) (k : Bytes) : List Int := (db.keys.filter (fun r => r.key == k)).map (·.id)

/-- number of `rlist` rows stored under the name `k` -/
def listCount (db : DB) (k : Bytes) : Nat :=
  (db.lists.filter (fun x => (kidsOf db k).contains x.kid)).length

/-- number of `rset` rows stored under the name `k` -/
def setCount (db : DB) (k : Bytes) : Nat :=
  (db.sets.filter (fun x => (kidsOf db k).contains x.kid)).length

def outOk : Out → Bool
  | .ok _ => true
  | .error _ => false

def okCount (outs : List Out) : Nat := (outs.filter outOk).length

theorem okCount_cons (o : Out) (os : List Out) :
    okCount (o :: os) = (if outOk o = true then 1 else 0) + okCount os := by
  unfold okCount; rw [List.filter_cons]; split <;> simp [Nat.add_comm]

theorem seqRun_cons (op : Job) (now : Int) (tr : List (Job × Int)) (db : DB) :
    (seqRun ((op, now) :: tr) db).1 =
      (op.seq now db).out :: (seqRun tr (op.seq now db).db).1 := rfl

/-- how many operations of a history succeeded -/
def succeeded (l : List Rec) : Nat := (l.filter (fun r => r.out.isOk)).length

theorem succeeded_eq {l : List Rec} {outs : List Out} (h : l.map Rec.out = outs.map Outcome.done) :
    succeeded l = okCount outs := by
  unfold succeeded okCount
  have h1 : (l.filter (fun r => r.out.isOk)).length = ((l.map Rec.out).filter Outcome.isOk).length := by
    rw [List.filter_map, List.length_map]; rfl
  have h2 : ((outs.map Outcome.done).filter Outcome.isOk).length = (outs.filter outOk).length := by
    rw [List.filter_map, List.length_map]
    congr 2; funext o; cases o <;> rfl
  rw [h1, h, h2]

theorem filter_single {α} (P V : α → Bool) (l : List α) (x : α) (hx : x ∈ l) (hP : P x = true)
    (hV : V x = true) (hlen : (l.filter P).length ≤ 1) :
    ((l.filter (fun y => !V y)).filter P).length = 0 := by
  have hmem : x ∈ l.filter P := List.mem_filter.mpr ⟨hx, hP⟩
  have hcomm : (l.filter (fun y => !V y)).filter P = (l.filter P).filter (fun y => !V y) := by
    rw [List.filter_filter, List.filter_filter]
    congr 1; funext y; exact Bool.and_comm _ _
  rw [hcomm]
  match hl : l.filter P, hmem, hlen with
  | [y], hm, _ =>
    simp only [List.mem_singleton] at hm; subst hm
    simp [hV]
  | _ :: _ :: _, _, h => simp at h

theorem kids_map (keys : List KeyRow) (g : KeyRow → KeyRow) (hk : ∀ r, (g r).key = r.key)
    (hi : ∀ r, (g r).id = r.id) (k : Bytes) :
    ((keys.map g).filter (fun r => r.key == k)).map (·.id) =
      (keys.filter (fun r => r.key == k)).map (·.id) := by
  induction keys with
  | nil => rfl
  | cons r rs ih =>
    simp only [List.map_cons, List.filter_cons, hk]
    split <;> simp [hi, ih]

theorem kidsOf_updKey (db : DB) (id : Int) (f : KeyRow → KeyRow) (hk : ∀ r, (f r).key = r.key)
    (hi : ∀ r, (f r).id = r.id) (k : Bytes) : kidsOf (db.updKey id f) k = kidsOf db k := by
  unfold kidsOf DB.updKey
  exact kids_map db.keys (fun r => if r.id == id then f r else r)
    (by intro r; show (if r.id == id then f r else r).key = r.key; split <;> simp [hk])
    (by intro r; show (if r.id == id then f r else r).id = r.id; split <;> simp [hi]) k

theorem kid_of_liveKeyT {db : DB} {k : Bytes} {ty now : Int} {r : KeyRow}
    (h : db.liveKeyT k ty now = some r) : (kidsOf db k).contains r.id = true := by
  unfold DB.liveKeyT at h
  have hp := List.find?_some h
  have hm := List.mem_of_find?_eq_some h
  simp only [Bool.and_eq_true] at hp
  simp only [kidsOf, List.contains_eq_mem, List.mem_map, List.mem_filter, decide_eq_true_eq]
  exact ⟨r, ⟨hm, hp.1.1⟩, rfl⟩

/-- no row is stored under the name `k`: none under the id of its live key row -/
theorem filter_liveKid_nil {α : Type} (kid : α → Int) {l : List α} {db : DB} {k : Bytes} {ty now : Int}
    {r : KeyRow} (h : (l.filter (fun x => (kidsOf db k).contains (kid x))).length = 0)
    (hr : db.liveKeyT k ty now = some r) : l.filter (fun x => kid x == r.id) = [] := by
  rw [List.filter_eq_nil_iff]
  intro x hx hk
  have : x ∈ l.filter (fun x => (kidsOf db k).contains (kid x)) :=
    List.mem_filter.mpr ⟨hx, by rw [show kid x = r.id by simpa using hk]; exact kid_of_liveKeyT hr⟩
  rw [List.length_eq_zero_iff.mp h] at this
  cases this

/-- Calls that compete for something only one of them can have: `count` says how much of it is
left; a call either succeeds and takes the last of it, or fails and changes nothing. Then of any
sequence of such calls no more succeed than there was to take. -/
theorem seqRun_take_one (count : DB → Nat) (isPop : Job → Bool)
    (hstep : ∀ (op : Job) (now : Int) (db : DB), isPop op = true → count db ≤ 1 →
      (outOk (op.seq now db).out = true ∧ count db = 1 ∧ count (op.seq now db).db = 0) ∨
      (outOk (op.seq now db).out = false ∧ (op.seq now db).db = db)) :
    ∀ (tr : List (Job × Int)) (db : DB), (∀ c ∈ tr, isPop c.1 = true) → count db ≤ 1 →
      okCount (seqRun tr db).1 ≤ count db
  | [], _, _, _ => Nat.zero_le _
  | (op, now) :: tr, db, hops, h => by
    have hrest : ∀ c ∈ tr, isPop c.1 = true := fun c hc => hops c (List.mem_cons_of_mem _ hc)
    rw [seqRun_cons, okCount_cons]
    rcases hstep op now db (hops _ (List.mem_cons_self ..)) h with ⟨ho, h1, h0⟩ | ⟨ho, hdb⟩
    · have := seqRun_take_one count isPop hstep tr (op.seq now db).db hrest (by omega)
      rw [ho, if_pos rfl]; omega
    · have := seqRun_take_one count isPop hstep tr db hrest h
      rw [ho, hdb]; simpa using this

theorem listPop_empty {db : DB} {k : Bytes} (h : listCount db k = 0) (front : Bool) (now : Int) :
    listPop db k front now = .err .notFound db := by
  unfold listPop
  split
  · rfl
  · rename_i r hr
    have hrows : listRows db r.id = [] := by rw [listRows, filter_liveKid_nil ListRow.kid h hr]; rfl
    simp only [hrows]
    cases front <;> rfl

theorem listPop_last {db : DB} {k : Bytes} (h : listCount db k ≤ 1) (front : Bool) (now : Int)
    {v : Val} (hok : (listPop db k front now).out = .ok v) :
    listCount (listPop db k front now).db k = 0 := by
  cases hl : db.liveKeyT k TList now with
  | none => simp [listPop, hl, Res.err] at hok
  | some r =>
    have hk := kid_of_liveKeyT hl
    cases hrow : (if front then (listRows db r.id).head? else (listRows db r.id).getLast?) with
    | none => simp [listPop, hl, hrow, Res.err] at hok
    | some row =>
      have hdb : (listPop db k front now).db = listDeleteRows db r.id [row.pos] now := by
        simp [listPop, hl, hrow, Res.ok]
      rw [hdb]
      have hmem : row ∈ listRows db r.id := by
        cases front
        · exact List.mem_of_getLast? (by simpa using hrow)
        · exact List.mem_of_head? (by simpa using hrow)
      unfold listRows at hmem
      rw [mem_sortBy, List.mem_filter] at hmem
      have hkid : row.kid = r.id := by simpa using hmem.2
      have hkids : kidsOf (listDeleteRows db r.id [row.pos] now) k = kidsOf db k := by
        simp only [listDeleteRows, List.foldl_cons, List.foldl_nil, listOnDelete]
        rw [kidsOf_updKey _ _ _ (by intro r; rfl) (by intro r; rfl)]
        rfl
      unfold listCount
      rw [hkids]
      have hlists : (listDeleteRows db r.id [row.pos] now).lists =
          db.lists.filter (fun x => !(x.kid == r.id && [row.pos].contains x.pos)) := by
        simp [listDeleteRows, listOnDelete, DB.updKey]
      rw [hlists]
      exact filter_single (fun x => (kidsOf db k).contains x.kid)
        (fun x => x.kid == r.id && [row.pos].contains x.pos) db.lists row hmem.1
        (by simp only [hkid]; exact hk) (by simp [hkid]) (by unfold listCount at h; exact h)

def isListPop (k : Bytes) : Job → Bool
  | .op (.listPopBack k') => k' == k
  | .op (.listPopFront k') => k' == k
  | _ => false

theorem dbRun_listPop {k : Bytes} {op : Job} (h : isListPop k op = true) (now : Int) (db : DB) :
    ∃ front, op.seq now db = update (fun d => listPop d k front now) db := by
  cases op with
  | block p ops => simp [isListPop] at h
  | op o =>
    cases o <;> simp [isListPop] at h
    · subst h; exact ⟨false, rfl⟩
    · subst h; exact ⟨true, rfl⟩

theorem dbRun_listPop_step {k : Bytes} (op : Job) (now : Int) (db : DB) (hop : isListPop k op = true)
    (h : listCount db k ≤ 1) :
    (outOk (op.seq now db).out = true ∧ listCount db k = 1 ∧ listCount (op.seq now db).db k = 0) ∨
    (outOk (op.seq now db).out = false ∧ (op.seq now db).db = db) := by
  obtain ⟨front, hrun⟩ := dbRun_listPop hop now db
  rw [hrun, Dispatch.update_out, update_db]
  cases ho : (listPop db k front now).out with
  | ok v =>
    have hne : listCount db k ≠ 0 := fun h0 => by rw [listPop_empty h0] at ho; cases ho
    exact .inl ⟨rfl, by omega, listPop_last h front now ho⟩
  | error e => exact .inr ⟨rfl, rfl⟩

/-- Sequentially, in any order: of any number of pops (front or back) of a list that holds at most
one element, at most one succeeds. -/
theorem seqRun_listPop_one (k : Bytes) (tr : List (Job × Int)) (db : DB)
    (hops : ∀ c ∈ tr, isListPop k c.1 = true) (h : listCount db k ≤ 1) : okCount (seqRun tr db).1 ≤ 1 :=
  Nat.le_trans (seqRun_take_one (listCount · k) (isListPop k) dbRun_listPop_step tr db hops h) h

theorem setPop_empty {db : DB} {k : Bytes} (h : setCount db k = 0) (o : Option Bytes) (now : Int) :
    outOk (setPop db k o now).out = false ∧ (setPop db k o now).db = db := by
  unfold setPop
  split
  · split <;> exact ⟨rfl, rfl⟩
  · rename_i r hr
    have hrows : setRows db r.id = [] := by rw [setRows, filter_liveKid_nil SetRow.kid h hr]; rfl
    simp only [hrows]
    cases o <;> exact ⟨rfl, rfl⟩

theorem setPop_last {db : DB} {k : Bytes} (h : setCount db k ≤ 1) (o : Option Bytes) (now : Int)
    {v : Val} (hok : (setPop db k o now).out = .ok v) :
    setCount (setPop db k o now).db k = 0 := by
  cases hl : db.liveKeyT k TSet now with
  | none => cases o <;> simp [setPop, hl, Res.err] at hok
  | some r =>
    have hk := kid_of_liveKeyT hl
    cases o with
    | none =>
      cases hemp : (setRows db r.id).isEmpty <;> simp [setPop, hl, hemp, Res.err] at hok
    | some e =>
      cases hany : (setRows db r.id).any (fun x => x.elem == e) with
      | false => simp [setPop, hl, hany, Res.err] at hok
      | true =>
        have hdb : (setPop db k (some e) now).db = setUpdKeyAfterDelete
            { db with sets := db.sets.filter (fun x => !(x.kid == r.id && x.elem == e)) } k 1 now := by
          simp [setPop, hl, hany, Res.ok]
        rw [hdb]
        obtain ⟨row, hmem, hel⟩ := List.any_eq_true.mp hany
        unfold setRows at hmem
        rw [mem_sortBy, List.mem_filter] at hmem
        have hkid : row.kid = r.id := by simpa using hmem.2
        have hkids : ∀ d : DB, d.keys = db.keys → kidsOf (setUpdKeyAfterDelete d k 1 now) k = kidsOf db k := by
          intro d hd
          unfold setUpdKeyAfterDelete
          split
          · unfold kidsOf; rw [hd]
          · rw [kidsOf_updKey _ _ _ (by intro r; rfl) (by intro r; rfl)]
            unfold kidsOf; rw [hd]
        have hsets : ∀ d : DB, (setUpdKeyAfterDelete d k 1 now).sets = d.sets := by
          intro d; unfold setUpdKeyAfterDelete; split <;> rfl
        unfold setCount
        rw [hkids { db with sets := db.sets.filter (fun x => !(x.kid == r.id && x.elem == e)) } rfl,
          hsets]
        exact filter_single (fun x => (kidsOf db k).contains x.kid)
          (fun x => x.kid == r.id && x.elem == e) db.sets row hmem.1
          (by simp only [hkid]; exact hk) (by simp [hkid, hel]) (by unfold setCount at h; exact h)

def isSetPop (k : Bytes) : Job → Bool
  | .op (.setPop k' _) => k' == k
  | _ => false

theorem dbRun_setPop {k : Bytes} {op : Job} (h : isSetPop k op = true) (now : Int) (db : DB) :
    ∃ o, op.seq now db = update (fun d => setPop d k o now) db := by
  cases op with
  | block p ops => simp [isSetPop] at h
  | op o =>
    cases o <;> simp [isSetPop] at h
    subst h; exact ⟨_, rfl⟩

theorem dbRun_setPop_step {k : Bytes} (op : Job) (now : Int) (db : DB) (hop : isSetPop k op = true)
    (h : setCount db k ≤ 1) :
    (outOk (op.seq now db).out = true ∧ setCount db k = 1 ∧ setCount (op.seq now db).db k = 0) ∨
    (outOk (op.seq now db).out = false ∧ (op.seq now db).db = db) := by
  obtain ⟨o, hrun⟩ := dbRun_setPop hop now db
  rw [hrun, Dispatch.update_out, update_db]
  cases ho : (setPop db k o now).out with
  | ok v =>
    have hne : setCount db k ≠ 0 := fun h0 => by have := (setPop_empty h0 o now).1; rw [ho] at this; cases this
    exact .inl ⟨rfl, by omega, setPop_last h o now ho⟩
  | error e => exact .inr ⟨rfl, rfl⟩

/-- … and the same for `setPop` (whatever element the random choice names). -/
theorem seqRun_setPop_one (k : Bytes) (tr : List (Job × Int)) (db : DB)
    (hops : ∀ c ∈ tr, isSetPop k c.1 = true) (h : setCount db k ≤ 1) : okCount (seqRun tr db).1 ≤ 1 :=
  Nat.le_trans (seqRun_take_one (setCount · k) (isSetPop k) dbRun_setPop_step tr db hops h) h

end Redka.Proofs.Sched
