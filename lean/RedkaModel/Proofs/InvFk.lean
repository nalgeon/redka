/-
  C11 — no repository method changes the connection flag `foreign_keys` (`fk_preserved`).
-/
import RedkaModel.Proofs.InvKey
import RedkaModel.Proofs.StrSteps
import RedkaModel.Proofs.HashSteps

namespace Redka.InvP

open Redka Redka.Model

theorem keyUpsert_fk {db : DB} {k : Bytes} {ty : Int} {onNew : Int → KeyRow}
    {onOld : KeyRow → KeyRow} {db' : DB} {r : KeyRow}
    (h : keyUpsert db k ty onNew onOld = .ok (db', r)) : db'.fk = db.fk := by
  rcases keyUpsert_cases h with ⟨_, _, e⟩ | ⟨_, _, _, _, e⟩ <;> rw [e] <;> rfl

theorem keyDelete_fk (db : DB) (ks : List Bytes) (now : Int) : (keyDelete db ks now).db.fk = db.fk :=
  deleteKeysWhere_fk db _

theorem keyDeleteAll_fk (db : DB) (b : Bool) : (keyDeleteAll db b).db.fk = db.fk := by
  unfold keyDeleteAll; cases b <;> exact deleteKeysWhere_fk db _

theorem keyDeleteExpired_fk (db : DB) (n now : Int) : (keyDeleteExpired db n now).db.fk = db.fk :=
  deleteKeysWhere_fk db _

theorem keyExpireAt_fk (db : DB) (k : Bytes) (a now : Int) : (keyExpireAt db k a now).db.fk = db.fk := by
  unfold keyExpireAt; split <;> rfl

theorem keyPersist_fk (db : DB) (k : Bytes) (now : Int) : (keyPersist db k now).db.fk = db.fk := by
  unfold keyPersist; split <;> rfl

theorem renameStmt_fk (db : DB) (k nk : Bytes) (now : Int) : (renameStmt db k nk now).fk = db.fk := by
  unfold renameStmt
  split
  · rfl
  · exact deleteKeysWhere_fk db _

theorem keyRename_fk (db : DB) (k nk : Bytes) (now : Int) : (keyRename db k nk now).db.fk = db.fk := by
  unfold keyRename
  repeat' split
  all_goals first | rfl | exact renameStmt_fk db k nk now

theorem keyRenameNX_fk (db : DB) (k nk : Bytes) (now : Int) : (keyRenameNX db k nk now).db.fk = db.fk := by
  unfold keyRenameNX
  repeat' split
  all_goals first | rfl | exact renameStmt_fk db k nk now

theorem strSet2_fk {db : DB} {k v : Bytes} {db' : DB} (h : strSet2 db k v = .ok db') : db'.fk = db.fk := by
  unfold strSet2 at h
  split at h
  · cases h
  · split at h <;> (simp only [Except.ok.injEq] at h; rw [← h])

theorem strUpsertSet_fk (db : DB) (k v : Bytes) (onNew : Int → KeyRow) (onOld : KeyRow → KeyRow) :
    (strWrite db k v onNew onOld).2.fk = db.fk := by
  unfold strWrite
  split
  · rfl
  · rename_i db1 r he
    have h1 := keyUpsert_fk he
    split
    · exact h1
    · rename_i db2 h2; exact (strSet2_fk h2).trans h1

theorem strSetTx_fk (db : DB) (k v : Bytes) (et : Option Int) (now : Int) :
    (strSetTx db k v et now).2.fk = db.fk := strUpsertSet_fk db k v _ _

theorem strUpdateTx_fk (db : DB) (k v : Bytes) (now : Int) :
    (strUpdateTx db k v now).2.fk = db.fk := strUpsertSet_fk db k v _ _

/-- every method of the string repository is made of these two writes (`Proofs/StrSteps.lean`) -/
theorem _root_.Redka.Model.StrSteps.fk {now : Int} {db d : DB} (hs : StrSteps now db d) : d.fk = db.fk :=
  hs.pres (P := fun d => d.fk = db.fk) rfl (fun d k v et h => (strSetTx_fk d k v et now).trans h)
    (fun d k v h => (strUpdateTx_fk d k v now).trans h)

theorem strSet_fk (db : DB) (k v : Bytes) (et : Option Int) (now : Int) :
    (strSet db k v et now).db.fk = db.fk :=
  (strSet_steps k v et).fk

theorem strIncr_fk (db : DB) (k : Bytes) (d now : Int) : (strIncr db k d now).db.fk = db.fk :=
  (strIncr_steps k d).fk

theorem strIncrFloat_fk (db : DB) (k : Bytes) (d : Dyadic) (now : Int) : (strIncrFloat db k d now).db.fk = db.fk :=
  (strIncrFloat_steps k d).fk

theorem strSetMany_fk (items : List (Bytes × Bytes)) (now : Int) (db : DB) :
    (strSetMany db items now).db.fk = db.fk :=
  (strSetMany_steps items .refl).fk

theorem strSetWith_fk (db : DB) (k v : Bytes) (o : SetOpts) (now : Int) :
    (strSetWith db k v o now).db.fk = db.fk :=
  (strSetWith_steps k v o).fk

theorem setInsertRow_fk {db : DB} {kid : Int} {e : Bytes} {db' : DB}
    (h : setInsertRow db kid e = some db') : db'.fk = db.fk := by
  unfold setInsertRow at h
  split at h
  · cases h
  · simp only [Option.some.injEq] at h; rw [← h]; rfl

theorem setAddElems_fk (kid : Int) (es : List Bytes) :
    ∀ (db : DB) (n : Int), (setAddElems db kid es n).1.fk = db.fk := by
  induction es with
  | nil => intro db n; rfl
  | cons e es ih =>
    intro db n
    unfold setAddElems
    split
    · exact ih db n
    · rename_i db' he; exact (ih db' (n + 1)).trans (setInsertRow_fk he)

theorem setAdd_fk (db : DB) (k : Bytes) (es : List Bytes) (now : Int) :
    (setAdd db k es now).db.fk = db.fk := by
  unfold setAdd
  split
  · rfl
  · rename_i db1 r he
    exact (setAddElems_fk r.id es db1 0).trans (keyUpsert_fk he)

theorem setUpdKeyAfterDelete_fk (db : DB) (k : Bytes) (n now : Int) :
    (setUpdKeyAfterDelete db k n now).fk = db.fk := by
  unfold setUpdKeyAfterDelete; split <;> rfl

theorem setDelete_fk (db : DB) (k : Bytes) (es : List Bytes) (now : Int) :
    (setDelete db k es now).db.fk = db.fk := by
  unfold setDelete
  split
  · rfl
  · simp only
    split
    · rfl
    · exact setUpdKeyAfterDelete_fk _ _ _ _

theorem setDeleteKey_fk (db : DB) (k : Bytes) (now : Int) : (setDeleteKey db k now).fk = db.fk := by
  unfold setDeleteKey; split <;> rfl

theorem setInsertAll_fk (kid : Int) (es : List Bytes) :
    ∀ (db : DB) (n : Int) {db3 : DB} {m : Int}, setInsertAll db kid es n = .ok (db3, m) → db3.fk = db.fk := by
  induction es with
  | nil =>
    intro db n db3 m he
    simp only [setInsertAll, Except.ok.injEq, Prod.mk.injEq] at he
    rw [← he.1]
  | cons e es ih =>
    intro db n db3 m he
    unfold setInsertAll at he
    split at he
    · cases he
    · rename_i db' hi; exact (ih db' (n + 1) he).trans (setInsertRow_fk hi)

theorem setStore_fk (db : DB) (d : Bytes) (ks : List Bytes) (now : Int) (compute : DB → List Bytes) :
    (setStore db d ks now compute).db.fk = db.fk := by
  unfold setStore
  split
  · rfl
  · have h1 := setDeleteKey_fk db d now
    simp only
    split
    · exact h1
    · rename_i db2 r he
      have h2 := (keyUpsert_fk he).trans h1
      split
      · exact h2
      · rename_i db3 n hi; exact (setInsertAll_fk _ _ _ _ hi).trans h2

theorem setMove_fk (db : DB) (s d e : Bytes) (now : Int) : (setMove db s d e now).db.fk = db.fk := by
  unfold setMove
  have h1 := setDelete_fk db s [e] now
  have h2 := (setAdd_fk (setDelete db s [e] now).db d [e] now).trans h1
  simp only
  split
  · exact h1
  · split
    · exact h1
    · split <;> exact h2
  · exact h1

theorem setPop_fk (db : DB) (k : Bytes) (o : Option Bytes) (now : Int) :
    (setPop db k o now).db.fk = db.fk := by
  unfold setPop
  split
  · split <;> rfl
  · simp only
    split
    · split <;> rfl
    · split
      · exact setUpdKeyAfterDelete_fk _ _ _ _
      · rfl

theorem hashSetRow_fk (db : DB) (kid : Int) (f v : Bytes) : (hashSetRow db kid f v).fk = db.fk := by
  unfold hashSetRow; split <;> rfl

theorem hashSetTx_fk {db : DB} {k f v : Bytes} {now : Int} {d : DB}
    (h : hashSetTx db k f v now = .ok d) : d.fk = db.fk := by
  unfold hashSetTx at h
  split at h
  · cases h
  · rename_i db1 r he
    simp only [Except.ok.injEq] at h
    rw [← h]; exact (hashSetRow_fk _ _ _ _).trans (keyUpsert_fk he)

/-- every writing method of the hash repository but `Delete` is made of successful `tx.set` calls (`Proofs/HashSteps.lean`) -/
theorem _root_.Redka.Model.SetSteps.fk {k : Bytes} {now : Int} {db d : DB} (hs : SetSteps k now db d) :
    d.fk = db.fk :=
  hs.pres (P := fun d => d.fk = db.fk) rfl (fun _ _ _ _ h he => (hashSetTx_fk he).trans h)

theorem hashSet_fk (db : DB) (k f v : Bytes) (now : Int) : (hashSet db k f v now).db.fk = db.fk :=
  (hashSet_steps f v).fk

theorem hashSetMany_fk (db : DB) (k : Bytes) (items : List (Bytes × Bytes)) (now : Int) :
    (hashSetMany db k items now).db.fk = db.fk :=
  (hashSetMany_steps items).fk

theorem hashSetNotExists_fk (db : DB) (k f v : Bytes) (now : Int) :
    (hashSetNotExists db k f v now).db.fk = db.fk :=
  (hashSetNotExists_steps f v).fk

theorem hashIncr_fk (db : DB) (k f : Bytes) (d now : Int) : (hashIncr db k f d now).db.fk = db.fk :=
  (hashIncr_steps f d).fk

theorem hashIncrFloat_fk (db : DB) (k f : Bytes) (d : Dyadic) (now : Int) : (hashIncrFloat db k f d now).db.fk = db.fk :=
  (hashIncrFloat_steps f d).fk

theorem hashDelete_fk (db : DB) (k : Bytes) (fs : List Bytes) (now : Int) :
    (hashDelete db k fs now).db.fk = db.fk := by
  unfold hashDelete
  split
  · rfl
  · simp only
    split <;> rfl

theorem zInsertNew_fk (db : DB) (kid : Int) (e : Bytes) (s : Score) : (zInsertNew db kid e s).fk = db.fk := rfl

theorem zSetRow_fk (db : DB) (kid : Int) (e : Bytes) (s : Score) : (zSetRow db kid e s).fk = db.fk := by
  unfold zSetRow; split <;> rfl

theorem zAddTx_fk {db : DB} {k e : Bytes} {s : Score} {now : Int} {d : DB}
    (h : zAddTx db k e s now = .ok d) : d.fk = db.fk := by
  unfold zAddTx at h
  split at h
  · cases h
  · rename_i db1 r he
    simp only [Except.ok.injEq] at h
    rw [← h]; exact (zSetRow_fk _ _ _ _).trans (keyUpsert_fk he)

theorem zAdd_fk (db : DB) (k e : Bytes) (s : Score) (now : Int) : (zAdd db k e s now).db.fk = db.fk := by
  unfold zAdd
  simp only
  split
  · rfl
  · rename_i d he; exact zAddTx_fk he

theorem zAddManyLoop_fk (k : Bytes) (now : Int) (items : List (Bytes × Score)) :
    ∀ db : DB, (zAddManyLoop db k now items).2.fk = db.fk := by
  induction items with
  | nil => intro db; rfl
  | cons p rest ih =>
    intro db
    obtain ⟨e, s⟩ := p
    unfold zAddManyLoop
    split
    · rfl
    · rename_i d he; exact (ih d).trans (zAddTx_fk he)

theorem zAddMany_fk (db : DB) (k : Bytes) (items : List (Bytes × Score)) (now : Int) :
    (zAddMany db k items now).db.fk = db.fk := by
  unfold zAddMany
  have := zAddManyLoop_fk k now items db
  simp only
  split <;> (rename_i he; rw [he] at this; exact this)

theorem zIncr_fk (db : DB) (k e : Bytes) (d : Score) (now : Int) : (zIncr db k e d now).db.fk = db.fk := by
  unfold zIncr
  split
  · rfl
  · rename_i db1 r he
    have h1 := keyUpsert_fk he
    split
    · exact h1
    · split
      · exact h1
      · exact (zSetRow_fk _ _ _ _).trans h1

theorem zDeleteWhere_fk (db : DB) (k : Bytes) (vs : List Bytes) (now : Int) :
    (zDeleteWhere db k vs now).db.fk = db.fk := by
  unfold zDeleteWhere
  split
  · rfl
  · simp only
    split
    · rfl
    · unfold zUpdKeyAfterDelete; split <;> rfl

theorem zDeleteRank_fk (db : DB) (k : Bytes) (a b now : Int) : (zDeleteRank db k a b now).db.fk = db.fk := by
  unfold zDeleteRank
  split
  · rfl
  · split
    · rfl
    · exact zDeleteWhere_fk _ _ _ _

theorem zDeleteAll_fk (db : DB) (k : Bytes) (now : Int) : (zDeleteAll db k now).fk = db.fk := by
  unfold zDeleteAll; split <;> rfl

theorem zInsertAll_fk (kid : Int) (items : List (Bytes × Option Score)) :
    ∀ (db : DB) (n : Int) {db3 : DB} {m : Int}, zInsertAll db kid items n = .ok (db3, m) → db3.fk = db.fk := by
  induction items with
  | nil =>
    intro db n db3 m he
    simp only [zInsertAll, Except.ok.injEq, Prod.mk.injEq] at he
    rw [← he.1]
  | cons p rest ih =>
    intro db n db3 m he
    obtain ⟨e, s⟩ := p
    unfold zInsertAll at he
    split at he
    · cases he
    · split at he
      · cases he
      · exact (ih _ (n + 1) he).trans (zInsertNew_fk _ _ _ _)

theorem zCombineStore_fk (db : DB) (d : Bytes) (ks : List Bytes) (agg : Agg) (inter : Bool) (now : Int) :
    (zCombineStore db d ks agg inter now).db.fk = db.fk := by
  unfold zCombineStore
  have h1 := zDeleteAll_fk db d now
  simp only
  split
  · exact h1
  · rename_i db2 r he
    have h2 := (keyUpsert_fk he).trans h1
    split
    · exact h2
    · rename_i db3 n hi; exact (zInsertAll_fk _ _ _ _ hi).trans h2

theorem listOnDelete_fold_fk (kid now : Int) (vs : List Dyadic) :
    ∀ db : DB, (vs.foldl (fun d _ => listOnDelete d kid now) db).fk = db.fk := by
  induction vs with
  | nil => intro db; rfl
  | cons v vs ih => intro db; rw [List.foldl_cons]; exact ih _

theorem listDeleteRows_fk (db : DB) (kid : Int) (vs : List Dyadic) (now : Int) :
    (listDeleteRows db kid vs now).fk = db.fk := by
  unfold listDeleteRows
  exact listOnDelete_fold_fk kid now vs _

theorem listPush_fk (db : DB) (k e : Bytes) (front : Bool) (now : Int) :
    (listPush db k e front now).db.fk = db.fk := by
  unfold listPush
  cases hk : listPushKey db k now with
  | error er => rfl
  | ok p =>
    obtain ⟨db1, r⟩ := p
    have h1 : db1.fk = db.fk := keyUpsert_fk hk
    simp only
    generalize (if front = true then _ else _ : Dyadic) = pos
    split <;> exact h1

theorem listPop_fk (db : DB) (k : Bytes) (front : Bool) (now : Int) :
    (listPop db k front now).db.fk = db.fk := by
  unfold listPop
  split
  · rfl
  · simp only
    split
    · rfl
    · exact listDeleteRows_fk _ _ _ _

theorem listPopBackPushFront_fk (db : DB) (s d : Bytes) (now : Int) :
    (listPopBackPushFront db s d now).db.fk = db.fk := by
  unfold listPopBackPushFront
  have h1 := listPop_fk db s false now
  generalize listPop db s false now = r at h1 ⊢
  simp only
  split
  · exact h1
  · rename_i el _
    have h2 := (listPush_fk r.db d el true now).trans h1
    split <;> exact h2
  · exact h1

theorem listDelete_fk (db : DB) (k e : Bytes) (now : Int) : (listDelete db k e now).db.fk = db.fk := by
  unfold listDelete
  split
  · rfl
  · exact listDeleteRows_fk _ _ _ _

theorem listDeleteN_fk (db : DB) (k e : Bytes) (n : Int) (back : Bool) (now : Int) :
    (listDeleteN db k e n back now).db.fk = db.fk := by
  unfold listDeleteN
  split
  · rfl
  · split
    · rfl
    · exact listDeleteRows_fk _ _ _ _

theorem listSet_fk (db : DB) (k : Bytes) (i : Int) (e : Bytes) (now : Int) :
    (listSet db k i e now).db.fk = db.fk := by
  unfold listSet
  split
  · rfl
  · split <;> rfl

theorem listTrim_fk (db : DB) (k : Bytes) (a b now : Int) : (listTrim db k a b now).db.fk = db.fk := by
  unfold listTrim
  split
  · rfl
  · simp only
    split
    · rfl
    · split
      · rfl
      · exact listDeleteRows_fk _ _ _ _

theorem listInsert_fk (db : DB) (k p e : Bytes) (after : Bool) (now : Int) :
    (listInsert db k p e after now).db.fk = db.fk := by
  generalize hres : listInsert db k p e after now = res
  unfold listInsert at hres
  split at hres
  · subst hres; rfl
  · rename_i r0 hl
    simp only at hres
    split at hres
    · subst hres; rfl
    · rename_i pv _
      generalize (if after = true then _ else _ : Dyadic) = newpos at hres
      split at hres <;> (subst hres; rfl)

end Redka.InvP
