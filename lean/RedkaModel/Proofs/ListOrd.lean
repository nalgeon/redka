/-
  Order facts used by the list family (C02): positions are `Dyadic`s under their linear order,
  a strictly sorted list is determined by its members, minimum / maximum of a list of positions,
  and list-level lemmas about removing occurrences, inserting next to a pivot, and selecting
  sublists of a list without duplicates.
-/
import RedkaModel.Proofs.ScanInst
import RedkaModel.Model.List
import RedkaModel.Spec.Seq

namespace Redka.ListOrd

open Redka Redka.Scan Redka.Model

/-! ### the order on positions -/

theorem dy_lt_irrefl (a : Dyadic) : ¬ a < a := Std.lt_irrefl

theorem dy_lt_trans {a b c : Dyadic} (h1 : a < b) (h2 : b < c) : a < c := Std.lt_trans h1 h2

theorem dy_lt_of_le_of_lt {a b c : Dyadic} (h1 : a ≤ b) (h2 : b < c) : a < c :=
  Std.lt_of_le_of_lt h1 h2

theorem dy_lt_of_lt_of_le {a b c : Dyadic} (h1 : a < b) (h2 : b ≤ c) : a < c :=
  Std.lt_of_lt_of_le h1 h2

theorem dy_le_of_lt {a b : Dyadic} (h : a < b) : a ≤ b := Std.le_of_lt h

theorem dy_lt_asymm {a b : Dyadic} (h : a < b) : ¬ b < a := fun h' => dy_lt_irrefl a (dy_lt_trans h h')

theorem dy_lt_or_eq_of_le {a b : Dyadic} (h : a ≤ b) : a < b ∨ a = b := by
  by_cases h' : b ≤ a
  · exact Or.inr (Dyadic.le_antisymm h h')
  · exact Or.inl (Dyadic.not_lt.1 h')

theorem dy_lt_of_le_of_ne {a b : Dyadic} (h : a ≤ b) (hne : a ≠ b) : a < b := by
  rcases dy_lt_or_eq_of_le h with h | h
  · exact h
  · exact absurd h hne

theorem dy_ne_of_lt {a b : Dyadic} (h : a < b) : a ≠ b := fun he => dy_lt_irrefl a (he ▸ h)

theorem strictTotal_dy : StrictTotal (fun (a b : Dyadic) => decide (a < b)) where
  irrefl := by intro a; simp [dy_lt_irrefl a]
  trans := by
    intro a b c h1 h2
    simp only [decide_eq_true_eq] at h1 h2 ⊢
    exact dy_lt_trans h1 h2
  connected := by
    intro a b h1 h2
    simp only [decide_eq_false_iff_not] at h1 h2
    exact Dyadic.le_antisymm (Dyadic.not_le.1 h2) (Dyadic.not_le.1 h1)

/-! ### a strictly sorted list is determined by its members -/

section uniq
variable {β κ : Type} {ltk : κ → κ → Bool} (g : β → κ)

theorem pairwise_ext (ho : StrictTotal ltk) :
    ∀ {a b : List β}, a.Pairwise (fun x y => ltk (g x) (g y) = true) →
      b.Pairwise (fun x y => ltk (g x) (g y) = true) → (∀ z, z ∈ a ↔ z ∈ b) → a = b
  | [], [], _, _, _ => rfl
  | [], y :: _, _, _, h => by have := (h y).2 (by simp); cases this
  | x :: _, [], _, _, h => by have := (h x).1 (by simp); cases this
  | x :: a, y :: b, ha, hb, h => by
    have ha' := List.pairwise_cons.1 ha
    have hb' := List.pairwise_cons.1 hb
    have hxy : x = y := by
      rcases List.mem_cons.1 ((h x).1 (by simp)) with h1 | h1
      · exact h1
      · rcases List.mem_cons.1 ((h y).2 (by simp)) with h2 | h2
        · exact h2.symm
        · have := ho.trans _ _ _ (ha'.1 y h2) (hb'.1 x h1)
          rw [ho.irrefl] at this; cases this
    subst hxy
    have htl : ∀ z, z ∈ a ↔ z ∈ b := by
      intro z
      constructor
      · intro hz
        rcases List.mem_cons.1 ((h z).1 (List.mem_cons_of_mem _ hz)) with h1 | h1
        · have := ha'.1 z hz
          rw [h1, ho.irrefl] at this; cases this
        · exact h1
      · intro hz
        rcases List.mem_cons.1 ((h z).2 (List.mem_cons_of_mem _ hz)) with h1 | h1
        · have := hb'.1 z hz
          rw [h1, ho.irrefl] at this; cases this
        · exact h1
    rw [pairwise_ext ho ha'.2 hb'.2 htl]

theorem nodup_of_pairwise (ho : StrictTotal ltk) {a : List β}
    (h : a.Pairwise (fun x y => ltk (g x) (g y) = true)) : a.Nodup := by
  unfold List.Nodup
  refine List.Pairwise.imp ?_ h
  intro x y hxy he
  rw [he, ho.irrefl] at hxy; cases hxy

theorem key_inj_of_pairwise (ho : StrictTotal ltk) {a : List β}
    (h : a.Pairwise (fun x y => ltk (g x) (g y) = true)) :
    ∀ x ∈ a, ∀ y ∈ a, g x = g y → x = y := by
  induction a with
  | nil => intro x hx; cases hx
  | cons z a ih =>
    have h' := List.pairwise_cons.1 h
    intro x hx y hy he
    rcases List.mem_cons.1 hx with h1 | h1 <;> rcases List.mem_cons.1 hy with h2 | h2
    · rw [h1, h2]
    · have := h'.1 y h2; rw [← h1, he, ho.irrefl] at this; cases this
    · have := h'.1 x h1; rw [← h2, he, ho.irrefl] at this; cases this
    · exact ih h'.2 x h1 y h2 he

end uniq

/-! ### minimum and maximum of a list of positions -/

theorem dyMin_eq_none {l : List Dyadic} : dyMin l = none ↔ l = [] := by
  cases l with
  | nil => simp [dyMin]
  | cons x xs =>
    simp only [dyMin]
    cases dyMin xs <;> simp

theorem dyMax_eq_none {l : List Dyadic} : dyMax l = none ↔ l = [] := by
  cases l with
  | nil => simp [dyMax]
  | cons x xs =>
    simp only [dyMax]
    cases dyMax xs <;> simp

theorem dyMin_spec : ∀ {l : List Dyadic} {m : Dyadic}, dyMin l = some m → m ∈ l ∧ ∀ y ∈ l, m ≤ y
  | [], _, h => by cases h
  | x :: xs, m, h => by
    simp only [dyMin] at h
    cases hm : dyMin xs with
    | none =>
      rw [hm] at h
      have hx : xs = [] := dyMin_eq_none.1 hm
      cases h; subst hx
      exact ⟨by simp, by intro y hy; simp at hy; rw [hy]; exact Dyadic.le_refl _⟩
    | some m' =>
      rw [hm] at h
      obtain ⟨hmem, hle⟩ := dyMin_spec hm
      simp only [Option.some.injEq] at h
      by_cases hlt : x < m'
      · rw [if_pos hlt] at h; subst h
        refine ⟨by simp, ?_⟩
        intro y hy
        rcases List.mem_cons.1 hy with rfl | hy
        · exact Dyadic.le_refl _
        · exact dy_le_of_lt (dy_lt_of_lt_of_le hlt (hle y hy))
      · rw [if_neg hlt] at h; subst h
        refine ⟨List.mem_cons_of_mem _ hmem, ?_⟩
        intro y hy
        rcases List.mem_cons.1 hy with rfl | hy
        · exact Dyadic.not_le.1 hlt
        · exact hle y hy

theorem dyMax_spec : ∀ {l : List Dyadic} {m : Dyadic}, dyMax l = some m → m ∈ l ∧ ∀ y ∈ l, y ≤ m
  | [], _, h => by cases h
  | x :: xs, m, h => by
    simp only [dyMax] at h
    cases hm : dyMax xs with
    | none =>
      rw [hm] at h
      have hx : xs = [] := dyMax_eq_none.1 hm
      cases h; subst hx
      exact ⟨by simp, by intro y hy; simp at hy; rw [hy]; exact Dyadic.le_refl _⟩
    | some m' =>
      rw [hm] at h
      obtain ⟨hmem, hle⟩ := dyMax_spec hm
      simp only [Option.some.injEq] at h
      by_cases hlt : m' < x
      · rw [if_pos hlt] at h; subst h
        refine ⟨by simp, ?_⟩
        intro y hy
        rcases List.mem_cons.1 hy with rfl | hy
        · exact Dyadic.le_refl _
        · exact dy_le_of_lt (dy_lt_of_le_of_lt (hle y hy) hlt)
      · rw [if_neg hlt] at h; subst h
        refine ⟨List.mem_cons_of_mem _ hmem, ?_⟩
        intro y hy
        rcases List.mem_cons.1 hy with rfl | hy
        · exact Dyadic.not_le.1 hlt
        · exact hle y hy

theorem dyMin_eq_of {l : List Dyadic} {m : Dyadic} (hm : m ∈ l) (hle : ∀ y ∈ l, m ≤ y) :
    dyMin l = some m := by
  cases h : dyMin l with
  | none => rw [dyMin_eq_none.1 h] at hm; cases hm
  | some m' =>
    obtain ⟨h1, h2⟩ := dyMin_spec h
    rw [Dyadic.le_antisymm (h2 m hm) (hle m' h1)]

theorem dyMax_eq_of {l : List Dyadic} {m : Dyadic} (hm : m ∈ l) (hle : ∀ y ∈ l, y ≤ m) :
    dyMax l = some m := by
  cases h : dyMax l with
  | none => rw [dyMax_eq_none.1 h] at hm; cases hm
  | some m' =>
    obtain ⟨h1, h2⟩ := dyMax_spec h
    rw [Dyadic.le_antisymm (hle m' h1) (h2 m hm)]

/-! ### selecting and removing members of a list without duplicates -/

section lists
variable {α : Type} [DecidableEq α]

theorem length_filter_not_mem {l S : List α} (hl : l.Nodup) (hS : S.Nodup) (hsub : ∀ x ∈ S, x ∈ l) :
    (l.filter (fun x => !S.contains x)).length + S.length = l.length := by
  have hperm : (l.filter (fun x => S.contains x)).Perm S := by
    rw [List.perm_ext_iff_of_nodup (List.Nodup.sublist List.filter_sublist hl) hS]
    intro a
    rw [List.mem_filter]
    constructor
    · rintro ⟨_, h⟩; simpa using h
    · intro h; exact ⟨hsub a h, by simpa using h⟩
  have := List.length_eq_countP_add_countP (fun x => S.contains x) (l := l)
  simp only [List.countP_eq_length_filter, hperm.length_eq, Bool.not_eq_true, Bool.decide_eq_false] at this
  omega

theorem filter_not_filter (q : α → Bool) (l : List α) :
    l.filter (fun y => !(l.filter q).contains y) = l.filter (fun y => !q y) := by
  apply List.filter_congr
  intro x hx
  cases hq : q x
  · have : x ∉ l.filter q := fun h => by simp [List.mem_filter, hq] at h
    simp [this]
  · have : x ∈ l.filter q := List.mem_filter.2 ⟨hx, hq⟩
    simp [this]

theorem filter_mem_sublist : ∀ {s l : List α}, s.Sublist l → l.Nodup →
    l.filter (fun y => s.contains y) = s
  | _, _, .slnil, _ => rfl
  | s, _, .cons (l₂ := l) a hs, hl => by
    have hl' := List.nodup_cons.1 hl
    have : a ∉ s := fun h => hl'.1 (hs.subset h)
    rw [List.filter_cons]
    simp only [List.contains_eq_mem, this, decide_false, Bool.false_eq_true, if_false]
    have ih := filter_mem_sublist hs hl'.2
    simpa using ih
  | _, _, .cons_cons (l₁ := s) (l₂ := l) a hs, hl => by
    have hl' := List.nodup_cons.1 hl
    rw [List.filter_cons]
    simp only [List.contains_cons, beq_self_eq_true, Bool.true_or, if_true]
    congr 1
    refine Eq.trans (List.filter_congr ?_) (filter_mem_sublist hs hl'.2)
    intro x hx
    have : ¬ x = a := fun he => hl'.1 (he ▸ hx)
    simp [this]

omit [DecidableEq α] in
theorem nodup_reverse {l : List α} (h : l.Nodup) : l.reverse.Nodup := by
  unfold List.Nodup at h ⊢
  rw [List.pairwise_reverse]
  exact List.Pairwise.imp (fun hne he => hne he.symm) h

variable {β : Type} [BEq β] [LawfulBEq β]

omit [LawfulBEq β] in
/-- removing from a duplicate-free list of rows the first `n` rows whose image is `e` is, on the
images, removing the first `n` occurrences of `e` -/
theorem removeFirstN_rows (f : α → β) (e : β) : ∀ (l : List α) (n : Nat), l.Nodup →
    (l.filter (fun y => !((l.filter (fun y => f y == e)).take n).contains y)).map f
      = Spec.removeFirstN e n (l.map f)
  | l, 0, _ => by
    have : l.filter (fun y => !((l.filter (fun y => f y == e)).take 0).contains y) = l := by
      rw [List.filter_eq_self]; intro a _; simp
    rw [this]; simp [Spec.removeFirstN]
  | [], n + 1, _ => by simp [Spec.removeFirstN]
  | y :: ys, n + 1, hl => by
    have hl' := List.nodup_cons.1 hl
    rw [List.map_cons]
    simp only [Spec.removeFirstN]
    cases hq : f y == e with
    | true =>
      simp only [if_true]
      rw [← removeFirstN_rows f e ys n hl'.2]
      rw [List.filter_cons (p := fun y => f y == e), if_pos hq, List.take_succ_cons, List.filter_cons]
      simp only [List.contains_cons, beq_self_eq_true, Bool.true_or, Bool.not_true,
        Bool.false_eq_true, if_false]
      congr 1
      apply List.filter_congr
      intro x hx
      have : ¬ x = y := fun he => hl'.1 (he ▸ hx)
      simp [this]
    | false =>
      simp only [Bool.false_eq_true, if_false]
      rw [← removeFirstN_rows f e ys (n + 1) hl'.2]
      rw [List.filter_cons (p := fun y => f y == e), if_neg (by simp [hq]), List.filter_cons]
      have hy : y ∉ (ys.filter (fun y => f y == e)).take (n + 1) :=
        fun h => hl'.1 (List.mem_filter.1 (List.mem_of_mem_take h)).1
      simp [hy]

omit [LawfulBEq β] in
theorem removeLastN_rows (f : α → β) (e : β) (l : List α) (n : Nat) (hl : l.Nodup) :
    (l.filter (fun y => !((l.filter (fun y => f y == e)).reverse.take n).contains y)).map f
      = Spec.removeLastN e n (l.map f) := by
  have h := removeFirstN_rows f e l.reverse n (nodup_reverse hl)
  rw [List.filter_reverse, List.filter_reverse, List.map_reverse, List.map_reverse] at h
  unfold Spec.removeLastN
  rw [← h, List.reverse_reverse]

omit [DecidableEq α] [LawfulBEq β] in
theorem removeFirstN_length_le (e : β) : ∀ (n : Nat) (l : List β),
    (Spec.removeFirstN e n l).length ≤ l.length
  | 0, l => by simp [Spec.removeFirstN]
  | n + 1, [] => by simp [Spec.removeFirstN]
  | n + 1, y :: ys => by
    simp only [Spec.removeFirstN]
    split
    · have := removeFirstN_length_le e n ys; simp; omega
    · have := removeFirstN_length_le e (n + 1) ys; simp; omega

omit [DecidableEq α] in
theorem split_first (q : α → Bool) : ∀ l : List α,
    (∃ pre x post, l = pre ++ x :: post ∧ q x = true ∧ ∀ y ∈ pre, q y = false) ∨
    (∀ y ∈ l, q y = false)
  | [] => Or.inr (by simp)
  | a :: l => by
    cases hq : q a with
    | true => exact Or.inl ⟨[], a, l, rfl, hq, by simp⟩
    | false =>
      rcases split_first q l with ⟨pre, x, post, hl, hx, hpre⟩ | hall
      · refine Or.inl ⟨a :: pre, x, post, by rw [hl]; rfl, hx, ?_⟩
        intro y hy
        rcases List.mem_cons.1 hy with rfl | hy
        · exact hq
        · exact hpre y hy
      · refine Or.inr ?_
        intro y hy
        rcases List.mem_cons.1 hy with rfl | hy
        · exact hq
        · exact hall y hy

omit [DecidableEq α] [LawfulBEq β] in
theorem insertAt_none (p x : β) (after : Bool) : ∀ l : List β, (∀ y ∈ l, (y == p) = false) →
    Spec.insertAt p x after l = none
  | [], _ => rfl
  | a :: l, h => by
    simp only [Spec.insertAt, h a (by simp), Bool.false_eq_true, if_false]
    rw [insertAt_none p x after l (fun y hy => h y (List.mem_cons_of_mem _ hy))]
    rfl

omit [DecidableEq α] [LawfulBEq β] in
theorem insertAt_split (p x : β) (after : Bool) (a : β) (ha : (a == p) = true) (post : List β) :
    ∀ pre : List β, (∀ y ∈ pre, (y == p) = false) →
    Spec.insertAt p x after (pre ++ a :: post)
      = some (if after then pre ++ a :: x :: post else pre ++ x :: a :: post)
  | [], _ => by simp [Spec.insertAt, ha]
  | b :: pre, h => by
    simp only [List.cons_append, Spec.insertAt, h b (by simp), Bool.false_eq_true, if_false]
    rw [insertAt_split p x after a ha post pre (fun y hy => h y (List.mem_cons_of_mem _ hy))]
    cases after <;> rfl

end lists

end Redka.ListOrd
