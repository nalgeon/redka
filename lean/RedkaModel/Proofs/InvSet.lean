/-
  C11 — the set repository (`internal/rset`) preserves the invariant.
-/
import RedkaModel.Proofs.InvPrim

namespace Redka.InvP

open Redka Redka.Model

variable {db : DB}

/-- `insert into rset` + trigger `rset_on_insert` -/
theorem setInsertRow_wf (h : WF db) {kid : Int} (ho : Owner db kid TSet) {e : Bytes} {db' : DB}
    (he : setInsertRow db kid e = some db') : WF db' ∧ Owner db' kid TSet := by
  unfold setInsertRow at he
  split at he
  · cases he
  · rename_i hany
    have hany : ∀ y ∈ db.sets, ¬(y.kid = kid ∧ y.elem = e) := fun y hy hc =>
      hany (List.any_eq_true.2 ⟨y, hy, Bool.and_eq_true_iff.2 ⟨beq_iff_eq.2 hc.1, beq_iff_eq.2 hc.2⟩⟩)
    simp only [Option.some.injEq] at he
    subst he
    have h1 : WFd (fun i => if i = kid then -1 else 0)
        { db with sets := db.sets ++ [({ rowid := db.nextSetRowid, kid := kid, elem := e } : SetRow)] } := by
      refine WFd.setSets h _ ?_ ?_ ?_ ?_
      · intro x hx
        rcases List.mem_append.1 hx with hx | hx
        · exact h.oT x hx
        · rw [List.mem_singleton] at hx; subst hx; exact ho
      · refine pairwise_append_one h.uT _ (fun y hy heq => hany y hy ?_)
        simpa using heq
      · refine pairwise_append_one h.rT _ (fun y hy => ?_)
        have := rowid_lt_nextSetRowid db y hy
        show y.rowid ≠ db.nextSetRowid
        omega
      · intro o _
        have := count_append (fun y : SetRow => y.kid) db.sets
          { rowid := db.nextSetRowid, kid := kid, elem := e } o.id
        simp only [cT] at this ⊢
        omega
    have ho1 : Owner { db with sets := db.sets ++ [({ rowid := db.nextSetRowid, kid := kid, elem := e } : SetRow)] } kid TSet := ho
    exact ⟨h1.settle ho1 (by decide) rfl _ (fun r _ _ => ⟨rfl, rfl, rfl, rfl⟩),
      ho1.updKey _ _ (fun _ => ⟨rfl, rfl⟩)⟩

/-- delete some rows of one set, then `len = len - n` on its key -/
theorem setRemove_wf (h : WF db) {kid : Int} (ho : Owner db kid TSet) (q : SetRow → Bool)
    (f : KeyRow → KeyRow)
    (hf : ∀ r ∈ db.keys, r.id = kid → (f r).id = r.id ∧ (f r).key = r.key ∧ (f r).ty = r.ty ∧
      (f r).len = r.len.map (· - ((db.sets.filter (fun x => x.kid == kid && q x)).length : Int))) :
    WF (DB.updKey { db with sets := db.sets.filter (fun x => !(x.kid == kid && q x)) } kid f) := by
  have h1 : WFd (fun i => if i = kid then ((db.sets.filter (fun x => x.kid == kid && q x)).length : Int) else 0)
      { db with sets := db.sets.filter (fun x => !(x.kid == kid && q x)) } := by
    refine WFd.setSets h _ (fun x hx => h.oT x (List.mem_filter.1 hx).1) (h.uT.filter _) (h.rT.filter _) ?_
    intro o _
    have := count_remove (·.kid) q db.sets kid o.id
    simp only [cT]
    omega
  have ho1 : Owner { db with sets := db.sets.filter (fun x => !(x.kid == kid && q x)) } kid TSet := ho
  exact h1.settle ho1 (by decide) (Int.add_right_neg _) f hf

theorem setAddKey_wf (h : WF db) {k : Bytes} {now : Int} {db1 : DB} {r : KeyRow}
    (he : setAddKey db k now = .ok (db1, r)) : WF db1 ∧ Owner db1 r.id TSet :=
  h.keyUpsert_plain (by decide) he (fun _ => ⟨rfl, rfl, rfl, rfl⟩) (fun _ => ⟨rfl, rfl, rfl, rfl⟩)

theorem setAddElems_wf {kid : Int} (es : List Bytes) :
    ∀ {db : DB} (n : Int), WF db → Owner db kid TSet →
      WF (setAddElems db kid es n).1 ∧ Owner (setAddElems db kid es n).1 kid TSet := by
  induction es with
  | nil => intro db n h ho; exact ⟨h, ho⟩
  | cons e es ih =>
    intro db n h ho
    unfold setAddElems
    split
    · exact ih n h ho
    · rename_i db' he
      obtain ⟨h', ho'⟩ := setInsertRow_wf h ho he
      exact ih (n + 1) h' ho'

theorem setAdd_wf (h : WF db) (k : Bytes) (es : List Bytes) (now : Int) :
    WF (setAdd db k es now).db := by
  unfold setAdd
  split
  · exact h
  · rename_i db1 r he
    obtain ⟨h1, ho1⟩ := setAddKey_wf h he
    exact (setAddElems_wf es 0 h1 ho1).1

theorem setRemoveLive_wf (h : WF db) {k : Bytes} {now : Int} {r : KeyRow}
    (hl : db.liveKeyT k TSet now = some r) (q : SetRow → Bool) :
    WF (setUpdKeyAfterDelete { db with sets := db.sets.filter (fun x => !(x.kid == r.id && q x)) } k
      ((db.sets.filter (fun x => x.kid == r.id && q x)).length : Int) now) := by
  unfold setUpdKeyAfterDelete
  have : DB.liveKeyT { db with sets := db.sets.filter (fun x => !(x.kid == r.id && q x)) } k TSet now
      = some r := hl
  rw [this]
  exact setRemove_wf h (liveKeyT_owner hl) q _ (fun _ _ _ => ⟨rfl, rfl, rfl, rfl⟩)

theorem setDelete_wf (h : WF db) (k : Bytes) (es : List Bytes) (now : Int) :
    WF (setDelete db k es now).db := by
  unfold setDelete
  split
  · exact h
  · rename_i r hl
    simp only
    split
    · exact h
    · exact setRemoveLive_wf h hl (fun x => es.contains x.elem)

theorem setPop_wf (h : WF db) (k : Bytes) (oracle : Option Bytes) (now : Int) :
    WF (setPop db k oracle now).db := by
  unfold setPop
  split
  · split <;> exact h
  · rename_i r hl
    simp only
    split
    · split <;> exact h
    · rename_i e
      split
      · rename_i hany
        have hone : ((db.sets.filter (fun x => x.kid == r.id && x.elem == e)).length : Int) = 1 := by
          have hle := length_filter_le_one h.uT (fun x => x.kid == r.id && x.elem == e)
            (fun a b ha hb hR => by
              simp only [Bool.and_eq_true, beq_iff_eq] at ha hb
              exact hR (by rw [ha.1, ha.2, hb.1, hb.2]))
          have hpos : 0 < (db.sets.filter (fun x => x.kid == r.id && x.elem == e)).length := by
            rw [List.length_filter_pos_iff]
            obtain ⟨x, hx, hxe⟩ := List.any_eq_true.1 hany
            unfold setRows at hx
            rw [mem_sortBy, List.mem_filter] at hx
            exact ⟨x, hx.1, by rw [hx.2, hxe]; rfl⟩
          omega
        have := setRemoveLive_wf h hl (fun x => x.elem == e)
        rw [hone] at this
        exact this
      · exact h


/-- `deleteKey`: all rows of the destination set go, its key row is reset -/
theorem setDeleteKey_wf (h : WF db) (k : Bytes) (now : Int) : WF (setDeleteKey db k now) := by
  unfold setDeleteKey
  split
  · exact h
  · rename_i r hl
    have ho := liveKeyT_owner hl
    have hfil : db.sets.filter (fun x => x.kid != r.id)
        = db.sets.filter (fun x => !(x.kid == r.id && (fun _ => true) x)) := by
      apply List.filter_congr; intro x _; simp [bne]
    simp only [hfil]
    refine setRemove_wf h ho (fun _ => true) _ ?_
    intro o ho' e
    refine ⟨rfl, rfl, rfl, ?_⟩
    have hty : o.ty = TSet := ho.ty_eq h.uId ho' e
    have hlen := (h.cnt o ho').2 (by rw [hty]; decide)
    have hm := (meas_eq db h.uId h.oS h.oL h.oT h.oH h.oZ ho' (h.ty o ho')).2 (by rw [hty]; decide)
    have hcc : db.childCount o = ((db.sets.filter (fun x => x.kid == o.id)).length : Int) := by
      simp [DB.childCount, hty, TSet, TList]
    rw [hlen, hm, hcc, e]
    simp

theorem setInsertAll_wf {kid : Int} (es : List Bytes) :
    ∀ {db : DB} (n : Int) {db3 : DB} {m : Int}, WF db → Owner db kid TSet →
      setInsertAll db kid es n = .ok (db3, m) → WF db3 := by
  induction es with
  | nil =>
    intro db n db3 m h _ he
    simp only [setInsertAll, Except.ok.injEq, Prod.mk.injEq] at he
    exact he.1 ▸ h
  | cons e es ih =>
    intro db n db3 m h ho he
    unfold setInsertAll at he
    split at he
    · cases he
    · rename_i db' hi
      obtain ⟨h', ho'⟩ := setInsertRow_wf h ho hi
      exact ih (n + 1) h' ho' he

theorem setStore_wf (h : WF db) (d : Bytes) (ks : List Bytes) (now : Int)
    (compute : DB → List Bytes) : WF (setStore db d ks now compute).db := by
  unfold setStore
  split
  · exact h
  · have h1 := setDeleteKey_wf h d now
    simp only
    split
    · exact h1
    · rename_i db2 r he
      obtain ⟨h2, ho2⟩ := setAddKey_wf h1 he
      split
      · exact h2
      · rename_i db3 n hi
        exact setInsertAll_wf _ 0 h2 ho2 hi

theorem setDiffStore_wf (h : WF db) (d : Bytes) (ks : List Bytes) (now : Int) :
    WF (setDiffStore db d ks now).db := setStore_wf h d ks now _
theorem setInterStore_wf (h : WF db) (d : Bytes) (ks : List Bytes) (now : Int) :
    WF (setInterStore db d ks now).db := setStore_wf h d ks now _
theorem setUnionStore_wf (h : WF db) (d : Bytes) (ks : List Bytes) (now : Int) :
    WF (setUnionStore db d ks now).db := setStore_wf h d ks now _

theorem setMove_wf (h : WF db) (s d e : Bytes) (now : Int) : WF (setMove db s d e now).db := by
  unfold setMove
  have h1 := setDelete_wf h s [e] now
  have h2 := setAdd_wf h1 d [e] now
  simp only
  split
  · exact h1
  · split
    · exact h1
    · split <;> exact h2
  · exact h1

end Redka.InvP
