/-
  C11 — the sorted-set repository (`internal/rzset`) preserves the invariant.
-/
import RedkaModel.Proofs.InvPrim

namespace Redka.InvP

open Redka Redka.Model

variable {db : DB}

/-- insert of a fresh member + trigger `rzset_on_insert` -/
theorem zInsertNew_wf (h : WF db) {kid : Int} (ho : Owner db kid TZSet) (e : Bytes) (s : Score)
    (hnew : ∀ y ∈ db.zsets, ¬(y.kid == kid && y.elem == e) = true) :
    WF (zInsertNew db kid e s) ∧ Owner (zInsertNew db kid e s) kid TZSet := by
  unfold zInsertNew
  have h1 : WFd (fun i => if i = kid then -1 else 0)
      { db with zsets := db.zsets ++
        [({ rowid := db.nextZRowid, kid := kid, elem := e, score := s } : ZRow)] } := by
    refine WFd.setZSets h _ ?_ ?_ ?_ ?_
    · intro x hx
      rcases List.mem_append.1 hx with hx | hx
      · exact h.oZ x hx
      · rw [List.mem_singleton] at hx; subst hx; exact ho
    · refine pairwise_append_one h.uZ _ (fun y hy heq => hnew y hy ?_)
      simpa using heq
    · refine pairwise_append_one h.rZ _ (fun y hy => ?_)
      have := rowid_lt_nextZRowid db y hy
      show y.rowid ≠ db.nextZRowid
      omega
    · intro o _
      have := count_append (fun y : ZRow => y.kid) db.zsets
        { rowid := db.nextZRowid, kid := kid, elem := e, score := s } o.id
      simp only [cZ] at this ⊢
      omega
  have ho1 : Owner { db with zsets := db.zsets ++
      [({ rowid := db.nextZRowid, kid := kid, elem := e, score := s } : ZRow)] } kid TZSet := ho
  exact ⟨h1.settle ho1 (by decide) rfl _ (fun r _ _ => ⟨rfl, rfl, rfl, rfl⟩),
    ho1.updKey _ _ (fun _ => ⟨rfl, rfl⟩)⟩

/-- `sqlAdd2`: `on conflict (kid, elem) do update set score = …` -/
theorem zSetRow_wf (h : WF db) {kid : Int} (ho : Owner db kid TZSet) (e : Bytes) (s : Score) :
    WF (zSetRow db kid e s) ∧ Owner (zSetRow db kid e s) kid TZSet := by
  unfold zSetRow
  split
  · -- the update touches the score only
    have hg : ∀ x : ZRow, (if (x.kid == kid && x.elem == e) = true then { x with score := s } else x).rowid
          = x.rowid ∧
        (if (x.kid == kid && x.elem == e) = true then { x with score := s } else x).kid = x.kid ∧
        (if (x.kid == kid && x.elem == e) = true then { x with score := s } else x).elem = x.elem :=
      fun x => by split <;> exact ⟨rfl, rfl, rfl⟩
    refine ⟨WFd.setZSets h _ ?_ ?_ ?_ ?_, ho⟩
    · intro x hx
      obtain ⟨y, hy, rfl⟩ := List.mem_map.1 hx
      rw [(hg y).2.1]; exact h.oZ y hy
    · rw [List.pairwise_map]
      exact h.uZ.imp (fun hab => by rw [(hg _).2.1, (hg _).2.2, (hg _).2.1, (hg _).2.2]; exact hab)
    · rw [List.pairwise_map]
      exact h.rZ.imp (fun hab => by rw [(hg _).1, (hg _).1]; exact hab)
    · intro o _
      rw [length_filter_map_kid (·.kid) _ (fun x => (hg x).2.1) db.zsets o.id]; rfl
  · rename_i hany
    exact zInsertNew_wf h ho e s (List.any_eq_false.1 (by simpa using hany))

theorem zAddKey_wf (h : WF db) {k : Bytes} {now : Int} {db1 : DB} {r : KeyRow}
    (he : zAddKey db k now = .ok (db1, r)) : WF db1 ∧ Owner db1 r.id TZSet :=
  h.keyUpsert_plain (by decide) he (fun _ => ⟨rfl, rfl, rfl, rfl⟩) (fun _ => ⟨rfl, rfl, rfl, rfl⟩)

theorem zAddTx_wf (h : WF db) {k e : Bytes} {s : Score} {now : Int} {d : DB}
    (he : zAddTx db k e s now = .ok d) : WF d := by
  unfold zAddTx at he
  split at he
  · cases he
  · rename_i db1 r hk
    obtain ⟨h1, ho1⟩ := zAddKey_wf h hk
    simp only [Except.ok.injEq] at he
    exact he ▸ (zSetRow_wf h1 ho1 e s).1

theorem zAdd_wf (h : WF db) (k e : Bytes) (s : Score) (now : Int) : WF (zAdd db k e s now).db := by
  unfold zAdd
  simp only
  split
  · exact h
  · rename_i d he; exact zAddTx_wf h he

theorem zAddManyLoop_wf (k : Bytes) (now : Int) (items : List (Bytes × Score)) :
    ∀ {db : DB}, WF db → WF (zAddManyLoop db k now items).2 := by
  induction items with
  | nil => intro db h; exact h
  | cons p rest ih =>
    intro db h
    obtain ⟨e, s⟩ := p
    unfold zAddManyLoop
    split
    · exact h
    · rename_i d he; exact ih (zAddTx_wf h he)

theorem zAddMany_wf (h : WF db) (k : Bytes) (items : List (Bytes × Score)) (now : Int) :
    WF (zAddMany db k items now).db := by
  unfold zAddMany
  have := zAddManyLoop_wf k now items h
  simp only
  split <;> (rename_i he; rw [he] at this; exact this)

theorem zIncr_wf (h : WF db) (k e : Bytes) (d : Score) (now : Int) : WF (zIncr db k e d now).db := by
  unfold zIncr
  split
  · exact h
  · rename_i db1 r hk
    obtain ⟨h1, ho1⟩ := zAddKey_wf h hk
    split
    · rename_i hfind
      exact (zInsertNew_wf h1 ho1 e d (List.find?_eq_none.1 hfind)).1
    · split
      · exact h1
      · exact (zSetRow_wf h1 ho1 e _).1

/-- delete some members of one sorted set, then `len = len - n` on its key -/
theorem zRemove_wf (h : WF db) {kid : Int} (ho : Owner db kid TZSet) (q : ZRow → Bool)
    (f : KeyRow → KeyRow)
    (hf : ∀ r ∈ db.keys, r.id = kid → (f r).id = r.id ∧ (f r).key = r.key ∧ (f r).ty = r.ty ∧
      (f r).len = r.len.map (· - ((db.zsets.filter (fun x => x.kid == kid && q x)).length : Int))) :
    WF (DB.updKey { db with zsets := db.zsets.filter (fun x => !(x.kid == kid && q x)) } kid f) := by
  have h1 : WFd (fun i => if i = kid then ((db.zsets.filter (fun x => x.kid == kid && q x)).length : Int) else 0)
      { db with zsets := db.zsets.filter (fun x => !(x.kid == kid && q x)) } := by
    refine WFd.setZSets h _ (fun x hx => h.oZ x (List.mem_filter.1 hx).1) (h.uZ.filter _) (h.rZ.filter _) ?_
    intro o _
    have := count_remove (·.kid) q db.zsets kid o.id
    simp only [cZ]
    omega
  have ho1 : Owner { db with zsets := db.zsets.filter (fun x => !(x.kid == kid && q x)) } kid TZSet := ho
  exact h1.settle ho1 (by decide) (Int.add_right_neg _) f hf

theorem zDeleteWhere_wf (h : WF db) (k : Bytes) (victims : List Bytes) (now : Int) :
    WF (zDeleteWhere db k victims now).db := by
  unfold zDeleteWhere
  split
  · exact h
  · rename_i r hl
    simp only
    split
    · exact h
    · unfold zUpdKeyAfterDelete
      have : DB.liveKeyT { db with zsets := db.zsets.filter (fun x => !(x.kid == r.id && victims.contains x.elem)) }
          k TZSet now = some r := hl
      rw [this]
      exact zRemove_wf h (liveKeyT_owner hl) (fun x => victims.contains x.elem) _
        (fun _ _ _ => ⟨rfl, rfl, rfl, rfl⟩)

theorem zDelete_wf (h : WF db) (k : Bytes) (es : List Bytes) (now : Int) :
    WF (zDelete db k es now).db := zDeleteWhere_wf h k es now

theorem zDeleteRank_wf (h : WF db) (k : Bytes) (a b now : Int) :
    WF (zDeleteRank db k a b now).db := by
  unfold zDeleteRank
  split
  · exact h
  · split
    · exact h
    · exact zDeleteWhere_wf h k _ now

theorem zDeleteScore_wf (h : WF db) (k : Bytes) (lo hi : Score) (now : Int) :
    WF (zDeleteScore db k lo hi now).db := zDeleteWhere_wf h k _ now

/-- `sqlDeleteAll1`, `sqlDeleteAll2` -/
theorem zDeleteAll_wf (h : WF db) (k : Bytes) (now : Int) : WF (zDeleteAll db k now) := by
  unfold zDeleteAll
  split
  · exact h
  · rename_i r hl
    have ho := liveKeyT_owner hl
    have hfil : db.zsets.filter (fun x => x.kid != r.id)
        = db.zsets.filter (fun x => !(x.kid == r.id && (fun _ => true) x)) := by
      apply List.filter_congr; intro x _; simp [bne]
    simp only [hfil]
    refine zRemove_wf h ho (fun _ => true) _ ?_
    intro o ho' e
    refine ⟨rfl, rfl, rfl, ?_⟩
    have hty : o.ty = TZSet := ho.ty_eq h.uId ho' e
    have hlen := (h.cnt o ho').2 (by rw [hty]; decide)
    have hm := (meas_eq db h.uId h.oS h.oL h.oT h.oH h.oZ ho' (h.ty o ho')).2 (by rw [hty]; decide)
    have hcc : db.childCount o = ((db.zsets.filter (fun x => x.kid == o.id)).length : Int) := by
      simp [DB.childCount, hty, TZSet, TSet, TList, THash]
    rw [hlen, hm, hcc, e]
    simp

theorem zInsertAll_wf {kid : Int} (items : List (Bytes × Option Score)) :
    ∀ {db : DB} (n : Int) {db3 : DB} {m : Int}, WF db → Owner db kid TZSet →
      zInsertAll db kid items n = .ok (db3, m) → WF db3 := by
  induction items with
  | nil =>
    intro db n db3 m h _ he
    simp only [zInsertAll, Except.ok.injEq, Prod.mk.injEq] at he
    exact he.1 ▸ h
  | cons p rest ih =>
    intro db n db3 m h ho he
    obtain ⟨e, s⟩ := p
    unfold zInsertAll at he
    split at he
    · cases he
    · rename_i s
      split at he
      · cases he
      · rename_i hany
        obtain ⟨h', ho'⟩ := zInsertNew_wf h ho e s (List.any_eq_false.1 (by simpa using hany))
        exact ih (n + 1) h' ho' he

theorem zCombineStore_wf (h : WF db) (d : Bytes) (ks : List Bytes) (agg : Agg) (inter : Bool)
    (now : Int) : WF (zCombineStore db d ks agg inter now).db := by
  unfold zCombineStore
  have h1 := zDeleteAll_wf h d now
  simp only
  split
  · exact h1
  · rename_i db2 r he
    obtain ⟨h2, ho2⟩ := zAddKey_wf h1 he
    split
    · exact h2
    · rename_i db3 n hi
      exact zInsertAll_wf _ 0 h2 ho2 hi

end Redka.InvP
