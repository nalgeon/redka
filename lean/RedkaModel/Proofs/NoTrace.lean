/-
  Helper lemmas for property C12 ("no trace"): every read leaves the six tables exactly as they
  were; every refused `DB`-level call does; every nothing-to-do outcome of a `Tx` method does
  (the classifier `K` of excluded cases is empty since the list-insert defect D04 was repaired).

  Names: `X_db` — the reader `X` returns its tables; `X_hard` — an error reported by `X` is not one
  of the two soft ones (`notFound`, `pivotNotFound`); `X_err` — `X` reporting any error has not
  written; `X_soft` — `X` reporting a soft error has not written; `X_idle` — a count- or
  flag-returning writer whose outcome is its "nothing done" value or an error has not written;
  `X_false` / `X_nochange` — the same for one `ok` value.  Over all 85 constructors of `Op`:
  `read_notrace`, `soft_error_notrace`, `ok_ntd_notrace` and their sum `nothing_to_do_notrace` at
  `Tx` level, `refusal_notrace_db` and `nothing_to_do_notrace_db` on the handle.
-/
import RedkaModel.Proofs.Dispatch
import RedkaModel.Proofs.InvPrim
import RedkaModel.Proofs.Str

namespace Redka.Proofs.NoTrace

open Redka Redka.Model Redka.Dispatch

/-- closes `(f db …).db = db` for a function whose every branch returns `db` -/
macro "same_db" : tactic =>
  `(tactic| repeat' (first | rfl | split | (dsimp only)))

theorem strGet_db (db : DB) (k : Bytes) (now : Int) : (strGet db k now).db = db := by unfold strGet; same_db
theorem strGetMany_db (db ks now) : (strGetMany db ks now).db = db := rfl
theorem keyCount_db (db ks now) : (keyCount db ks now).db = db := rfl
theorem keyExists_db (db k now) : (keyExists db k now).db = db := rfl
theorem keyGet_db (db : DB) (k : Bytes) (now : Int) : (keyGet db k now).db = db := by unfold keyGet; same_db
theorem keyKeys_db (db p now) : (keyKeys db p now).db = db := rfl
theorem keyLen_db (db) : (keyLen db).db = db := rfl
theorem keyRandom_db (db : DB) (o : Option Bytes) (now : Int) : (keyRandom db o now).db = db := by
  unfold keyRandom; same_db
theorem keyScan_db (db c p t n now) : (keyScan db c p t n now).db = db := rfl
theorem listGet_db (db : DB) (k : Bytes) (i now : Int) : (listGet db k i now).db = db := by
  unfold listGet; same_db
theorem listLen_db (db : DB) (k : Bytes) (now : Int) : (listLen db k now).db = db := by
  unfold listLen; same_db
theorem listRange_db (db : DB) (k : Bytes) (a b now : Int) : (listRange db k a b now).db = db := by
  unfold listRange; same_db
theorem setDiff_db (db ks now) : (setDiff db ks now).db = db := rfl
theorem setInter_db (db : DB) (ks : List Bytes) (now : Int) : (setInter db ks now).db = db := by
  unfold setInter; same_db
theorem setUnion_db (db : DB) (ks : List Bytes) (now : Int) : (setUnion db ks now).db = db := by
  unfold setUnion; same_db
theorem setExists_db (db : DB) (k e : Bytes) (now : Int) : (setExists db k e now).db = db := by
  unfold setExists; same_db
theorem setItems_db (db : DB) (k : Bytes) (now : Int) : (setItems db k now).db = db := by
  unfold setItems; same_db
theorem setLen_db (db : DB) (k : Bytes) (now : Int) : (setLen db k now).db = db := by unfold setLen; same_db
theorem setRandom_db (db : DB) (k : Bytes) (o : Option Bytes) (now : Int) : (setRandom db k o now).db = db := by
  unfold setRandom; same_db
theorem setScan_db (db : DB) (k : Bytes) (c : Int) (p : Bytes) (n now : Int) : (setScan db k c p n now).db = db := by
  unfold setScan; same_db
theorem hashExists_db (db k f now) : (hashExists db k f now).db = db := rfl
theorem hashFields_db (db k now) : (hashFields db k now).db = db := rfl
theorem hashGet_db (db : DB) (k f : Bytes) (now : Int) : (hashGet db k f now).db = db := by
  unfold hashGet; same_db
theorem hashGetMany_db (db k fs now) : (hashGetMany db k fs now).db = db := rfl
theorem hashItems_db (db k now) : (hashItems db k now).db = db := rfl
theorem hashLen_db (db : DB) (k : Bytes) (now : Int) : (hashLen db k now).db = db := by
  unfold hashLen; same_db
theorem hashScan_db (db k c p n now) : (hashScan db k c p n now).db = db := rfl
theorem hashValues_db (db k now) : (hashValues db k now).db = db := rfl
theorem zCount_db (db k lo hi now) : (zCount db k lo hi now).db = db := rfl
theorem zGetRank_db (db : DB) (k e : Bytes) (r : Bool) (now : Int) : (zGetRank db k e r now).db = db := by
  unfold zGetRank; same_db
theorem zGetScore_db (db : DB) (k e : Bytes) (now : Int) : (zGetScore db k e now).db = db := by
  unfold zGetScore; same_db
theorem zCombineRun_db (db : DB) (ks : List Bytes) (a : Agg) (i : Bool) (now : Int) : (zCombineRun db ks a i now).db = db := by
  unfold zCombineRun; same_db
theorem zLen_db (db : DB) (k : Bytes) (now : Int) : (zLen db k now).db = db := by unfold zLen; same_db
theorem zRangeRank_db (db : DB) (k : Bytes) (a b : Int) (d : Bool) (now : Int) : (zRangeRank db k a b d now).db = db := by
  unfold zRangeRank; same_db
theorem zRangeScore_db (db k lo hi d o c now) : (zRangeScore db k lo hi d o c now).db = db := rfl
theorem zScan_db (db : DB) (k : Bytes) (c : Int) (p : Bytes) (n now : Int) : (zScan db k c p n now).db = db := by
  unfold zScan; same_db

/-- C12, first clause, at `Tx` level: a pure read returns the very same tables. -/
theorem read_notrace (inTx : Bool) (op : Op) (now : Int) (db : DB)
    (h : Spec.isRead op = true) : (Model.tx inTx op now db).db = db := by
  cases op with
  | strGet => exact strGet_db ..
  | strGetMany => exact strGetMany_db ..
  | keyCount => exact keyCount_db ..
  | keyExists => exact keyExists_db ..
  | keyGet => exact keyGet_db ..
  | keyKeys => exact keyKeys_db ..
  | keyLen => exact keyLen_db ..
  | keyRandom => exact keyRandom_db ..
  | keyScan => exact keyScan_db ..
  | listGet => exact listGet_db ..
  | listLen => exact listLen_db ..
  | listRange => exact listRange_db ..
  | setDiff => exact setDiff_db ..
  | setInter => exact setInter_db ..
  | setUnion => exact setUnion_db ..
  | setExists => exact setExists_db ..
  | setItems => exact setItems_db ..
  | setLen => exact setLen_db ..
  | setRandom => exact setRandom_db ..
  | setScan => exact setScan_db ..
  | hashExists => exact hashExists_db ..
  | hashFields => exact hashFields_db ..
  | hashGet => exact hashGet_db ..
  | hashGetMany => exact hashGetMany_db ..
  | hashItems => exact hashItems_db ..
  | hashLen => exact hashLen_db ..
  | hashScan => exact hashScan_db ..
  | hashValues => exact hashValues_db ..
  | zCount => exact zCount_db ..
  | zGetRank => exact zGetRank_db ..
  | zGetRankRev => exact zGetRank_db ..
  | zGetScore => exact zGetScore_db ..
  | zInter => exact zCombineRun_db ..
  | zUnion => exact zCombineRun_db ..
  | zLen => exact zLen_db ..
  | zRangeRank => exact zRangeRank_db ..
  | zRangeScore => exact zRangeScore_db ..
  | zScan => exact zScan_db ..
  | _ => cases h

/-- the two error values that mean "nothing to do" -/
def Soft (e : Err) : Prop := e = .notFound ∨ e = .pivotNotFound

instance (e : Err) : Decidable (Soft e) := inferInstanceAs (Decidable (_ ∨ _))

/-- the outcomes after which a count- or flag-returning writer must have left the tables alone:
its "nothing done" value `v`, or any error -/
def Idle (v : Val) (o : Out) : Prop := o = .ok v ∨ ∃ e, o = .error e

theorem Idle.count_zero {n : Int} {d : DB} (h : Idle (.int 0) (Res.ok (.int n) d).out) : n = 0 := by
  rcases h with h | ⟨e, h⟩ <;> cases h
  rfl

theorem keyUpsert_hard {db k ty n o e} (h : keyUpsert db k ty n o = .error e) : ¬ Soft e := by
  cases InvP.keyUpsert_error h; decide

theorem strSet2_hard {db k v e} (h : strSet2 db k v = .error e) : ¬ Soft e := by
  unfold strSet2 at h
  split at h
  · cases h; intro hs; cases hs <;> contradiction
  · split at h <;> cases h

theorem strWrite_hard {db k v onNew onOld e} (h : (strWrite db k v onNew onOld).1 = .error e) :
    ¬ Soft e := by
  unfold strWrite at h
  split at h
  · rename_i e' he; cases h; exact keyUpsert_hard he
  · split at h
    · rename_i e' he; cases h; exact strSet2_hard he
    · cases h

theorem strSetTx_hard {db k v et now e} (h : (strSetTx db k v et now).1 = .error e) : ¬ Soft e :=
  strWrite_hard (strSetTx_eq db k v et now ▸ h)

theorem strUpdateTx_hard {db k v now e} (h : (strUpdateTx db k v now).1 = .error e) : ¬ Soft e :=
  strWrite_hard (strUpdateTx_eq db k v now ▸ h)

theorem strSet_soft {db k v et now e} (hs : Soft e) (h : (strSet db k v et now).out = .error e) :
    (strSet db k v et now).db = db := by
  revert h; unfold strSet; split <;> intro h
  · rename_i e' d he; cases h
    exact absurd hs (strSetTx_hard (by rw [he]))
  · cases h

theorem strIncr_soft {db k d now e} (hs : Soft e) (h : (strIncr db k d now).out = .error e) :
    (strIncr db k d now).db = db := by
  revert h; unfold strIncr; dsimp only; split
  · intro _; rfl
  · split <;> intro h
    · rename_i e' d he; cases h
      exact absurd hs (strUpdateTx_hard (by rw [he]))
    · cases h

theorem strIncrFloat_soft {db k d now e} (hs : Soft e) (h : (strIncrFloat db k d now).out = .error e) :
    (strIncrFloat db k d now).db = db := by
  revert h; unfold strIncrFloat; dsimp only; split
  · intro _; rfl
  · intro _; rfl
  · split
    · split <;> intro _ <;> rfl
    · split <;> intro h
      · rename_i e' d he; cases h
        exact absurd hs (strUpdateTx_hard (by rw [he]))
      · cases h

theorem strSetMany_soft {db items now e} (hs : Soft e) (h : (strSetMany db items now).out = .error e) :
    (strSetMany db items now).db = db := by
  exfalso
  induction items generalizing db with
  | nil => cases h
  | cons it rest ih =>
    obtain ⟨k, v⟩ := it
    unfold strSetMany at h
    split at h
    · rename_i e' d he; cases h
      exact absurd hs (strSetTx_hard (by rw [he]))
    · exact ih h

theorem strSetWith_soft {db k v o now e} (hs : Soft e) (h : (strSetWith db k v o now).out = .error e) :
    (strSetWith db k v o now).db = db := by
  revert h; unfold strSetWith; dsimp only
  split
  · intro _; rfl
  · split
    · intro _; rfl
    · split <;> intro h
      · rename_i e' d he; cases h
        split at he
        · exact absurd hs (strUpdateTx_hard (by rw [he]))
        · exact absurd hs (strSetTx_hard (by rw [he]))
      · cases h

theorem strSetWith_nochange {db k v o now x}
    (h : (strSetWith db k v o now).out = .ok (.list [x, .bool false, .bool false])) :
    (strSetWith db k v o now).db = db := by
  revert h; unfold strSetWith; dsimp only
  split
  · intro _; rfl
  · split
    · intro _; rfl
    · split <;> intro h
      · cases h
      · exfalso
        simp only [Res.ok, Except.ok.injEq, Val.list.injEq, List.cons.injEq, Val.bool.injEq] at h
        obtain ⟨_, h1, h2, _⟩ := h
        rw [h2] at h1; cases h1

theorem keyDelete_idle {db ks now} (h : Idle (.int 0) (keyDelete db ks now).out) :
    (keyDelete db ks now).db = db :=
  InvP.deleteKeysWhere_zero h.count_zero

theorem keyDeleteExpired_idle {db n now} (h : Idle (.int 0) (keyDeleteExpired db n now).out) :
    (keyDeleteExpired db n now).db = db :=
  InvP.deleteKeysWhere_zero h.count_zero

theorem keyExpireAt_err {db k t now e} (h : (keyExpireAt db k t now).out = .error e) :
    (keyExpireAt db k t now).db = db := by
  revert h; unfold keyExpireAt; split <;> intro h
  · rfl
  · cases h

theorem keyPersist_err {db k now e} (h : (keyPersist db k now).out = .error e) :
    (keyPersist db k now).db = db := by
  revert h; unfold keyPersist; split <;> intro h
  · rfl
  · cases h

theorem keyRename_err {db k nk now e} (h : (keyRename db k nk now).out = .error e) :
    (keyRename db k nk now).db = db := by
  revert h; unfold keyRename; (repeat' split) <;> intro h <;> first | rfl | cases h

theorem keyRenameNX_err {db k nk now e} (h : (keyRenameNX db k nk now).out = .error e) :
    (keyRenameNX db k nk now).db = db := by
  revert h; unfold keyRenameNX; (repeat' split) <;> intro h <;> first | rfl | cases h

theorem keyRenameNX_false {db k nk now} (h : (keyRenameNX db k nk now).out = .ok (.bool false)) :
    (keyRenameNX db k nk now).db = db := by
  revert h; unfold keyRenameNX; (repeat' split) <;> intro h <;> first | rfl | cases h

theorem keyDeleteAll_soft {db inTx e} (hs : Soft e) (h : (keyDeleteAll db inTx).out = .error e) :
    (keyDeleteAll db inTx).db = db := by
  revert h; unfold keyDeleteAll; dsimp only; split <;> intro h
  · cases h; cases hs <;> contradiction
  · cases h

theorem listDeleteRows_nil (db : DB) (kid now) : listDeleteRows db kid [] now = db := by
  unfold listDeleteRows
  cases db; simp

theorem listDelete_idle {db k e now} (h : Idle (.int 0) (listDelete db k e now).out) :
    (listDelete db k e now).db = db := by
  revert h; unfold listDelete; split
  · intro _; rfl
  · dsimp only; intro h; rw [eq_nil_of_length_cast_eq_zero h.count_zero]; exact listDeleteRows_nil db _ now

theorem listDeleteN_idle {db k e n b now} (h : Idle (.int 0) (listDeleteN db k e n b now).out) :
    (listDeleteN db k e n b now).db = db := by
  revert h; unfold listDeleteN; split
  · intro _; rfl
  · split
    · intro _; rfl
    · dsimp only; intro h; rw [eq_nil_of_length_cast_eq_zero h.count_zero]; exact listDeleteRows_nil db _ now

theorem listTrim_idle {db k a b now} (h : Idle (.int 0) (listTrim db k a b now).out) :
    (listTrim db k a b now).db = db := by
  revert h; unfold listTrim; split
  · intro _; rfl
  · dsimp only; split
    · intro _; rfl
    · split
      · intro _; rfl
      · intro h; rw [eq_nil_of_length_cast_eq_zero h.count_zero]; exact listDeleteRows_nil db _ now

theorem listPop_err {db k f now e} (h : (listPop db k f now).out = .error e) :
    (listPop db k f now).db = db := by
  revert h; unfold listPop; split
  · intro _; rfl
  · dsimp only; split
    · intro _; rfl
    · intro h; cases h

theorem listSet_err {db k i v now e} (h : (listSet db k i v now).out = .error e) :
    (listSet db k i v now).db = db := by
  revert h; unfold listSet; split
  · intro _; rfl
  · split
    · intro _; rfl
    · intro h; cases h

theorem listPush_hard {db k v f now e} (h : (listPush db k v f now).out = .error e) : ¬ Soft e := by
  revert h; unfold listPush; split
  · rename_i e' he; intro h; cases h; exact keyUpsert_hard he
  · dsimp only
    generalize (if f = true then _ else _ : Dyadic) = pos
    split <;> intro h <;> cases h
    decide

theorem listPopBackPushFront_soft {db s d now e} (hs : Soft e)
    (h : (listPopBackPushFront db s d now).out = .error e) :
    (listPopBackPushFront db s d now).db = db := by
  revert h; unfold listPopBackPushFront; dsimp only; split
  · rename_i e' he; intro _; exact listPop_err he
  · split
    · rename_i e' he; intro h; cases h; exact absurd hs (listPush_hard he)
    · intro h; cases h
  · intro h; cases h; exact absurd hs (by decide)

theorem listInsert_err {db k p e a now er} (h : (listInsert db k p e a now).out = .error er) :
    (listInsert db k p e a now).db = db := by
  revert h; unfold listInsert
  split
  · intro _; rfl
  · dsimp only
    split
    · intro _; rfl
    · generalize (if a = true then _ else _ : Dyadic) = newpos
      split <;> intro h <;> first | rfl | cases h

theorem setAdd_hard {db k es now e} (h : (setAdd db k es now).out = .error e) : ¬ Soft e := by
  revert h; unfold setAdd; split
  · rename_i e' he; intro h; cases h; exact keyUpsert_hard he
  · dsimp only; intro h; cases h

theorem setDelete_idle {db k es now} (h : Idle (.int 0) (setDelete db k es now).out) :
    (setDelete db k es now).db = db := by
  revert h; unfold setDelete; split
  · intro _; rfl
  · dsimp only; split
    · intro _; rfl
    · rename_i hn; intro h; exact absurd (beq_iff_eq.2 h.count_zero) hn

theorem setInsertAll_hard {db kid es n e} (h : setInsertAll db kid es n = .error e) : ¬ Soft e := by
  induction es generalizing db n with
  | nil => cases h
  | cons x xs ih =>
    unfold setInsertAll at h
    split at h
    · cases h; decide
    · exact ih h

theorem setStore_nil {db d now c} : (setStore db d [] now c).db = db := rfl

theorem setStore_soft {db d ks now c e} (hs : Soft e) (h : (setStore db d ks now c).out = .error e) :
    (setStore db d ks now c).db = db := by
  revert h; unfold setStore; split
  · intro _; rfl
  · dsimp only; split
    · rename_i e' he; intro h; cases h; exact absurd hs (keyUpsert_hard he)
    · split
      · rename_i e' he; intro h; cases h; exact absurd hs (setInsertAll_hard he)
      · intro h; cases h

theorem setMove_soft {db s d el now e} (hs : Soft e) (h : (setMove db s d el now).out = .error e) :
    (setMove db s d el now).db = db := by
  revert h; unfold setMove; dsimp only; split
  · rename_i e' he; intro _; exact setDelete_idle (.inr ⟨_, he⟩)
  · rename_i n he
    split
    · rename_i hn
      intro _
      have : n = 0 := by simpa using hn
      subst this
      exact setDelete_idle (.inl he)
    · split
      · rename_i e' ha; intro h; cases h; exact absurd hs (setAdd_hard ha)
      · intro h; cases h
  · intro h; cases h; exact absurd hs (by decide)

theorem setPop_err {db k o now e} (h : (setPop db k o now).out = .error e) :
    (setPop db k o now).db = db := by
  revert h; unfold setPop; (repeat' (first | split | dsimp only)) <;> intro h <;> first | rfl | cases h

theorem hashSetTx_hard {db k f v now e} (h : hashSetTx db k f v now = .error e) : ¬ Soft e := by
  unfold hashSetTx at h
  split at h
  · rename_i e' he; cases h; exact keyUpsert_hard he
  · cases h

theorem hashSet_err {db k f v now e} (h : (hashSet db k f v now).out = .error e) :
    (hashSet db k f v now).db = db := by
  revert h; unfold hashSet; dsimp only; split <;> intro h
  · rfl
  · cases h

theorem hashSetManyLoop_hard {db k now items e} (h : (hashSetManyLoop db k now items).1 = .error e) :
    ¬ Soft e := by
  induction items generalizing db with
  | nil => cases h
  | cons it rest ih =>
    obtain ⟨f, v⟩ := it
    unfold hashSetManyLoop at h
    split at h
    · rename_i e' he; cases h; exact hashSetTx_hard he
    · exact ih h

theorem hashSetMany_nil {db k now} : (hashSetMany db k [] now).db = db := rfl

theorem hashSetMany_soft {db k items now e} (hs : Soft e) (h : (hashSetMany db k items now).out = .error e) :
    (hashSetMany db k items now).db = db := by
  revert h; unfold hashSetMany; dsimp only; split <;> intro h
  · rename_i e' d he; cases h; exact absurd hs (hashSetManyLoop_hard (by rw [he]))
  · cases h

theorem hashSetNotExists_idle {db k f v now} (h : Idle (.bool false) (hashSetNotExists db k f v now).out) :
    (hashSetNotExists db k f v now).db = db := by
  revert h; unfold hashSetNotExists
  (repeat' (first | split | dsimp only)) <;> intro h <;>
    first | rfl | (rcases h with h | ⟨_, h⟩ <;> cases h)

theorem hashDelete_idle {db k fs now} (h : Idle (.int 0) (hashDelete db k fs now).out) :
    (hashDelete db k fs now).db = db := by
  revert h; unfold hashDelete; split
  · intro _; rfl
  · dsimp only; split
    · intro _; rfl
    · rename_i hn; intro h; exact absurd (beq_iff_eq.2 h.count_zero) hn

theorem hashIncr_err {db k f d now e} (h : (hashIncr db k f d now).out = .error e) :
    (hashIncr db k f d now).db = db := by
  revert h; unfold hashIncr; dsimp only; (repeat' (first | split | dsimp only)) <;> intro h <;> first | rfl | cases h

theorem hashIncrFloat_err {db k f d now e} (h : (hashIncrFloat db k f d now).out = .error e) :
    (hashIncrFloat db k f d now).db = db := by
  revert h; unfold hashIncrFloat; dsimp only; (repeat' (first | split | dsimp only)) <;> intro h <;> first | rfl | cases h

theorem zAdd_err {db k el s now e} (h : (zAdd db k el s now).out = .error e) :
    (zAdd db k el s now).db = db := by
  revert h; unfold zAdd; dsimp only; split <;> intro h
  · rfl
  · cases h

theorem zAddTx_hard {db k el s now e} (h : zAddTx db k el s now = .error e) : ¬ Soft e := by
  unfold zAddTx at h
  split at h
  · rename_i e' he; cases h; exact keyUpsert_hard he
  · cases h

theorem zAddManyLoop_hard {db k now items e} (h : (zAddManyLoop db k now items).1 = .error e) :
    ¬ Soft e := by
  induction items generalizing db with
  | nil => cases h
  | cons it rest ih =>
    obtain ⟨f, v⟩ := it
    unfold zAddManyLoop at h
    split at h
    · rename_i e' he; cases h; exact zAddTx_hard he
    · exact ih h

theorem zAddMany_nil {db k now} : (zAddMany db k [] now).db = db := rfl

theorem zAddMany_soft {db k items now e} (hs : Soft e) (h : (zAddMany db k items now).out = .error e) :
    (zAddMany db k items now).db = db := by
  revert h; unfold zAddMany; dsimp only; split <;> intro h
  · rename_i e' d he; cases h; exact absurd hs (zAddManyLoop_hard (by rw [he]))
  · cases h

theorem zDeleteWhere_idle {db k vs now} (h : Idle (.int 0) (zDeleteWhere db k vs now).out) :
    (zDeleteWhere db k vs now).db = db := by
  revert h; unfold zDeleteWhere; split
  · intro _; rfl
  · dsimp only; split
    · intro _; rfl
    · rename_i hn; intro h; exact absurd (beq_iff_eq.2 h.count_zero) hn

theorem zDeleteRank_idle {db k a b now} (h : Idle (.int 0) (zDeleteRank db k a b now).out) :
    (zDeleteRank db k a b now).db = db := by
  revert h; unfold zDeleteRank; split
  · intro _; rfl
  · split
    · intro _; rfl
    · exact zDeleteWhere_idle

theorem zIncr_soft {db k el d now e} (hs : Soft e) (h : (zIncr db k el d now).out = .error e) :
    (zIncr db k el d now).db = db := by
  revert h; unfold zIncr; split
  · intro _; rfl
  · (repeat' (first | split | dsimp only)) <;> intro h <;> first
      | (cases h; exact absurd hs (by decide))
      | cases h

theorem zInsertAll_hard {db kid items n e} (h : zInsertAll db kid items n = .error e) : ¬ Soft e := by
  induction items generalizing db n with
  | nil => cases h
  | cons it rest ih =>
    obtain ⟨el, s⟩ := it
    unfold zInsertAll at h
    split at h
    · cases h; decide
    · split at h
      · cases h; decide
      · exact ih h

theorem zCombineStore_soft {db d ks agg i now e} (hs : Soft e)
    (h : (zCombineStore db d ks agg i now).out = .error e) :
    (zCombineStore db d ks agg i now).db = db := by
  revert h; unfold zCombineStore; dsimp only; split
  · rename_i e' he; intro h; cases h; exact absurd hs (keyUpsert_hard he)
  · split
    · rename_i e' he; intro h; cases h; exact absurd hs (zInsertAll_hard he)
    · intro h; cases h

/-- the result-dependent alternatives of `Spec.nothingToDo`, constructor by constructor -/
def NtdOk (op : Op) (res : Out) : Prop :=
  match op with
  | .keyDelete _ | .keyDeleteExpired _ | .listDelete .. | .listDeleteBack .. | .listDeleteFront ..
  | .listTrim .. | .setDelete .. | .hashDelete .. | .zDelete .. | .zDeleteRank .. | .zDeleteScore .. =>
    res = .ok (.int 0)
  | .hashSetNotExists .. | .keyRenameNX .. => res = .ok (.bool false)
  | .strSetWith .. => ∃ x, res = .ok (.list [x, .bool false, .bool false])
  | .setDiffStore _ ks | .setInterStore _ ks | .setUnionStore _ ks => ks = []
  | .hashSetMany _ items => items = []
  | .zAddMany _ items => items = []
  | .strSetMany items => items = []
  | _ => False

theorem nothingToDo_cases {op : Op} {res : Out} (h : Spec.nothingToDo op res = true) :
    (∃ e, Soft e ∧ res = .error e) ∨ NtdOk op res := by
  unfold Spec.nothingToDo at h
  -- each arm fixes `op` or `res` far enough to decide the goal; the last one has `h : false = true`
  split at h
  all_goals simp [NtdOk, Soft] at h ⊢

/-- `K`: the class of nothing-to-do outcomes that leave a trace at `Tx` level. It is EMPTY: until
the fix "list insert looks for the pivot before touching the key" it was defect D04
(`InsertAfter` / `InsertBefore` on a live, non-empty list without the pivot, which rewrote the key
row before failing); with the fix no operation is excluded: no deviation from C12 is known at
this level. -/
def K (_op : Op) (_now : Int) (_db : DB) : Bool := false

theorem soft_error_notrace {op : Op} {now : Int} {db : DB} {e : Err} (hs : Soft e)
    (he : (Model.tx true op now db).out = .error e) :
    (Model.tx true op now db).db = db := by
  cases op with
  | strIncr => exact strIncr_soft hs he
  | strIncrFloat => exact strIncrFloat_soft hs he
  | strSet => exact strSet_soft hs he
  | strSetExpires => exact strSet_soft hs he
  | strSetMany => exact strSetMany_soft hs he
  | strSetWith => exact strSetWith_soft hs he
  | keyDelete => exact keyDelete_idle (.inr ⟨e, he⟩)
  | keyDeleteAll => exact keyDeleteAll_soft hs he
  | keyDeleteExpired => exact keyDeleteExpired_idle (.inr ⟨e, he⟩)
  | keyExpire => exact keyExpireAt_err he
  | keyExpireAt => exact keyExpireAt_err he
  | keyPersist => exact keyPersist_err he
  | keyRename => exact keyRename_err he
  | keyRenameNX => exact keyRenameNX_err he
  | listDelete => exact listDelete_idle (.inr ⟨e, he⟩)
  | listDeleteBack => exact listDeleteN_idle (.inr ⟨e, he⟩)
  | listDeleteFront => exact listDeleteN_idle (.inr ⟨e, he⟩)
  | listInsertAfter => exact listInsert_err he
  | listInsertBefore => exact listInsert_err he
  | listPopBack => exact listPop_err he
  | listPopBackPushFront => exact listPopBackPushFront_soft hs he
  | listPopFront => exact listPop_err he
  | listPushBack => exact absurd hs (listPush_hard he)
  | listPushFront => exact absurd hs (listPush_hard he)
  | listSet => exact listSet_err he
  | listTrim => exact listTrim_idle (.inr ⟨e, he⟩)
  | setAdd => exact absurd hs (setAdd_hard he)
  | setDelete => exact setDelete_idle (.inr ⟨e, he⟩)
  | setDiffStore => exact setStore_soft hs he
  | setInterStore => exact setStore_soft hs he
  | setMove => exact setMove_soft hs he
  | setPop => exact setPop_err he
  | setUnionStore => exact setStore_soft hs he
  | hashDelete => exact hashDelete_idle (.inr ⟨e, he⟩)
  | hashIncr => exact hashIncr_err he
  | hashIncrFloat => exact hashIncrFloat_err he
  | hashSet => exact hashSet_err he
  | hashSetMany => exact hashSetMany_soft hs he
  | hashSetNotExists => exact hashSetNotExists_idle (.inr ⟨e, he⟩)
  | zAdd => exact zAdd_err he
  | zAddMany => exact zAddMany_soft hs he
  | zDelete => exact zDeleteWhere_idle (.inr ⟨e, he⟩)
  | zDeleteRank => exact zDeleteRank_idle (.inr ⟨e, he⟩)
  | zDeleteScore => exact zDeleteWhere_idle (.inr ⟨e, he⟩)
  | zIncr => exact zIncr_soft hs he
  | zInterStore => exact zCombineStore_soft hs he
  | zUnionStore => exact zCombineStore_soft hs he
  | _ => exact read_notrace true _ now db rfl

theorem ok_ntd_notrace {inTx : Bool} {op : Op} {now : Int} {db : DB}
    (hok : NtdOk op (Model.tx inTx op now db).out) : (Model.tx inTx op now db).db = db := by
  cases op with
  | strSetMany => exact (by cases hok; rfl)
  | strSetWith => exact hok.elim (fun _ hx => strSetWith_nochange hx)
  | keyDelete => exact keyDelete_idle (.inl hok)
  | keyDeleteExpired => exact keyDeleteExpired_idle (.inl hok)
  | keyRenameNX => exact keyRenameNX_false hok
  | listDelete => exact listDelete_idle (.inl hok)
  | listDeleteBack => exact listDeleteN_idle (.inl hok)
  | listDeleteFront => exact listDeleteN_idle (.inl hok)
  | listTrim => exact listTrim_idle (.inl hok)
  | setDelete => exact setDelete_idle (.inl hok)
  | setDiffStore => exact (by cases hok; rfl)
  | setInterStore => exact (by cases hok; rfl)
  | setUnionStore => exact (by cases hok; rfl)
  | hashDelete => exact hashDelete_idle (.inl hok)
  | hashSetMany => exact (by cases hok; rfl)
  | hashSetNotExists => exact hashSetNotExists_idle (.inl hok)
  | zAddMany => exact (by cases hok; rfl)
  | zDelete => exact zDeleteWhere_idle (.inl hok)
  | zDeleteRank => exact zDeleteRank_idle (.inl hok)
  | zDeleteScore => exact zDeleteWhere_idle (.inl hok)
  | _ => exact False.elim hok

theorem nothing_to_do_notrace {op : Op} {now : Int} {db : DB}
    (h : Spec.nothingToDo op (Model.tx true op now db).out = true) :
    (Model.tx true op now db).db = db := by
  rcases nothingToDo_cases h with ⟨e, hs, he⟩ | hok
  · exact soft_error_notrace hs he
  · exact ok_ntd_notrace hok

theorem isRead_of_roDirect {op : Op} (h : Model.wrapOf op = .roDirect) : Spec.isRead op = true := by
  rw [isRead_eq, h]; rfl

theorem refusal_notrace_db {op : Op} {now : Int} {db : DB} {e : Err}
    (he : (Model.dbRun op now db).out = .error e) : (Model.dbRun op now db).db = db := by
  revert he
  refine dbRun_cases (P := fun r => r.out = .error e → r.db = db) op now db
    (fun _ v ho he => ?_) (fun _ _ _ _ => rfl) (fun hw he => ?_)
  · rw [ho] at he; cases he
  · cases hd : Model.wrapOf op with
    | update => exact absurd hd hw
    | roDirect => exact read_notrace false op now db (isRead_of_roDirect hd)
    | rwDirect =>
      cases op with
      | keyDelete => exact keyDelete_idle (.inr ⟨e, he⟩)
      | keyDeleteAll => cases he
      | keyDeleteExpired => exact keyDeleteExpired_idle (.inr ⟨e, he⟩)
      | keyExpire => exact keyExpireAt_err he
      | keyExpireAt => exact keyExpireAt_err he
      | keyPersist => exact keyPersist_err he
      | _ => cases hd

/-- at `DB` level the nothing-to-do outcomes leave no trace, with no exception: an error is rolled
back (`refusal_notrace_db`), and an `ok` nothing-to-do result is only produced on a path that has
not written -/
theorem nothing_to_do_notrace_db {op : Op} {now : Int} {db : DB}
    (h : Spec.nothingToDo op (Model.dbRun op now db).out = true) :
    (Model.dbRun op now db).db = db := by
  rcases nothingToDo_cases h with ⟨e, _, he⟩ | hok
  · exact refusal_notrace_db he
  · revert hok
    exact dbRun_cases (P := fun r => NtdOk op r.out → r.db = db) op now db
      (fun _ _ _ => ok_ntd_notrace) (fun _ _ _ _ => rfl) (fun _ => ok_ntd_notrace)

end Redka.Proofs.NoTrace
