/-
  C19 — key metadata: the Prop-level form of the judgement `Spec.metaOK` (`RowOK`), lookups of a
  key row by id and name, and `ChildEq`: two states hold the same child rows for one key id.
-/
import RedkaModel.Spec.Meta
import RedkaModel.Proofs.InvPrim
import RedkaModel.Proofs.InvEquiv

namespace Redka.MetaProofs

open Redka Redka.Spec Redka.InvP

/-- the clock of the call is not behind any stored modification time -/
def MonoClock (now : Int) (db : DB) : Prop := ∀ r ∈ db.keys, r.mtime ≤ now

instance (now : Int) (db : DB) : Decidable (MonoClock now db) :=
  inferInstanceAs (Decidable (∀ r ∈ db.keys, r.mtime ≤ now))

def rowAt (db : DB) (i : Int) (k : Bytes) : Option KeyRow :=
  db.keys.find? (fun r => r.id == i && r.key == k)

/-- the requirement on a row that starts a history -/
def FreshRow (now : Int) (r' : KeyRow) : Prop := 1 ≤ r'.version ∧ r'.mtime = now

/-- the requirement on a row that continues the history of `r` (same id, same name) -/
def ContRow (now : Int) (pre post : DB) (r r' : KeyRow) : Prop :=
  r.version ≤ r'.version ∧ r.mtime ≤ r'.mtime ∧ r.ty = r'.ty ∧
  ((absVal pre r ≠ absVal post r' ∨ r.etime ≠ r'.etime) → r.version < r'.version) ∧
  (absVal pre r ≠ absVal post r' → r'.mtime = now)

/-- the requirement on a row that is not the destination of a successful store -/
def PlainRow (now : Int) (pre post : DB) (r' : KeyRow) : Prop :=
  match rowAt pre r'.id r'.key with
  | some r => ContRow now pre post r r'
  | none =>
    match pre.findId r'.id with
    | some r => r.version < r'.version ∧ r'.mtime = now ∧ r.ty = r'.ty
    | none => FreshRow now r'

/-- `ContRow` with the clock assumption made explicit: only the clause "the modification time
does not run backwards" depends on it -/
def ContRowM (now : Int) (pre post : DB) (r r' : KeyRow) : Prop :=
  r.version ≤ r'.version ∧ (MonoClock now pre → r.mtime ≤ r'.mtime) ∧ r.ty = r'.ty ∧
  ((absVal pre r ≠ absVal post r' ∨ r.etime ≠ r'.etime) → r.version < r'.version) ∧
  (absVal pre r ≠ absVal post r' → r'.mtime = now)

/-- `PlainRow` over `ContRowM`: what holds of a row without the clock assumption -/
def PlainRowM (now : Int) (pre post : DB) (r' : KeyRow) : Prop :=
  match rowAt pre r'.id r'.key with
  | some r => ContRowM now pre post r r'
  | none =>
    match pre.findId r'.id with
    | some r => r.version < r'.version ∧ r'.mtime = now ∧ r.ty = r'.ty
    | none => FreshRow now r'

theorem PlainRowM.plain {now : Int} {pre post : DB} {r' : KeyRow} (h : PlainRowM now pre post r')
    (hm : MonoClock now pre) : PlainRow now pre post r' := by
  unfold PlainRowM at h
  unfold PlainRow
  split
  · rename_i r hr
    rw [hr] at h
    exact ⟨h.1, h.2.1 hm, h.2.2⟩
  · rename_i hr
    rw [hr] at h
    exact h

/-- what `metaOK` asks of one row of the post-state -/
def RowOK (op : Op) (now : Int) (pre post : DB) (res : Out) (r' : KeyRow) : Prop :=
  if isErr res = false ∧ storeDest op = some r'.key then FreshRow now r'
  else PlainRow now pre post r'

theorem metaOK_iff (op : Op) (now : Int) (pre post : DB) (res : Out) :
    metaOK op now pre post res = true ↔ ∀ r' ∈ post.keys, RowOK op now pre post res r' := by
  unfold metaOK
  rw [List.all_eq_true]
  apply forall_congr'; intro r'
  apply imp_congr_right; intro _
  unfold RowOK PlainRow rowAt DB.findId FreshRow ContRow
  by_cases hs : isErr res = false ∧ storeDest op = some r'.key
  · rw [if_pos hs]
    have : (!isErr res && storeDest op == some r'.key) = true := by
      simp [hs.1, hs.2]
    simp only [this, if_true, Bool.and_eq_true, decide_eq_true_eq, beq_iff_eq, ge_iff_le]
  · rw [if_neg hs]
    have : (!isErr res && storeDest op == some r'.key) = false := by
      cases he : isErr res
      · have : storeDest op ≠ some r'.key := fun e => hs ⟨he, e⟩
        simp [this]
      · simp
    simp only [this, Bool.false_eq_true, if_false]
    cases h1 : List.find? (fun r => r.id == r'.id && r.key == r'.key) pre.keys with
    | some r =>
      by_cases hv : absVal pre r = absVal post r' <;> by_cases he : r.etime = r'.etime <;>
        simp [hv, he] <;> omega
    | none =>
      cases h2 : List.find? (fun r => r.id == r'.id) pre.keys with
      | some r => simp [and_assoc]
      | none => simp

theorem find_of_id {l : List KeyRow} (hu : l.Pairwise (fun a b => a.id ≠ b.id)) {r : KeyRow}
    (hr : r ∈ l) (p : KeyRow → Bool) (hp : p r = true) (hid : ∀ x, p x = true → x.id = r.id) :
    l.find? p = some r := by
  cases h : l.find? p with
  | none => exact absurd hp (List.find?_eq_none.1 h r hr)
  | some x => rw [eq_of_id_eq hu (List.mem_of_find?_eq_some h) hr (hid x (List.find?_some h))]

theorem rowAt_some {db : DB} {i : Int} {k : Bytes} {r : KeyRow} (h : rowAt db i k = some r) :
    r ∈ db.keys ∧ r.id = i ∧ r.key = k := by
  unfold rowAt at h
  have hx := List.find?_some h
  simp only [Bool.and_eq_true, beq_iff_eq] at hx
  exact ⟨List.mem_of_find?_eq_some h, hx.1, hx.2⟩

theorem rowAt_none {db : DB} {i : Int} {k : Bytes} (h : rowAt db i k = none) :
    ∀ r ∈ db.keys, ¬ (r.id = i ∧ r.key = k) := by
  unfold rowAt at h
  intro r hr
  simpa using List.find?_eq_none.1 h r hr

theorem rowAt_of_mem {db : DB} (hu : db.keys.Pairwise (fun a b => a.id ≠ b.id)) {r : KeyRow}
    (hr : r ∈ db.keys) : rowAt db r.id r.key = some r :=
  find_of_id hu hr _ (by simp) (fun x hx => by simp at hx; exact hx.1)

theorem findId_some {db : DB} {i : Int} {r : KeyRow} (h : db.findId i = some r) :
    r ∈ db.keys ∧ r.id = i := by
  unfold DB.findId at h
  have hx := List.find?_some h
  simp only [beq_iff_eq] at hx
  exact ⟨List.mem_of_find?_eq_some h, hx⟩

theorem findId_none {db : DB} {i : Int} (h : db.findId i = none) : ∀ r ∈ db.keys, r.id ≠ i := by
  unfold DB.findId at h
  intro r hr
  simpa using List.find?_eq_none.1 h r hr

theorem findId_of_mem {db : DB} (hu : db.keys.Pairwise (fun a b => a.id ≠ b.id)) {r : KeyRow}
    (hr : r ∈ db.keys) : db.findId r.id = some r :=
  find_of_id hu hr _ (by simp) (fun x hx => by simpa using hx)

/-- the five child tables hold the same rows for key id `i` (in the same order) -/
structure ChildEq (a b : DB) (i : Int) : Prop where
  s : a.strs.filter (fun x => x.kid == i) = b.strs.filter (fun x => x.kid == i)
  l : a.lists.filter (fun x => x.kid == i) = b.lists.filter (fun x => x.kid == i)
  t : a.sets.filter (fun x => x.kid == i) = b.sets.filter (fun x => x.kid == i)
  h : a.hashes.filter (fun x => x.kid == i) = b.hashes.filter (fun x => x.kid == i)
  z : a.zsets.filter (fun x => x.kid == i) = b.zsets.filter (fun x => x.kid == i)

theorem ChildEq.refl (a : DB) (i : Int) : ChildEq a a i := ⟨rfl, rfl, rfl, rfl, rfl⟩

theorem ChildEq.trans {a b c : DB} {i : Int} (h1 : ChildEq a b i) (h2 : ChildEq b c i) :
    ChildEq a c i :=
  ⟨h1.s.trans h2.s, h1.l.trans h2.l, h1.t.trans h2.t, h1.h.trans h2.h, h1.z.trans h2.z⟩

theorem ChildEq.of_tables {a b : DB} {i : Int} (hs : a.strs = b.strs) (hl : a.lists = b.lists)
    (ht : a.sets = b.sets) (hh : a.hashes = b.hashes) (hz : a.zsets = b.zsets) : ChildEq a b i := by
  refine ⟨?_, ?_, ?_, ?_, ?_⟩ <;> simp [*]

theorem find_eq_head_filter {α} (p : α → Bool) : ∀ l : List α, l.find? p = (l.filter p).head?
  | [] => rfl
  | x :: xs => by
    by_cases h : p x
    · simp only [List.find?, List.filter, h, List.head?_cons]
    · simp only [List.find?, List.filter, h]
      exact find_eq_head_filter p xs

theorem absVal_congr {a b : DB} {r : KeyRow} (h : ChildEq a b r.id) : absVal a r = absVal b r := by
  unfold absVal Model.listRows Model.setRows Model.hashRows
  rw [find_eq_head_filter _ a.strs, find_eq_head_filter _ b.strs, h.s, h.l, h.t, h.h, h.z]

theorem absVal_row {a : DB} {r r' : KeyRow} (hi : r'.id = r.id) (ht : r'.ty = r.ty) :
    absVal a r' = absVal a r := by
  unfold absVal; rw [hi, ht]

theorem filter_kid_append_other {α} (kidf : α → Int) (l : List α) (x : α) {i : Int}
    (h : kidf x ≠ i) : (l ++ [x]).filter (fun y => kidf y == i) = l.filter (fun y => kidf y == i) := by
  simp [List.filter_append, h]

theorem filter_kid_map_other {α} (kidf : α → Int) (g : α → α) (l : List α) (i : Int)
    (hk : ∀ x ∈ l, kidf x = i → g x = x) (hg : ∀ x ∈ l, kidf (g x) = kidf x) :
    (l.map g).filter (fun y => kidf y == i) = l.filter (fun y => kidf y == i) := by
  induction l with
  | nil => rfl
  | cons x xs ih =>
    have ih := ih (fun y hy => hk y (List.mem_cons_of_mem _ hy)) (fun y hy => hg y (List.mem_cons_of_mem _ hy))
    simp only [List.map_cons, List.filter_cons, hg x List.mem_cons_self, ih]
    by_cases hx : kidf x = i
    · simp [hx, hk x List.mem_cons_self hx]
    · simp [hx]

theorem filter_kid_filter_other {α} (kidf : α → Int) (q : α → Bool) (l : List α) (i : Int)
    (hq : ∀ x ∈ l, kidf x = i → q x = true) :
    (l.filter q).filter (fun y => kidf y == i) = l.filter (fun y => kidf y == i) := by
  rw [List.filter_filter]
  apply List.filter_congr
  intro x hx
  by_cases hi : kidf x = i
  · simp [hi, hq x hx hi]
  · simp [hi]

end Redka.MetaProofs
