/-
  `internal/rkey` against the abstract keyspace: the refinement of each type-agnostic key
  operation (count, delete, flush, exists, expire, get, keys, len, persist, random, rename,
  renameNX) and the lemmas about `delete from rkey where …`, `update rkey … where id = ?` and
  `update or replace rkey set key = ?` that they rest on.

  Reusable parts: `abs_eq_map` (under `DB.WF` the abstraction is the sorted image of the live key
  rows), `KHolder` (the three things a name can be for a type-agnostic operation), `abs_retime`
  (an `update rkey` that keeps id, name and type), `get_abs_dkw` / `dkw_wf` (any
  `delete from rkey where p`, with or without `foreign_keys`), `moved` / `abs_moved` (the rename statement).
-/
import RedkaModel.Proofs.Str
import RedkaModel.Proofs.Clean
import RedkaModel.Props.C18
import RedkaModel.Proofs.NoTrace
import RedkaModel.Proofs.InvKey

namespace Redka.Model

open Redka Redka.Spec Redka.DB Redka.Scan


/-- the keyspace entry a stored key row stands for (the default value is never used under `DB.WF`) -/
def entryOf (db : DB) (r : KeyRow) : Bytes × Entry :=
  (r.key, ⟨(absVal db r).getD (.str []), r.etime⟩)

/-- `select … from rkey where etime is null or etime > ?` -/
def liveRows (db : DB) (now : Int) : List KeyRow := db.keys.filter (fun r => r.live now)

theorem absVal_some {db : DB} (hw : db.WF) {r : KeyRow} (hr : r ∈ db.keys) :
    ∃ v, absVal db r = some v := by
  by_cases ht : r.ty = TString
  · obtain ⟨s, hs, hk⟩ := hw.strRow r hr ht
    rw [absVal_str ht]
    cases hfs : db.strs.find? (fun s => s.kid == r.id) with
    | none =>
      rw [List.find?_eq_none] at hfs
      exact absurd (by simp [hk]) (hfs s hs)
    | some s' => exact ⟨_, rfl⟩
  · obtain ⟨v, hv, _⟩ := absVal_nonstr (db := db) ht (hw.tyOk r hr)
    exact ⟨v, hv⟩

theorem entryOf_eq {db : DB} {r : KeyRow} {v : SVal} (h : absVal db r = some v) :
    entryOf db r = (r.key, ⟨v, r.etime⟩) := by
  simp [entryOf, h]

theorem abs_eq_map {db : DB} (hw : db.WF) (now : Int) :
    abs now db = sortBy (fun a b => bytesLt a.1 b.1) ((liveRows db now).map (entryOf db)) := by
  unfold abs liveRows
  simp only
  congr 1
  rw [← List.filterMap_eq_map]
  apply Clean.filterMap_congr'
  intro r hr
  obtain ⟨v, hv⟩ := absVal_some hw (List.mem_filter.1 hr).1
  rw [Function.comp, entryOf_eq hv, hv]; rfl

theorem liveRows_names_nodup {db : DB} (hw : db.WF) (now : Int) :
    (((liveRows db now).map (entryOf db)).map (·.1)).Nodup := by
  rw [List.map_map]
  exact List.Nodup.sublist (List.Sublist.map _ List.filter_sublist) hw.names

theorem mem_abs {db : DB} (hw : db.WF) (now : Int) (x : Bytes × Entry) :
    x ∈ abs now db ↔ ∃ r ∈ db.keys, r.live now = true ∧ entryOf db r = x := by
  rw [abs_eq_map hw, mem_sortBy, List.mem_map]
  simp only [liveRows, List.mem_filter, and_assoc]

theorem abs_perm {db : DB} (hw : db.WF) (now : Int) :
    (abs now db).Perm ((liveRows db now).map (entryOf db)) := by
  rw [abs_eq_map hw]; exact sortBy_perm _ _

theorem count_abs {db : DB} (hw : db.WF) (now : Int) (q : Bytes → Bool) :
    ((abs now db).filter (fun p => q p.1)).length
      = (db.keys.filter (fun r => q r.key && r.live now)).length := by
  rw [((abs_perm hw now).filter _).length_eq, List.filter_map, List.length_map]
  unfold liveRows
  rw [List.filter_filter]
  rfl

theorem length_abs {db : DB} (hw : db.WF) (now : Int) :
    (abs now db).length = (liveRows db now).length := by
  rw [(abs_perm hw now).length_eq, List.length_map]

/-- The three things a name can be at `now`, each with what the guarded lookup (`sqlGet` of
rkey) and the abstraction make of it. -/
inductive KHolder (now : Int) (db : DB) (k : Bytes) : Prop
  | absent (h : db.findKey k = none) (hg : get (abs now db) k = none)
      (hlk : db.liveKey k now = none)
  | stale (r : KeyRow) (h : db.findKey k = some r) (hl : r.live now = false)
      (hg : get (abs now db) k = none) (hlk : db.liveKey k now = none)
  | live (r : KeyRow) (v : SVal) (h : db.findKey k = some r) (hl : r.live now = true)
      (hv : absVal db r = some v) (hty : v.ty = r.ty)
      (hg : get (abs now db) k = some ⟨v, r.etime⟩) (hlk : db.liveKey k now = some r)

theorem kholder {db : DB} (hw : db.WF) (now : Int) (k : Bytes) : KHolder now db k := by
  have hga := get_abs hw.names now k
  have hla := liveKey_eq hw.names k now
  cases hf : db.findKey k with
  | none =>
    rw [hf] at hga hla
    exact .absent hf hga hla
  | some r =>
    rw [hf] at hga hla
    obtain ⟨hm, _⟩ := findKey_mem hf
    cases hl : r.live now with
    | false =>
      refine .stale r hf hl ?_ ?_
      · rw [hga]; simp [rowEntry, hl]
      · rw [hla]; simp [Option.filter, hl]
    | true =>
      obtain ⟨v, hv⟩ := absVal_some hw hm
      refine .live r v hf hl hv (absVal_ty hv) ?_ ?_
      · rw [hga]; simp [rowEntry, hl, hv]
      · rw [hla]; simp [Option.filter, hl]

/-- … of which a type-agnostic operation tells two apart: nothing visible, or a visible key -/
theorem kholder_cases {db : DB} (hw : db.WF) (now : Int) (k : Bytes) :
    (get (abs now db) k = none ∧ db.liveKey k now = none) ∨
    ∃ r v, db.findKey k = some r ∧ r.live now = true ∧ absVal db r = some v ∧ v.ty = r.ty ∧
      get (abs now db) k = some ⟨v, r.etime⟩ ∧ db.liveKey k now = some r := by
  rcases kholder hw now k with ⟨_, hg, hlk⟩ | ⟨_, _, _, hg, hlk⟩ | ⟨r, v, h, hl, hv, hty, hg, hlk⟩
  · exact .inl ⟨hg, hlk⟩
  · exact .inl ⟨hg, hlk⟩
  · exact .inr ⟨r, v, h, hl, hv, hty, hg, hlk⟩

/-- `select count(id) from rkey where key in (…) and <live>` for one name -/
theorem keyCountRaw_one (db : DB) (k : Bytes) (now : Int) :
    decide (keyCountRaw db [k] now > 0) = (db.liveKey k now).isSome := by
  rw [Bool.eq_iff_iff, decide_eq_true_iff]
  unfold keyCountRaw liveKey
  rw [List.find?_isSome, gt_iff_lt, Int.natCast_pos, List.length_pos_iff_exists_mem]
  simp only [List.mem_filter, List.contains_cons, List.contains_nil, Bool.or_false]

/-! ### results that carry key rows

`Spec.projVal` is a `partial def`, opaque to the kernel; this is the same function by structural
recursion. -/

/-- forget what the abstract keyspace does not track in a key row (id, version, mtime, len) -/
def projKey (r : KeyRow) : KeyRow := { r with id := 0, version := 0, mtime := 0, len := none }

mutual
  def projV : Val → Val
    | .key r => .key (projKey r)
    | .list l => .list (projL l)
    | .nil => .nil
    | .int i => .int i
    | .bool b => .bool b
    | .bytes b => .bytes b
    | .score s => .score s
  def projL : List Val → List Val
    | [] => []
    | v :: vs => projV v :: projL vs
end

theorem projL_eq_map : ∀ (l : List Val), projL l = l.map projV
  | [] => by simp [projL]
  | v :: vs => by simp [projL, projL_eq_map vs]

theorem projV_keyVal {db : DB} {r : KeyRow} {v : SVal} (hv : absVal db r = some v) :
    projV (keyVal r) = Spec.keyVal r.key ⟨v, r.etime⟩ := by
  simp [projV, keyVal, projKey, Spec.keyVal, absVal_ty hv]

theorem projV_keyVal_entryOf {db : DB} (hw : db.WF) {r : KeyRow} (hr : r ∈ db.keys) :
    projV (keyVal r) = Spec.keyVal (entryOf db r).1 (entryOf db r).2 := by
  obtain ⟨v, hv⟩ := absVal_some hw hr
  rw [entryOf_eq hv]; exact projV_keyVal hv

/-- the verdict on one step whose result is read through `f` -/
def RefinesVia (f : Val → Val) (now : Int) (m : Res) (s : SRes) : Prop :=
  m.out.map f = s.out ∧ abs now m.db = purge now s.st

theorem keyCount_refines {db : DB} (hw : db.WF) (now : Int) (ks : List Bytes) :
    Refines now (keyCount db ks now) (Spec.keyCount (abs now db) ks) := by
  unfold Refines
  simp only [keyCount, Spec.keyCount, Res.ok, Spec.ok, keyCountRaw, purge_abs hw.names, and_true]
  rw [count_abs hw now (fun k => ks.contains k)]

theorem keyExists_refines {db : DB} (hw : db.WF) (now : Int) (k : Bytes) :
    Refines now (keyExists db k now) (Spec.ok (.bool (get (abs now db) k).isSome) (abs now db)) := by
  unfold Refines
  simp only [keyExists, Res.ok, Spec.ok, purge_abs hw.names, and_true]
  rw [keyCountRaw_one]
  rcases kholder_cases hw now k with ⟨hg, hlk⟩ | ⟨_, _, _, _, _, _, hg, hlk⟩ <;> simp [hg, hlk]

/-- a guarded lookup that reports the key row, against the same lookup in the keyspace; `e` is
what either side answers when the name is not visible -/
theorem keyRow_refines {db : DB} (hw : db.WF) (now : Int) (k : Bytes) (e : Err) :
    RefinesVia projV now
      (match db.liveKey k now with
       | none => .err e db
       | some r => .ok (keyVal r) db)
      (match get (abs now db) k with
       | none => er e (abs now db)
       | some en => Spec.ok (Spec.keyVal k en) (abs now db)) := by
  unfold RefinesVia
  rcases kholder_cases hw now k with ⟨hg, hlk⟩ | ⟨r, v, h, _, hv, _, hg, hlk⟩
  · simp [hg, hlk, Res.err, Spec.er, purge_abs hw.names, Except.map]
  · simp only [hg, hlk, Res.ok, Spec.ok, purge_abs hw.names, Except.map, and_true]
    rw [projV_keyVal hv, (findKey_mem h).2]

theorem keyGet_refines {db : DB} (hw : db.WF) (now : Int) (k : Bytes) :
    RefinesVia projV now (keyGet db k now) (Spec.keyGet (abs now db) k) :=
  keyRow_refines hw now k .notFound

/-- D06 classifier: some stored row has expired -/
def anyStale (db : DB) (now : Int) : Bool := db.keys.any (fun r => !r.live now)

theorem keyLen_refines {db : DB} (hw : db.WF) {now : Int} (hns : anyStale db now = false) :
    Refines now (keyLen db) (Spec.ok (.int (abs now db).length) (abs now db)) := by
  unfold Refines
  simp only [keyLen, Res.ok, Spec.ok, purge_abs hw.names, and_true]
  rw [length_abs hw]
  have : liveRows db now = db.keys := by
    unfold liveRows
    rw [List.filter_eq_self]
    intro r hr
    simp only [anyStale, List.any_eq_false] at hns
    simpa using hns r hr
  rw [this]

/-- without the classifier: `Len` counts the stored rows, live or not -/
theorem keyLen_counts_rows (db : DB) : (keyLen db).out = .ok (.int db.keys.length) := rfl

theorem keyRandom_refines {db : DB} (hw : db.WF) (now : Int) (o : Option Bytes) :
    RefinesVia projV now (keyRandom db o now)
      (match o with
       | none => if (abs now db).isEmpty then er .notFound (abs now db) else skip (abs now db)
       | some k => match get (abs now db) k with
         | some e => Spec.ok (Spec.keyVal k e) (abs now db)
         | none => skip (abs now db)) := by
  cases o with
  | none =>
    unfold RefinesVia
    have hemp : (db.keys.filter (fun r => r.live now)).isEmpty = (abs now db).isEmpty := by
      have := length_abs hw now
      unfold liveRows at this
      cases h1 : db.keys.filter (fun r => r.live now) <;> cases h2 : abs now db <;>
        simp [h1, h2] at this ⊢
    simp only [keyRandom, hemp]
    cases (abs now db).isEmpty <;>
      simp [Res.err, Spec.er, Spec.skip, purge_abs hw.names, Except.map]
  | some k =>
    have hrun : keyRandom db (some k) now = match db.liveKey k now with
        | none => .err .outOfDomain db
        | some r => .ok (keyVal r) db := by
      unfold keyRandom liveKey
      simp only [find?_filter']
      rfl
    have h := keyRow_refines hw now k .outOfDomain
    rw [hrun]
    dsimp only
    cases hg : get (abs now db) k <;> rw [hg] at h <;> exact h

/-- the order `Spec.sortKeyVals` sorts by -/
def keyValLt (a b : Val) : Bool :=
  match a, b with
  | .key x, .key y => bytesLt x.key y.key
  | _, _ => false

theorem sortKeyVals_list (l : List Val) : sortKeyVals (.list l) = .list (sortBy keyValLt l) := rfl

/-- the guard under which `Spec.check` judges a pattern listing (C18 fixes no meaning outside) -/
def globJudged (p : Bytes) (now : Int) (db : DB) : Bool :=
  wellFormed p && decide (Ascii p) && (abs now db).all (fun e => decide (Ascii e.1))

theorem keyKeys_refines {db : DB} (hw : db.WF) {now : Int} {p : Bytes}
    (hj : globJudged p now db = true) (hb : noBangClass p = true) :
    RefinesVia (fun v => sortKeyVals (projV v)) now (keyKeys db p now)
      (Spec.ok (.list (((abs now db).filter (fun e => globSpec p e.1)).map
        (fun e => Spec.keyVal e.1 e.2))) (abs now db)) := by
  unfold RefinesVia
  simp only [globJudged, Bool.and_eq_true, decide_eq_true_eq, List.all_eq_true] at hj
  obtain ⟨⟨hwf, hap⟩, hnames⟩ := hj
  simp only [keyKeys, Res.ok, Spec.ok, purge_abs hw.names, Except.map, and_true, projV,
    projL_eq_map, sortKeyVals_list, List.map_map]
  congr 2
  -- the rows the model lists, as keyspace entries
  let KV : Bytes × Entry → Val := fun e => Spec.keyVal e.1 e.2
  have hrows : (db.keys.filter (fun r => Glob.sqliteGlob p r.key && r.live now)).map (projV ∘ keyVal)
      = (((liveRows db now).map (entryOf db)).filter (fun e => Glob.sqliteGlob p e.1)).map KV := by
    rw [List.filter_map, List.map_map]
    unfold liveRows
    rw [List.filter_filter]
    have hq : (fun r : KeyRow => ((fun e : Bytes × Entry => Glob.sqliteGlob p e.1) ∘ entryOf db) r
        && r.live now) = (fun r => Glob.sqliteGlob p r.key && r.live now) := by
      funext r; rfl
    rw [hq]
    apply List.map_congr_left
    intro r hr
    exact projV_keyVal_entryOf hw (List.mem_filter.1 hr).1
  rw [hrows, sortBy_map (fun a b => bytesLt a.1 b.1) keyValLt KV (fun _ _ => rfl)]
  congr 1
  have hnd := liveRows_names_nodup hw now
  have hnd' : ((((liveRows db now).map (entryOf db)).filter
      (fun e => Glob.sqliteGlob p e.1)).map (·.1)).Nodup :=
    List.Nodup.sublist (List.Sublist.map _ List.filter_sublist) hnd
  apply sorted_mem_ext (sorted_sortBy hnd') ((sorted_abs hw.names now).filter _)
  intro x
  rw [mem_sortBy, List.mem_filter, List.mem_filter, abs_eq_map hw, mem_sortBy]
  refine and_congr_right fun hx => ?_
  have hax : Ascii x.1 := by
    simpa using hnames x (by rw [abs_eq_map hw, mem_sortBy]; exact hx)
  rw [Redka.Props.C18.glob_agree_partial p x.1 hap hax hwf hb]

/-! ### `update rkey set … where id = ?` -/

/-- with unique ids the statement touches exactly one row -/
theorem updKey_const {db : DB} (hi : (db.keys.map (·.id)).Nodup) {r : KeyRow} (hr : r ∈ db.keys)
    (f : KeyRow → KeyRow) : db.updKey r.id f = db.updKey r.id (fun _ => f r) := by
  unfold updKey
  congr 1
  apply List.map_congr_left
  intro x hx
  by_cases h : x.id = r.id
  · rw [id_inj hi hx hr h]
  · simp [h]

theorem updRow_wf {db : DB} (hw : db.WF) {r r' : KeyRow} (hr : r ∈ db.keys) (hid : r'.id = r.id)
    (hty : r'.ty = r.ty) (hnames : ((db.updKey r.id (fun _ => r')).keys.map (·.key)).Nodup) :
    (db.updKey r.id (fun _ => r')).WF := by
  refine ⟨hnames, ?_, ?_, ?_, hw.strKids⟩
  · rw [updKey_ids hw.ids hr hid]; exact hw.ids
  · intro x hx
    rcases mem_updKey hw.ids hr hx with hx | ⟨hx, _⟩
    · rw [hx, hty]; exact hw.tyOk r hr
    · exact hw.tyOk x hx
  · intro x hx hxt
    rcases mem_updKey hw.ids hr hx with hx | ⟨hx, _⟩
    · rw [hx] at hxt ⊢
      rw [hid]; exact hw.strRow r hr (by rw [← hty]; exact hxt)
    · exact hw.strRow x hx hxt

theorem retime_wf {db : DB} (hw : db.WF) {r r' : KeyRow} (hr : r ∈ db.keys) (hid : r'.id = r.id)
    (hk : r'.key = r.key) (hty : r'.ty = r.ty) : (db.updKey r.id (fun _ => r')).WF :=
  updRow_wf hw hr hid hty (by rw [updKey_names hw.ids hr hk]; exact hw.names)

/-- What an `update rkey` that keeps id, name and type of the row stored under `k` does to the
abstract keyspace: the value stays, the expiry becomes that of the new row (and the key is gone
at once when that expiry has passed). -/
theorem abs_retime {db : DB} (hw : db.WF) {k : Bytes} {r r' : KeyRow} {v : SVal}
    (hf : db.findKey k = some r) (hv : absVal db r = some v) (hid : r'.id = r.id)
    (hk : r'.key = r.key) (hty : r'.ty = r.ty) (now : Int) :
    abs now (db.updKey r.id (fun _ => r')) = purge now (put (abs now db) k ⟨v, r'.etime⟩) := by
  obtain ⟨hr, hrk⟩ := findKey_mem hf
  exact abs_of_written hw.names (retime_wf hw hr hid hk hty).names
    (fun k' => by rw [findKey_updKey hw.names hw.ids hr hk k', hrk])
    ((MetaProofs.absVal_row hid hty).trans hv) (fun _ _ _ => rfl) now

/-- `sqlExpire` and `sqlPersist` are one statement with two values for the new expiry `e` -/
theorem setExpiry {db : DB} (hw : db.WF) (now : Int) (k : Bytes) (e : Option Int) :
    let m : Res := match db.liveKey k now with
      | none => .err .notFound db
      | some r => .ok .nil (db.updKey r.id (fun o => { o with version := o.version + 1, etime := e }))
    Refines now m (match get (abs now db) k with
      | none => er .notFound (abs now db)
      | some en => Spec.ok .nil (put (abs now db) k { en with etime := e })) ∧ m.db.WF := by
  unfold Refines
  rcases kholder_cases hw now k with ⟨hg, hlk⟩ | ⟨r, v, h, _, hv, _, hg, hlk⟩
  · simp [hg, hlk, Res.err, Spec.er, purge_abs hw.names, hw]
  · simp only [hg, hlk, Res.ok, Spec.ok, true_and]
    rw [updKey_const hw.ids (findKey_mem h).1]
    exact ⟨abs_retime (r' := { r with version := r.version + 1, etime := e }) hw h hv rfl rfl rfl now,
      retime_wf hw (findKey_mem h).1 rfl rfl rfl⟩

theorem keyExpireAt_refines {db : DB} (hw : db.WF) (now : Int) (k : Bytes) (t : Int) :
    Refines now (keyExpireAt db k t now) (Spec.keyExpireAt (abs now db) k t) :=
  (setExpiry hw now k (some t)).1

theorem keyPersist_refines {db : DB} (hw : db.WF) (now : Int) (k : Bytes) :
    Refines now (keyPersist db k now) (Spec.keyPersist (abs now db) k) :=
  (setExpiry hw now k none).1

theorem keyExpireAt_wf {db : DB} (hw : db.WF) (k : Bytes) (t now : Int) :
    (keyExpireAt db k t now).db.WF :=
  (setExpiry hw now k (some t)).2

theorem keyPersist_wf {db : DB} (hw : db.WF) (k : Bytes) (now : Int) :
    (keyPersist db k now).db.WF :=
  (setExpiry hw now k none).2

/-! ### `delete from rkey where …` -/

/-- Any `delete from rkey where p` keeps `DB.WF`, with `foreign_keys` on or off. -/
theorem dkw_wf {db : DB} (hw : db.WF) (p : KeyRow → Bool) : (db.deleteKeysWhere p).1.WF := by
  refine ⟨?_, ?_, ?_, ?_, ?_⟩
  · rw [Clean.deleteKeysWhere_keys]
    exact List.Nodup.sublist (List.Sublist.map _ List.filter_sublist) hw.names
  · rw [Clean.deleteKeysWhere_keys]
    exact List.Nodup.sublist (List.Sublist.map _ List.filter_sublist) hw.ids
  · intro r hr
    rw [Clean.deleteKeysWhere_keys] at hr
    exact hw.tyOk r (List.mem_filter.1 hr).1
  · intro r hr hty
    rw [Clean.deleteKeysWhere_keys] at hr
    obtain ⟨hr, hp⟩ := List.mem_filter.1 hr
    have hp : p r = false := by simpa using hp
    obtain ⟨s, hs, hk⟩ := hw.strRow r hr hty
    have hng := Clean.survivor_id_not_gone hw.ids p hr hp
    have : s ∈ (db.deleteKeysWhere p).1.strs.filter (fun x => x.kid == r.id) := by
      rw [Clean.dkw_strs_of hng]; exact List.mem_filter.2 ⟨hs, by simp [hk]⟩
    exact ⟨s, (List.mem_filter.1 this).1, hk⟩
  · cases hfk : db.fk with
    | false => rw [Clean.dkw_off db p hfk]; exact hw.strKids
    | true =>
      rw [Clean.dkw_strs_on db p hfk]
      exact List.Nodup.sublist (List.Sublist.map _ List.filter_sublist) hw.strKids

theorem findKey_dkw {db : DB} (hn : (db.keys.map (·.key)).Nodup) (p : KeyRow → Bool) (k : Bytes) :
    (db.deleteKeysWhere p).1.findKey k = (db.findKey k).filter (fun r => !p r) := by
  unfold findKey
  rw [Clean.deleteKeysWhere_keys, find?_filter', find?_key_and db.keys hn]

/-- **The abstraction after any `delete from rkey where p`, pointwise**: a name whose row is
selected is gone, every other name reads as before. Needs unique names and ids only — not
`foreign_keys`: the abstraction reads child rows only through stored key rows. -/
theorem get_abs_dkw {db : DB} (hw : db.WF) (p : KeyRow → Bool) (now : Int) (k : Bytes) :
    get (abs now (db.deleteKeysWhere p).1) k
      = (db.findKey k).bind (fun r => if p r then none else rowEntry now db r) := by
  rw [get_abs (dkw_wf hw p).names, findKey_dkw hw.names]
  cases hf : db.findKey k with
  | none => rfl
  | some r =>
    cases hp : p r with
    | true => simp [Option.filter, hp]
    | false =>
      simp only [Option.filter, hp, Bool.not_false, if_true, Option.bind_some, Bool.false_eq_true,
        if_false]
      unfold rowEntry
      rw [Clean.absVal_dkw (Clean.survivor_id_not_gone hw.ids p (findKey_mem hf).1 hp)]

theorem purge_filter {s : State} {now : Int} (hp : purge now s = s) (q : Bytes × Entry → Bool) :
    purge now (s.filter q) = s.filter q := by
  have h1 : purge now (s.filter q) = (purge now s).filter q := by
    unfold purge
    rw [List.filter_filter, List.filter_filter]
    congr 1
    funext x
    exact Bool.and_comm _ _
  rw [h1, hp]

theorem keyDelete_refines {db : DB} (hw : db.WF) (now : Int) (ks : List Bytes) :
    Refines now (keyDelete db ks now) (Spec.keyDelete (abs now db) ks) := by
  unfold Refines
  have hsa := sorted_abs hw.names now
  refine ⟨?_, ?_⟩
  · simp only [keyDelete, Spec.keyDelete, Res.ok, Spec.ok, Clean.deleteKeysWhere_snd]
    rw [count_abs hw now (fun k => ks.contains k)]
  · simp only [keyDelete, Spec.keyDelete, Res.ok, Spec.ok]
    rw [purge_filter (purge_abs hw.names now)]
    apply sorted_ext (sorted_abs (dkw_wf hw _).names now) (hsa.filter _)
    intro k
    have h1 := get_abs_dkw hw (fun r => ks.contains r.key && r.live now) now k
    have h2 := get_abs hw.names now k
    unfold Spec.get at h1 h2
    rw [h1, aget_filter hsa, h2]
    cases hf : db.findKey k with
    | none => rfl
    | some r =>
      have hrk := (findKey_mem hf).2
      simp only [Option.bind_some, hrk]
      by_cases hc : ks.contains k = true
      · cases hl : r.live now with
        | false => simp [rowEntry, hl]
        | true => cases rowEntry now db r <;> simp
      · have hc' : k ∉ ks := by simpa using hc
        cases rowEntry now db r <;> simp [hc']

theorem keyDeleteAll_refines (db : DB) (now : Int) :
    Refines now (keyDeleteAll db false) (Spec.ok .nil []) := by
  unfold Refines
  refine ⟨rfl, ?_⟩
  have : (keyDeleteAll db false).db.keys = [] := by
    show (db.deleteKeysWhere (fun _ => true)).1.keys = []
    rw [Clean.deleteKeysWhere_keys]; simp
  unfold abs
  rw [this]
  rfl

/-! ### `update or replace rkey set key = ?, … where key = ?` -/

/-- The tables after the rename statement, row level: the row stored under the name of `r'` (live
or expired, of any type), if there is one, is deleted — with its children when `foreign_keys` is
on — and `r` is replaced by `r'`. -/
def moved (db : DB) (r r' : KeyRow) : DB :=
  ((db.deleteKeysWhere (fun x => x.key == r'.key && x.id != r.id)).1).updKey r.id (fun _ => r')

theorem mem_moved {db : DB} (hi : (db.keys.map (·.id)).Nodup) {r r' : KeyRow} (hr : r ∈ db.keys)
    {x : KeyRow} :
    x ∈ (moved db r r').keys ↔ x = r' ∨ (x ∈ db.keys ∧ x.key ≠ r'.key ∧ x ≠ r) := by
  unfold moved updKey
  simp only [Clean.deleteKeysWhere_keys, List.mem_map, List.mem_filter]
  constructor
  · rintro ⟨y, ⟨hy, hq⟩, rfl⟩
    by_cases hyi : y.id = r.id
    · exact .inl (by simp [hyi])
    · have hyk : y.key ≠ r'.key := by simpa [hyi] using hq
      have : (y.id == r.id) = false := by simpa using hyi
      simp only [this, Bool.false_eq_true, if_false]
      exact .inr ⟨hy, hyk, fun h => hyi (h ▸ rfl)⟩
  · rintro (rfl | ⟨hx, hxk, hxr⟩)
    · exact ⟨r, ⟨hr, by simp⟩, by simp⟩
    · have : x.id ≠ r.id := fun h => hxr (id_inj hi hx hr h)
      exact ⟨x, ⟨hx, by simp [hxk]⟩, by simp [this]⟩

theorem moved_names {db : DB} (hn : (db.keys.map (·.key)).Nodup) (hi : (db.keys.map (·.id)).Nodup)
    (r r' : KeyRow) : ((moved db r r').keys.map (·.key)).Nodup := by
  unfold moved updKey
  simp only [Clean.deleteKeysWhere_keys, List.map_map]
  unfold List.Nodup at hn hi ⊢
  rw [List.pairwise_map] at hn hi ⊢
  exact InvP.pairwise_renamed hn hi r.id r'.key (fun _ => r') fun _ => rfl

theorem moved_wf {db : DB} (hw : db.WF) {r r' : KeyRow} (hr : r ∈ db.keys) (hid : r'.id = r.id)
    (hty : r'.ty = r.ty) : (moved db r r').WF :=
  updRow_wf (dkw_wf hw _) (by rw [Clean.deleteKeysWhere_keys]; exact List.mem_filter.2 ⟨hr, by simp⟩)
    hid hty (moved_names hw.names hw.ids r r')

theorem findKey_moved {db : DB} (hw : db.WF) {r r' : KeyRow} (hr : r ∈ db.keys) (k' : Bytes) :
    (moved db r r').findKey k'
      = if r'.key == k' then some r' else if r.key == k' then none else db.findKey k' := by
  have hn2 := moved_names hw.names hw.ids r r'
  have hmem := @mem_moved db hw.ids r r' hr
  by_cases h1 : r'.key = k'
  · rw [if_pos (by simpa using h1)]
    exact (findKey_eq_some_iff hn2).2 ⟨hmem.2 (.inl rfl), h1⟩
  · rw [if_neg (by simpa using h1)]
    by_cases h2 : r.key = k'
    · rw [if_pos (by simpa using h2)]
      refine findKey_eq_none.2 fun y hy hyk => ?_
      rcases hmem.1 hy with rfl | ⟨hy, _, hyr⟩
      · exact h1 hyk
      · exact hyr (key_inj hw.names hy hr (hyk.trans h2.symm))
    · rw [if_neg (by simpa using h2)]
      cases hf : db.findKey k' with
      | none =>
        refine findKey_eq_none.2 fun y hy hyk => ?_
        rcases hmem.1 hy with rfl | ⟨hy, _, _⟩
        · exact h1 hyk
        · exact findKey_eq_none.1 hf y hy hyk
      | some x =>
        obtain ⟨hx, hxk⟩ := findKey_mem hf
        exact (findKey_eq_some_iff hn2).2
          ⟨hmem.2 (.inr ⟨hx, fun h => h1 (h ▸ hxk), fun h => h2 (h ▸ hxk)⟩), hxk⟩

theorem get_put_del (s : State) (k nk : Bytes) (e : Entry) (k' : Bytes) :
    get (put (del s k) nk e) k'
      = if nk == k' then some e else if k == k' then none else get s k' := by
  rw [get_put, get_del]

/-- **What the rename statement does to the abstract keyspace**: the whole value and the expiry
move from `k` to the new name; whatever was stored under that name — visible or an expired
leftover, of any type — is replaced. Unique names and ids suffice (no `foreign_keys`, no staleness
condition). -/
theorem abs_moved {db : DB} (hw : db.WF) {k : Bytes} {r r' : KeyRow} {v : SVal} {now : Int}
    (hf : db.findKey k = some r) (hl : r.live now = true) (hv : absVal db r = some v)
    (hid : r'.id = r.id) (hty : r'.ty = r.ty) (het : r'.etime = r.etime) :
    abs now (moved db r r') = put (del (abs now db) k) r'.key ⟨v, r.etime⟩ := by
  obtain ⟨hr, hrk⟩ := findKey_mem hf
  -- a row that the statement does not delete keeps its children
  have hval : ∀ x ∈ db.keys, x.key ≠ r'.key ∨ x.id = r.id → absVal (moved db r r') x = absVal db x :=
    fun x hx h => Clean.absVal_dkw (p := fun x => x.key == r'.key && x.id != r.id)
      (Clean.survivor_id_not_gone hw.ids _ hx (by rcases h with h | h <;> simp [h]))
  apply abs_ext (moved_wf hw hr hid hty).names (((sorted_abs hw.names now).del k).put r'.key _)
  intro k'
  rw [get_put_del, findKey_moved hw hr, hrk]
  by_cases h1 : r'.key = k'
  · have hl' : r'.live now = true := by unfold KeyRow.live at hl ⊢; rw [het]; exact hl
    simp only [h1, beq_self_eq_true, if_true, Option.bind_some, rowEntry, hl']
    rw [MetaProofs.absVal_row hid hty, hval r hr (.inr rfl), hv, het]; rfl
  · have h1' : (r'.key == k') = false := by simpa using h1
    simp only [h1', Bool.false_eq_true, if_false]
    by_cases h2 : k = k'
    · simp [h2]
    · have h2' : (k == k') = false := by simpa using h2
      simp only [h2', Bool.false_eq_true, if_false]
      rw [get_abs hw.names]
      cases hfk : db.findKey k' with
      | none => rfl
      | some x =>
        obtain ⟨hx, hxk⟩ := findKey_mem hfk
        simp only [Option.bind_some, rowEntry]
        rw [hval x hx (.inl (by rw [hxk]; exact fun h => h1 h.symm))]

/-- the row the statement writes -/
def renamedRow (r : KeyRow) (nk : Bytes) (now : Int) : KeyRow :=
  { r with key := nk, version := r.version + 1, mtime := now }

theorem renameStmt_eq {db : DB} (hw : db.WF) {k nk : Bytes} {now : Int} {r : KeyRow}
    (hlk : db.liveKey k now = some r) : renameStmt db k nk now = moved db r (renamedRow r nk now) := by
  have hr1 : r ∈ (db.deleteKeysWhere (fun x => x.key == nk && x.id != r.id)).1.keys := by
    rw [Clean.deleteKeysWhere_keys]; exact List.mem_filter.2 ⟨(InvP.liveKey_some hlk).1, by simp⟩
  simp only [renameStmt, hlk]
  exact updKey_const (dkw_wf hw _).ids hr1 _

theorem renameStmt_abs {db : DB} (hw : db.WF) {k nk : Bytes} {now : Int} {r : KeyRow} {v : SVal}
    (hf : db.findKey k = some r) (hl : r.live now = true) (hv : absVal db r = some v)
    (hlk : db.liveKey k now = some r) :
    abs now (renameStmt db k nk now) = put (del (abs now db) k) nk ⟨v, r.etime⟩ := by
  rw [renameStmt_eq hw hlk]
  exact abs_moved hw hf hl hv rfl rfl rfl

theorem renameStmt_wf {db : DB} (hw : db.WF) (k nk : Bytes) (now : Int) :
    (renameStmt db k nk now).WF := by
  cases hlk : db.liveKey k now with
  | none => simp only [renameStmt, hlk]; exact hw
  | some r =>
    rw [renameStmt_eq hw hlk]
    exact moved_wf hw (InvP.liveKey_some hlk).1 rfl rfl

/-- D18 classifier: the source name is the empty byte string and is visible -/
def emptyLive (db : DB) (k : Bytes) (now : Int) : Bool := k.isEmpty && (db.liveKey k now).isSome

theorem purge_moved {db : DB} (hw : db.WF) (now : Int) (k nk : Bytes) {e : Entry}
    (he : liveAt now e.etime = true) :
    purge now (put (del (abs now db) k) nk e) = put (del (abs now db) k) nk e :=
  purge_put_live ((sorted_abs hw.names now).del k) (purge_filter (purge_abs hw.names now) _) nk he

theorem keyRename_refines {db : DB} (hw : db.WF) {now : Int} {k : Bytes}
    (hd18 : emptyLive db k now = false) (nk : Bytes) :
    Refines now (keyRename db k nk now) (Spec.keyRename (abs now db) k nk) := by
  unfold Refines
  rcases kholder_cases hw now k with ⟨hg, hlk⟩ | ⟨r, v, h, hl, hv, hty, hg, hlk⟩
  · simp [keyRename, Spec.keyRename, hg, hlk, Res.err, Spec.er, purge_abs hw.names]
  · have hke : r.key.isEmpty = false := by
      rw [(findKey_mem h).2]; simpa [emptyLive, hlk] using hd18
    by_cases hkk : k = nk
    · subst hkk
      simp [keyRename, Spec.keyRename, hg, hlk, hke, Res.ok, Spec.ok, purge_abs hw.names]
    · have hkk' : (k == nk) = false := by simpa using hkk
      have hren := (renameStmt_abs hw h hl hv hlk).trans (purge_moved hw now k nk (e := ⟨v, r.etime⟩) hl).symm
      rcases kholder_cases hw now nk with ⟨hg2, hlk2⟩ | ⟨r2, v2, _, _, _, hty2, hg2, hlk2⟩
      · simpa only [keyRename, Spec.keyRename, hg, hlk, hke, hkk', hg2, hlk2, Res.ok, Spec.ok,
          Bool.false_eq_true, if_false, true_and] using hren
      · by_cases hty12 : r.ty = r2.ty
        · have h1 : (r.ty != r2.ty) = false := by simp [hty12]
          have h2 : (v2.ty != v.ty) = false := by simp [hty, hty2, hty12]
          simpa only [keyRename, Spec.keyRename, hg, hlk, hke, hkk', hg2, hlk2, h1, h2, Res.ok,
            Spec.ok, Bool.false_eq_true, if_false, true_and] using hren
        · have h1 : (r.ty != r2.ty) = true := by simp [hty12]
          have h2 : (v2.ty != v.ty) = true := by
            simp only [hty, hty2, bne_iff_ne, ne_eq]; exact fun h => hty12 h.symm
          simp [keyRename, Spec.keyRename, hg, hlk, hke, hkk', hg2, hlk2, h1, h2, Res.err,
            Spec.er, purge_abs hw.names]

theorem keyRenameNX_refines {db : DB} (hw : db.WF) {now : Int} {k : Bytes}
    (hd18 : emptyLive db k now = false) (nk : Bytes) :
    Refines now (keyRenameNX db k nk now) (Spec.keyRenameNX (abs now db) k nk) := by
  unfold Refines
  rcases kholder_cases hw now k with ⟨hg, hlk⟩ | ⟨r, v, h, hl, hv, hty, hg, hlk⟩
  · simp [keyRenameNX, Spec.keyRenameNX, hg, hlk, Res.err, Spec.er, purge_abs hw.names]
  · have hke : r.key.isEmpty = false := by
      rw [(findKey_mem h).2]; simpa [emptyLive, hlk] using hd18
    by_cases hkk : k = nk
    · subst hkk
      simp [keyRenameNX, Spec.keyRenameNX, hg, hlk, hke, Res.ok, Spec.ok, purge_abs hw.names]
    · have hkk' : (k == nk) = false := by simpa using hkk
      have hren := (renameStmt_abs hw h hl hv hlk).trans (purge_moved hw now k nk (e := ⟨v, r.etime⟩) hl).symm
      have hcnt := keyCountRaw_one db nk now
      rcases kholder_cases hw now nk with ⟨hg2, hlk2⟩ | ⟨r2, v2, _, _, _, _, hg2, hlk2⟩
      · rw [hlk2] at hcnt
        have hcnt : ¬ keyCountRaw db [nk] now > 0 := by simpa using hcnt
        simpa only [keyRenameNX, Spec.keyRenameNX, hg, hlk, hke, hkk', hg2, hcnt, Res.ok, Spec.ok,
          Bool.false_eq_true, if_false, true_and] using hren
      · rw [hlk2] at hcnt
        have hcnt : keyCountRaw db [nk] now > 0 := by simpa using hcnt
        simp [keyRenameNX, Spec.keyRenameNX, hg, hlk, hke, hkk', hg2, hcnt, Res.ok, Spec.ok,
          purge_abs hw.names]

theorem keyRename_wf {db : DB} (hw : db.WF) (k nk : Bytes) (now : Int) :
    (keyRename db k nk now).db.WF :=
  InvP.keyRename_db hw (renameStmt_wf hw k nk now)

theorem keyRenameNX_wf {db : DB} (hw : db.WF) (k nk : Bytes) (now : Int) :
    (keyRenameNX db k nk now).db.WF :=
  InvP.keyRenameNX_db hw (renameStmt_wf hw k nk now)

/-- a callback that reports errors only on paths that have not written is not changed by the
rollback of `DB.Update` -/
theorem update_keyRename (db : DB) (k nk : Bytes) (now : Int) :
    update (fun d => keyRename d k nk now) db = keyRename db k nk now :=
  Dispatch.update_eq_of_err (fun _ h => Redka.Proofs.NoTrace.keyRename_err h)

theorem update_keyRenameNX (db : DB) (k nk : Bytes) (now : Int) :
    update (fun d => keyRenameNX d k nk now) db = keyRenameNX db k nk now :=
  Dispatch.update_eq_of_err (fun _ h => Redka.Proofs.NoTrace.keyRenameNX_err h)

/-- under the C11 audit no child row carries the id the next key will get -/
theorem no_children_of_next_id {db : DB} (h : db.Inv) :
    (∀ c ∈ db.strs, c.kid ≠ db.nextKeyId) ∧ (∀ c ∈ db.lists, c.kid ≠ db.nextKeyId) ∧
    (∀ c ∈ db.sets, c.kid ≠ db.nextKeyId) ∧ (∀ c ∈ db.hashes, c.kid ≠ db.nextKeyId) ∧
    (∀ c ∈ db.zsets, c.kid ≠ db.nextKeyId) := by
  obtain ⟨h1, h2, h3, h4, h5⟩ := Clean.owners_of_inv h
  have fresh : ∀ {kid : Int}, (∃ k ∈ db.keys, k.id = kid) → kid ≠ db.nextKeyId :=
    fun ⟨k, hk, hkk⟩ => hkk ▸ nextKeyId_fresh db k hk
  exact ⟨fun c hc => fresh (h1 c hc), fun c hc => fresh (h2 c hc), fun c hc => fresh (h3 c hc),
    fun c hc => fresh (h4 c hc), fun c hc => fresh (h5 c hc)⟩

/-- under the C11 audit a database without key rows has no rows at all -/
theorem empty_of_no_keys {db : DB} (h : db.Inv) (hk : db.keys = []) :
    db.strs = [] ∧ db.lists = [] ∧ db.sets = [] ∧ db.hashes = [] ∧ db.zsets = [] := by
  obtain ⟨h1, h2, h3, h4, h5⟩ := Clean.owners_of_inv h
  rw [hk] at h1 h2 h3 h4 h5
  have none_owned : ∀ {α : Type} {kid : α → Int} {l : List α},
      (∀ c ∈ l, ∃ k ∈ ([] : List KeyRow), k.id = kid c) → l = [] := by
    intro α kid l hl
    cases l with
    | nil => rfl
    | cons c _ => obtain ⟨_, hx, _⟩ := hl c (by simp); cases hx
  exact ⟨none_owned h1, none_owned h2, none_owned h3, none_owned h4, none_owned h5⟩

end Redka.Model
