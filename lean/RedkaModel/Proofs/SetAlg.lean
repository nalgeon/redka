/-
  `internal/rset`: the set algebra (`sqlDiff`, `sqlInter`, `sqlUnion`) computes the mathematical
  result over the abstract keyspace, the storing variants, move and pop.
-/
import RedkaModel.Proofs.SetRef

namespace Redka.Model.SetRef

open Redka Redka.Spec Redka.DB Redka.Scan

theorem kids_contains {db : DB} (hw : db.WF) (ks : List Bytes) (now : Int) (j : Int) :
    (setKids db ks now).contains j = true ↔
      ∃ k ∈ ks, ∃ r, db.liveKeyT k TSet now = some r ∧ r.id = j := by
  simp only [setKids, List.contains_iff_mem, List.mem_map, List.mem_filter, Bool.and_eq_true,
    beq_iff_eq]
  constructor
  · rintro ⟨r, ⟨hr, ⟨hk, ht⟩, hl⟩, hid⟩
    exact ⟨r.key, hk, r, (liveKeyT_eq_some_iff hw.names).2 ⟨findKey_of_mem hw.names hr, ht, hl⟩, hid⟩
  · rintro ⟨k, hk, r, hl, hid⟩
    obtain ⟨hf, ht, hlv⟩ := (liveKeyT_eq_some_iff hw.names).1 hl
    obtain ⟨hr, hrk⟩ := findKey_mem hf
    exact ⟨r, ⟨hr, ⟨by rw [hrk]; exact hk, ht⟩, hlv⟩, hid⟩

theorem mem_kidRows {db : DB} (hw : db.WF) (ks : List Bytes) (now : Int) (e : Bytes) :
    (∃ x ∈ db.sets, (setKids db ks now).contains x.kid = true ∧ x.elem = e) ↔
      ∃ k ∈ ks, e ∈ mset db k now := by
  constructor
  · rintro ⟨x, hx, hc, he⟩
    obtain ⟨k, hk, r, hl, hid⟩ := (kids_contains hw ks now x.kid).1 hc
    exact ⟨k, hk, mem_mset.2 ⟨r, hl, mem_setElems.2 ⟨x, hx, hid.symm, he⟩⟩⟩
  · rintro ⟨k, hk, hm⟩
    obtain ⟨r, hl, hm⟩ := mem_mset.1 hm
    obtain ⟨x, hx, hxk, he⟩ := mem_setElems.1 hm
    exact ⟨x, hx, (kids_contains hw ks now x.kid).2 ⟨k, hk, r, hl, hxk.symm⟩, he⟩

theorem mem_kidElems {db : DB} (hw : db.WF) (ks : List Bytes) (now : Int) (e : Bytes) :
    e ∈ (db.sets.filter (fun r => (setKids db ks now).contains r.kid)).map (·.elem) ↔
      ∃ k ∈ ks, e ∈ mset db k now := by
  rw [← mem_kidRows hw ks now e]
  simp only [List.mem_map, List.mem_filter]
  constructor
  · rintro ⟨x, ⟨hx, hc⟩, he⟩; exact ⟨x, hx, hc, he⟩
  · rintro ⟨x, hx, hc, he⟩; exact ⟨x, ⟨hx, hc⟩, he⟩

theorem mem_setUnionOf (s : State) (ks : List Bytes) (e : Bytes) :
    e ∈ setUnionOf s ks ↔ ∃ k ∈ ks, e ∈ setAt s k := by
  unfold setUnionOf
  rw [mem_foldl_sunion (setAt s) e ks []]
  simp

theorem ssorted_setUnionOf (s : State) (ks : List Bytes) : SSorted (setUnionOf s ks) :=
  ssorted_foldl_sunion (setAt s) ks SSorted.nil

/-- **`sqlUnion` computes the union**, for any list of keys -/
theorem setUnionRaw_eq {db : DB} (hw : db.WF) (ks : List Bytes) (now : Int) :
    setUnionRaw db ks now = setUnionOf (abs now db) ks := by
  apply ssorted_ext (ssorted_sortBy (nodup_dedup _)) (ssorted_setUnionOf _ _)
  intro e
  show e ∈ sortBy bytesLt (dedup ((db.sets.filter (fun r => (setKids db ks now).contains r.kid)).map (·.elem))) ↔ _
  rw [mem_sortBy, mem_dedup, mem_kidElems hw, mem_setUnionOf]
  simp only [setAt_abs hw]

theorem setDiffOf_cons (s : State) (k : Bytes) (rest : List Bytes) :
    setDiffOf s (k :: rest)
      = (setAt s k).filter (fun e => rest.all (fun x => !(setAt s x).contains e)) :=
  foldl_sdiff (setAt s) rest (setAt s k)

theorem setDiffRaw_cons (db : DB) (first : Bytes) (others : List Bytes) (now : Int) :
    setDiffRaw db (first :: others) now
      = (mset db first now).filter (fun e =>
          !((db.sets.filter (fun r => (setKids db others now).contains r.kid)).map (·.elem)).contains e) := by
  unfold mset
  cases hl : db.liveKeyT first TSet now with
  | none => simp only [setDiffRaw, hl]; rfl
  | some r => simp only [setDiffRaw, hl]; rfl

/-- **`sqlDiff` computes the difference**, for any list of keys -/
theorem setDiffRaw_eq {db : DB} (hw : db.WF) (ks : List Bytes) (now : Int) :
    setDiffRaw db ks now = setDiffOf (abs now db) ks := by
  cases ks with
  | nil => rfl
  | cons first others =>
    rw [setDiffOf_cons, setDiffRaw_cons]
    simp only [setAt_abs hw]
    apply List.filter_congr
    intro e _
    rw [Bool.eq_iff_iff, Bool.not_eq_true', List.all_eq_true]
    constructor
    · intro h x hx
      rw [Bool.not_eq_true', Bool.eq_false_iff]
      intro hc
      rw [Bool.eq_false_iff] at h
      exact h (List.contains_iff_mem.2
        ((mem_kidElems hw others now e).2 ⟨x, hx, List.contains_iff_mem.1 hc⟩))
    · intro h
      rw [Bool.eq_false_iff]
      intro hc
      obtain ⟨x, hx, hm⟩ := (mem_kidElems hw others now e).1 (List.contains_iff_mem.1 hc)
      have := h x hx
      rw [Bool.not_eq_true', Bool.eq_false_iff] at this
      exact this (List.contains_iff_mem.2 hm)

theorem setInterOf_cons (s : State) (k : Bytes) (rest : List Bytes) :
    setInterOf s (k :: rest)
      = (setAt s k).filter (fun e => rest.all (fun x => (setAt s x).contains e)) :=
  foldl_sinter (setAt s) rest (setAt s k)

theorem mem_setInterOf (s : State) {ks : List Bytes} (hne : ks ≠ []) (e : Bytes) :
    e ∈ setInterOf s ks ↔ ∀ x ∈ ks, e ∈ setAt s x := by
  cases ks with
  | nil => exact absurd rfl hne
  | cons k rest =>
    rw [setInterOf_cons]
    simp [List.mem_filter]

theorem mem_setDiffOf_cons (s : State) (k : Bytes) (rest : List Bytes) (e : Bytes) :
    e ∈ setDiffOf s (k :: rest) ↔ e ∈ setAt s k ∧ ∀ x ∈ rest, e ∉ setAt s x := by
  rw [setDiffOf_cons]
  simp [List.mem_filter]

/-- `count(distinct kid)` over the rows selected by ANY key list counts the distinct requested
names that are live sets holding the member -/
theorem inter_count_any {db : DB} (hw : SetWF db) (now : Int) (e : Bytes) (ks : List Bytes) :
    (db.sets.filter (fun x => (setKids db ks now).contains x.kid && x.elem == e)).length
      = ((dedup ks).filter (fun k => (mset db k now).contains e)).length := by
  -- both sides count the live set keys named in `ks` that hold `e`: the rows by their `kid`
  -- (`(kid, elem)` is unique), the names by the key row they lead to
  let R := db.keys.filter (fun r => (ks.contains r.key && r.ty == TSet && r.live now)
    && (setElems db r.id).contains e)
  have hrows : ((db.sets.filter (fun x => (setKids db ks now).contains x.kid && x.elem == e)).map
      (·.kid)).Perm (R.map (·.id)) := by
    rw [List.perm_ext_iff_of_nodup ?_ (List.Nodup.sublist (List.Sublist.map _ List.filter_sublist) hw.ids)]
    · intro id
      simp only [setKids, List.mem_map, List.mem_filter, List.contains_iff_mem, Bool.and_eq_true,
        beq_iff_eq]
      constructor
      · rintro ⟨x, ⟨hx, ⟨r, ⟨hr, hP⟩, hid⟩, he⟩, rfl⟩
        exact ⟨r, ⟨hr, hP, mem_setElems.2 ⟨x, hx, hid.symm, he⟩⟩, hid⟩
      · rintro ⟨r, ⟨hr, hP, hm⟩, rfl⟩
        obtain ⟨x, hx, hk, he⟩ := mem_setElems.1 hm
        exact ⟨x, ⟨hx, ⟨r, ⟨hr, hP⟩, hk.symm⟩, he⟩, hk⟩
    · refine nodup_map_of_nodup_map (fun x : SetRow => (x.kid, x.elem)) _ _
        (List.Nodup.sublist (List.Sublist.map _ List.filter_sublist) hw.setUniq) ?_
      intro a ha b hb hab
      have ha := (List.mem_filter.1 ha).2
      have hb := (List.mem_filter.1 hb).2
      simp only [Bool.and_eq_true, beq_iff_eq] at ha hb
      rw [hab, ha.2, hb.2]
  have hnames : ((dedup ks).filter (fun k => (mset db k now).contains e)).Perm (R.map (·.key)) := by
    rw [List.perm_ext_iff_of_nodup ((nodup_dedup ks).filter _)
      (List.Nodup.sublist (List.Sublist.map _ List.filter_sublist) hw.names)]
    intro k
    simp only [List.mem_map, List.mem_filter, List.contains_iff_mem, Bool.and_eq_true, beq_iff_eq,
      mem_dedup, mem_mset, liveKeyT_eq_some_iff hw.names]
    constructor
    · rintro ⟨hk, r, ⟨hf, ht, hl⟩, hm⟩
      obtain ⟨hr, hrk⟩ := findKey_mem hf
      exact ⟨r, ⟨hr, ⟨⟨by rw [hrk]; exact hk, ht⟩, hl⟩, hm⟩, hrk⟩
    · rintro ⟨r, ⟨hr, ⟨⟨hk, ht⟩, hl⟩, hm⟩, rfl⟩
      exact ⟨hk, r, ⟨findKey_of_mem hw.names hr, ht, hl⟩, hm⟩
  rw [← List.length_map (f := SetRow.kid), hrows.length_eq, hnames.length_eq, List.length_map,
    List.length_map]
/-- **`sqlInter` computes the intersection**, for ANY non-empty key list — repeated keys, missing
keys and keys of another type included: the rows selected are those of the live sets among the
distinct requested names, and a member is kept iff the number of selected rows carrying it equals
the number of distinct requested names (`countDistinct(keys)`), i.e. iff every requested name is a
live set holding it. -/
theorem setInterRaw_eq {db : DB} (hw : SetWF db) {ks : List Bytes} (hne : ks ≠ [])
    (now : Int) : setInterRaw db ks now = setInterOf (abs now db) ks := by
  cases ks with
  | nil => exact absurd rfl hne
  | cons k rest =>
    have hs : SSorted (setInterOf (abs now db) (k :: rest)) := by
      rw [setInterOf_cons, setAt_abs hw.wf]
      exact (ssorted_mset hw k now).filter _
    apply ssorted_ext ((ssorted_sortBy (nodup_dedup _)).filter _) hs
    intro e
    rw [mem_setInterOf _ (List.cons_ne_nil _ _)]
    simp only [List.mem_filter]
    rw [mem_sortBy, mem_dedup, mem_kidElems hw.wf, List.filter_filter]
    have hcnt : (db.sets.filter (fun a => a.elem == e && (setKids db (k :: rest) now).contains a.kid)).length
        = ((dedup (k :: rest)).filter (fun k => (mset db k now).contains e)).length := by
      rw [← inter_count_any hw now e (k :: rest)]
      congr 1
      apply List.filter_congr
      intro x _
      exact Bool.and_comm _ _
    rw [hcnt]
    simp only [beq_iff_eq, Int.natCast_inj, List.length_filter_eq_length_iff, List.contains_eq_mem,
      decide_eq_true_eq, setAt_abs hw.wf, mem_dedup]
    constructor
    · exact fun h => h.2
    · exact fun h => ⟨⟨k, by simp, h k (by simp)⟩, h⟩

theorem setAt_frame {db db' : DB} {d : Bytes} (hn : (db.keys.map (·.key)).Nodup)
    (hn' : (db'.keys.map (·.key)).Nodup) (hf : Frame db db' d) (now : Int) {k : Bytes} (hk : k ≠ d) :
    setAt (abs now db') k = setAt (abs now db) k := by
  unfold setAt
  rw [get_abs_view hn', get_abs_view hn, hf.view hk now]

theorem setUnionOf_congr {s s' : State} {ks : List Bytes} (h : ∀ k ∈ ks, setAt s' k = setAt s k) :
    setUnionOf s' ks = setUnionOf s ks := by
  unfold setUnionOf
  apply foldl_congr_mem
  intro x hx a
  rw [h x hx]

theorem setDiffOf_congr {s s' : State} {ks : List Bytes} (h : ∀ k ∈ ks, setAt s' k = setAt s k) :
    setDiffOf s' ks = setDiffOf s ks := by
  cases ks with
  | nil => rfl
  | cons k rest =>
    show rest.foldl (fun acc x => sdiff acc (setAt s' x)) (setAt s' k)
      = rest.foldl (fun acc x => sdiff acc (setAt s x)) (setAt s k)
    rw [h k (by simp)]
    apply foldl_congr_mem
    intro x hx a
    rw [h x (List.mem_cons_of_mem _ hx)]

theorem setInterOf_congr {s s' : State} {ks : List Bytes} (h : ∀ k ∈ ks, setAt s' k = setAt s k) :
    setInterOf s' ks = setInterOf s ks := by
  cases ks with
  | nil => rfl
  | cons k rest =>
    show rest.foldl (fun acc x => sinter acc (setAt s' x)) (setAt s' k)
      = rest.foldl (fun acc x => sinter acc (setAt s x)) (setAt s k)
    rw [h k (by simp)]
    apply foldl_congr_mem
    intro x hx a
    rw [h x (List.mem_cons_of_mem _ hx)]

theorem ssorted_setDiffOf {db : DB} (hw : SetWF db) (now : Int) (ks : List Bytes) :
    SSorted (setDiffOf (abs now db) ks) := by
  cases ks with
  | nil => exact SSorted.nil
  | cons k rest =>
    rw [setDiffOf_cons, setAt_abs hw.wf]
    exact (ssorted_mset hw k now).filter _

theorem ssorted_setInterOf {db : DB} (hw : SetWF db) (now : Int) (ks : List Bytes) :
    SSorted (setInterOf (abs now db) ks) := by
  cases ks with
  | nil => exact SSorted.nil
  | cons k rest =>
    rw [setInterOf_cons, setAt_abs hw.wf]
    exact (ssorted_mset hw k now).filter _

theorem setDeleteKey_none {db : DB} {d : Bytes} {now : Int} (hl : db.liveKeyT d TSet now = none) :
    setDeleteKey db d now = db := by
  simp [setDeleteKey, hl]

/-- `deleteKey` on a live set: all rows go, the key row stays with length 0 -/
theorem setDeleteKey_set {db : DB} (hw : SetWF db) {d : Bytes} {now : Int} {r : KeyRow}
    (hl : db.liveKeyT d TSet now = some r) :
    SetWF (setDeleteKey db d now) ∧ Frame db (setDeleteKey db d now) d ∧
      IsSetRow (setDeleteKey db d now) d r.id r.etime ∧ setElems (setDeleteKey db d now) r.id = [] := by
  obtain ⟨hf, ht, _⟩ := (liveKeyT_eq_some_iff hw.names).1 hl
  obtain ⟨hr, _⟩ := findKey_mem hf
  let r' : KeyRow := { r with version := 0, mtime := 0, len := some 0 }
  have hc : core r' = core r := rfl
  have hfil : db.sets.filter (fun x => x.kid != r.id)
      = db.sets.filter (fun x => !(x.kid == r.id && true)) := by
    apply List.filter_congr
    intro x _
    simp [bne]
  have hempty : (db.sets.filter (fun x => !(x.kid == r.id && true))).filter
      (fun x => x.kid == r.id) = [] := by
    rw [List.filter_filter, List.filter_eq_nil_iff]
    intro x _
    simp
  have hdb : setDeleteKey db d now
      = modDb db r.id r' (db.sets.filter (fun x => !(x.kid == r.id && true))) := by
    have h0 : setDeleteKey db d now
        = ({ db with sets := db.sets.filter (fun x => x.kid != r.id) } : DB).updKey r.id
            (fun o => { o with version := 0, mtime := 0, len := some 0 }) := by
      simp only [setDeleteKey, hl]
    rw [h0, hfil]
    exact updKey_const
      (db := { db with sets := db.sets.filter (fun x => !(x.kid == r.id && true)) }) hw.ids hr _
  have := delRows_spec hw hf ht (fun _ => true) hc (by rw [hempty]; rfl)
  simp only at this
  rw [← hdb] at this
  obtain ⟨h1, h2, h3, h4⟩ := this
  refine ⟨h1, h2, h3, ?_⟩
  rw [h4]
  simp

theorem setDeleteKey_wf {db : DB} (hw : SetWF db) (d : Bytes) (now : Int) :
    SetWF (setDeleteKey db d now) := by
  cases hl : db.liveKeyT d TSet now with
  | none => rw [setDeleteKey_none hl]; exact hw
  | some r => exact (setDeleteKey_set hw hl).1

theorem setStore_wf {db : DB} (hw : SetWF db) (d : Bytes) (ks : List Bytes) (now : Int)
    (compute : DB → List Bytes) : SetWF (setStore db d ks now compute).db := by
  unfold setStore
  split
  · exact hw
  · have hw1 := setDeleteKey_wf hw d now
    generalize setDeleteKey db d now = db1 at hw1
    simp only
    cases hf : db1.findKey d with
    | none =>
      obtain ⟨db2, r, h1, h2, _, h4, _⟩ := setAddKey_new hw1 hf now
      rw [h1]
      simp only
      cases hi : setInsertAll db2 r.id (compute db2) 0 with
      | error e => exact h2
      | ok p => exact setInsertAll_wf _ _ _ h2 h4 p.1 p.2 hi
    | some old =>
      by_cases ht : old.ty = TSet
      · obtain ⟨db2, r, h1, h2, _, hid, h4, _⟩ := setAddKey_old hw1 hf ht now
        rw [h1]
        simp only
        rw [hid]
        cases hi : setInsertAll db2 old.id (compute db2) 0 with
        | error e => exact h2
        | ok p => exact setInsertAll_wf _ _ _ h2 h4 p.1 p.2 hi
      · rw [setAddKey_other hf ht]
        exact hw1

/-- **The storing variants.** With a destination that is not a stale leftover (D05) and a result
that does not change when the destination is wiped (guaranteed when the destination is not one of
the sources, D08; only asked for a non-empty list of sources): the destination ends up holding
exactly `result`, with its old expiry. -/
theorem setStore_refS {db : DB} (hw : SetWF db) {now : Int} {d : Bytes}
    (hns : staleKey db now d = false) (ks : List Bytes) (compute : DB → List Bytes)
    {result : List Bytes} (hres : SSorted result)
    (hc : ks.isEmpty = false → ∀ db2, SetWF db2 → Frame db db2 d → compute db2 = result) :
    RefS now (update (fun x => setStore x d ks now compute) db)
      (Spec.setStore (abs now db) d ks result) := by
  have hlive : liveAt now (none : Option Int) = true := rfl
  unfold Spec.setStore
  cases hemp : ks.isEmpty with
  | true => exact ⟨by simp [update, setStore, hemp, Res.ok, Spec.ok], by simp [update, setStore, hemp, Res.ok, Spec.ok]⟩
  | false =>
    simp only [Bool.false_eq_true, if_false]
    -- what happens once the key row is in place and the old rows are gone
    have fin : ∀ (db2 : DB) (id : Int) (et : Option Int), SetWF db2 → Frame db db2 d →
        IsSetRow db2 d id et → setElems db2 id = [] → liveAt now et = true →
        ∃ db3, setInsertAll db2 id (compute db2) 0 = .ok (db3, (result.length : Int)) ∧
          abs now db3 = put (abs now db) d ⟨.set result, et⟩ := by
      intro db2 id et hw2 hfr hrow hel hlv
      rw [hc hemp db2 hw2 hfr]
      obtain ⟨db3, g1, g2, g3, g4, g5⟩ := setInsertAll_spec result db2 0 hw2 hrow hres.nodup
        (by rw [hel]; simp)
      rw [hel, sunion_nil_of_ssorted hres] at g5
      refine ⟨db3, by rw [g1]; simp, ?_⟩
      have hv := g4.view now
      rw [hlv, if_pos rfl, g5] at hv
      exact abs_frame_put hw.names g2.names (hfr.trans g3) hv
    rcases sholder hw.wf now d with ⟨h, hg, hl⟩ | ⟨_, h, hl, _, _⟩ | ⟨r, h, hlv, ht, hg, hl⟩ |
      ⟨r, v, h, _, ht, hg, hv, hl⟩
    · obtain ⟨db2, r, h1, h2, h3, h4, h5⟩ := setAddKey_new hw h now
      obtain ⟨db3, g1, g2⟩ := fin db2 r.id none h2 h3 h4 h5 hlive
      have hrun : setStore db d ks now compute = .ok (.int result.length) db3 := by
        simp [setStore, hemp, setDeleteKey_none hl, h1, g1]
      exact ⟨by simp [update, hrun, Res.ok, hg, Spec.ok], by simp [update, hrun, Res.ok, hg, Spec.ok, g2]⟩
    · exact (Holder.not_stale hns h hl).elim
    · obtain ⟨k1, k2, k3, k4⟩ := setDeleteKey_set hw hl
      obtain ⟨r1, hf1, hid1, hty1, het1⟩ := k3
      obtain ⟨db2, r2, h1, h2, h3, hid, h4, h5⟩ := setAddKey_old k1 hf1 hty1 now
      rw [hid1] at h4 h5 hid
      rw [het1] at h4
      rw [k4] at h5
      obtain ⟨db3, g1, g2⟩ := fin db2 r.id r.etime h2 (k2.trans h3) h4 h5 hlv
      have hrun : setStore db d ks now compute = .ok (.int result.length) db3 := by
        simp [setStore, hemp, h1, hid, g1]
      exact ⟨by simp [update, hrun, Res.ok, hg, Spec.ok], by simp [update, hrun, Res.ok, hg, Spec.ok, g2]⟩
    · have hrun : setStore db d ks now compute = .err .keyType db := by
        simp [setStore, hemp, setDeleteKey_none hl, setAddKey_other h ht]
      have hsp := (setOps_other hg hv).2.2.2 ks result hemp
      simp only [Spec.setStore, hemp, Bool.false_eq_true, if_false] at hsp
      rw [hsp]
      exact ⟨by simp [update, hrun, Res.err, Spec.er], by simp [update, hrun, Res.err, Spec.er]⟩

theorem length_filter_kid_elem {db : DB} (hu : (db.sets.map (fun r => (r.kid, r.elem))).Nodup)
    (id : Int) (e : Bytes) :
    (db.sets.filter (fun x => x.kid == id && x.elem == e)).length
      = if (setElems db id).contains e then 1 else 0 := by
  have hkey := length_filter_key (fun y : SetRow => (y.kid, y.elem)) (id, e) db.sets hu
  have hmem : ((id, e) ∈ db.sets.map (fun y : SetRow => (y.kid, y.elem))) ↔ e ∈ setElems db id := by
    rw [mem_setElems]
    simp only [List.mem_map, Prod.mk.injEq]
  refine Eq.trans (congrArg List.length (List.filter_congr ?_)) (hkey.trans ?_)
  · intro x _
    rw [Bool.eq_iff_iff]
    simp
  · simp only [hmem, List.contains_eq_mem, decide_eq_true_eq]

theorem setPop_eq_delete {db : DB} (hw : SetWF db) (k e : Bytes) (now : Int)
    (hm : e ∈ mset db k now) :
    setPop db k (some e) now = ⟨.ok (.bytes e), (setDelete db k [e] now).db⟩ := by
  obtain ⟨r, hl, hme⟩ := mem_mset.1 hm
  have hany : (setRows db r.id).any (fun x => x.elem == e) = true := by
    rw [any_setRows]; exact List.contains_iff_mem.2 hme
  have hpred : (fun x : SetRow => x.kid == r.id && [e].contains x.elem)
      = (fun x => x.kid == r.id && x.elem == e) := by
    funext x; simp only [List.contains_cons, List.contains_nil, Bool.or_false]
  have hpred' : (fun x : SetRow => !(x.kid == r.id && [e].contains x.elem))
      = (fun x => !(x.kid == r.id && x.elem == e)) := by
    funext x; simp only [List.contains_cons, List.contains_nil, Bool.or_false]
  have hone : (db.sets.filter (fun x => x.kid == r.id && x.elem == e)).length = 1 := by
    rw [length_filter_kid_elem hw.setUniq, if_pos (List.contains_iff_mem.2 hme)]
  simp only [setPop, hl, hany, if_true, Res.ok, setDelete, hpred, hpred', hone]
  rfl

theorem setPop_none (db : DB) (k : Bytes) (now : Int) :
    setPop db k none now
      = if (mset db k now).isEmpty then .err .notFound db else .err .outOfDomain db := by
  unfold setPop mset
  cases db.liveKeyT k TSet now with
  | none => rfl
  | some r => simp only [isEmpty_setRows]

theorem setPop_not_mem {db : DB} {k e : Bytes} {now : Int} (hm : smem (mset db k now) e = false) :
    setPop db k (some e) now = .err .outOfDomain db := by
  unfold setPop
  unfold mset at hm
  cases hl : db.liveKeyT k TSet now with
  | none => rfl
  | some r => rw [hl] at hm; simp only [any_setRows, hm]; rfl

theorem setPop_refS {db : DB} (hw : SetWF db) (now : Int) (k : Bytes) (o : Option Bytes) :
    RefS now (update (fun x => setPop x k o now) db) (Spec.setPop (abs now db) k o) := by
  unfold Spec.setPop
  rw [setAt_abs hw.wf]
  cases o with
  | none =>
    rw [Dispatch.update_eq_of_err (fun _ _ => by rw [setPop_none]; split <;> rfl), setPop_none]
    simp only
    cases (mset db k now).isEmpty <;> exact ⟨rfl, rfl⟩
  | some e =>
    simp only
    cases hm : smem (mset db k now) e with
    | false =>
      rw [Dispatch.update_eq_of_err (fun _ _ => by rw [setPop_not_mem hm]; rfl), setPop_not_mem hm]
      exact ⟨rfl, rfl⟩
    | true =>
      rw [update_of_eq_ok (setPop_eq_delete hw k e now (List.contains_iff_mem.1 hm))]
      exact ⟨rfl, (setDelete_refS hw now k [e]).2⟩

theorem setPop_wf {db : DB} (hw : SetWF db) (k : Bytes) (o : Option Bytes) (now : Int) :
    SetWF (setPop db k o now).db := by
  cases o with
  | none => rw [setPop_none]; split <;> exact hw
  | some e =>
    cases hm : smem (mset db k now) e with
    | false => rw [setPop_not_mem hm]; exact hw
    | true =>
      rw [setPop_eq_delete hw k e now (List.contains_iff_mem.1 hm)]
      exact setDelete_wf hw k [e] now

theorem setMove_wf {db : DB} (hw : SetWF db) (s d e : Bytes) (now : Int) :
    SetWF (setMove db s d e now).db := by
  have h1 := setDelete_wf hw s [e] now
  unfold setMove
  simp only
  split
  · exact h1
  · split
    · exact h1
    · have h2 := setAdd_wf h1 d [e] now
      split <;> exact h2
  · exact h1

theorem spec_setDelete_get (s : State) (k k' : Bytes) (es : List Bytes) :
    get (Spec.setDelete s k es).st k' = get s k' ∨
      ∃ m m' et, k' = k ∧ get s k = some ⟨.set m, et⟩ ∧
        get (Spec.setDelete s k es).st k = some ⟨.set m', et⟩ := by
  unfold Spec.setDelete
  cases hg : get s k with
  | none => exact .inl rfl
  | some en =>
    obtain ⟨v, et⟩ := en
    cases v with
    | set m =>
      simp only [Spec.ok]
      split
      · exact .inl rfl
      · by_cases hk : k = k'
        · subst hk
          exact .inr ⟨m, sdiff m es, et, rfl, rfl, by rw [get_put]; simp⟩
        · left
          rw [get_put]
          simp [hk]
    | _ => exact .inl rfl

/-- the specification's move of a member is its delete followed by its add, all or nothing -/
theorem spec_setMove_eq (s : State) (src dst e : Bytes) (hm : smem (setAt s src) e = true) :
    Spec.setMove s src dst e
      = match (Spec.setAdd (Spec.setDelete s src [e]).st dst [e]).out with
        | .ok _ => ⟨.ok .nil, (Spec.setAdd (Spec.setDelete s src [e]).st dst [e]).st⟩
        | .error er => Spec.er er s := by
  unfold Spec.setMove
  rw [hm]
  simp only [Bool.not_true, Bool.false_eq_true, if_false]
  rcases spec_setDelete_get s src dst [e] with h | ⟨m, m', et, rfl, h1, h2⟩
  · unfold Spec.setAdd
    rw [h]
    cases get s dst with
    | none => rfl
    | some en => obtain ⟨v, et⟩ := en; cases v <;> rfl
  · unfold Spec.setAdd
    rw [h1, h2]
    rfl

/-- **Move** is a delete followed by an add, all or nothing. -/
theorem setMove_refS {db : DB} (hw : SetWF db) {now : Int} {d : Bytes}
    (hns : staleKey db now d = false) (s e : Bytes) :
    RefS now (update (fun x => setMove x s d e now) db) (Spec.setMove (abs now db) s d e) := by
  cases hm : smem (setAt (abs now db) s) e with
  | false =>
    unfold Spec.setMove
    rw [hm]
    rw [setAt_abs hw.wf] at hm
    have hrun : setDelete db s [e] now = .ok (.int 0) db := by
      cases hl : db.liveKeyT s TSet now with
      | none => exact setDelete_none hl [e]
      | some r =>
        obtain ⟨db', he, _, _, _, _, hdb⟩ := setDelete_cases hw hl [e]
        have hsame : sdiff (setElems db r.id) [e] = setElems db r.id := by
          apply List.filter_eq_self.2
          intro x hx
          have : x ≠ e := by
            rintro rfl
            simp [mset, hl, smem, hx] at hm
          simp [this]
        rw [he, hdb (by rw [hsame]), hsame, Int.sub_self]
    exact ⟨by simp [update, setMove, hrun, Res.ok, Res.err, Spec.er],
      by simp [update, setMove, hrun, Res.ok, Res.err, Spec.er]⟩
  | true =>
    rw [spec_setMove_eq _ _ _ _ hm]
    rw [setAt_abs hw.wf] at hm
    obtain ⟨r, hl, hme⟩ := mem_mset.1 (List.contains_iff_mem.1 hm)
    obtain ⟨_, _, hlv⟩ := (liveKeyT_eq_some_iff hw.names).1 hl
    obtain ⟨db1, he, hw1, hfr, hrow, hel, _⟩ := setDelete_cases hw hl [e]
    have hdel := setDelete_refS hw now s [e]
    rw [he] at hdel
    -- the delete removes a member, so the add runs
    have hn1 : ¬ (((setElems db r.id).length : Int) - (sdiff (setElems db r.id) [e]).length == 0) = true := by
      intro h
      have hlen : (sdiff (setElems db r.id) [e]).length = (setElems db r.id).length := by
        have := beq_iff_eq.1 h; omega
      have : e ∈ sdiff (setElems db r.id) [e] := by rw [sdiff_eq_self hlen]; exact hme
      simp [mem_sdiff] at this
    have hrun : setMove db s d e now
        = match (setAdd db1 d [e] now).out with
          | .error er => .err er (setAdd db1 d [e] now).db
          | .ok _ => .ok .nil (setAdd db1 d [e] now).db := by
      simp only [setMove, he, Res.ok, hn1]
      rfl
    -- the destination is not a stale leftover in the intermediate state either
    have hns1 : staleKey db1 now d = false := by
      by_cases hds : d = s
      · subst hds
        rw [hrow.stale now, show liveAt now r.etime = true from hlv]; rfl
      · rw [hfr.stale hds now]; exact hns
    obtain ⟨ha1, ha2⟩ := setAdd_refS hw1 hns1 [e]
    rw [show abs now db1 = _ from hdel.2] at ha1 ha2
    rw [← ha1]
    simp only [update, hrun]
    cases (setAdd db1 d [e] now).out with
    | ok v => exact ⟨rfl, ha2⟩
    | error er => exact ⟨rfl, rfl⟩

end Redka.Model.SetRef
