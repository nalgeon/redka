/-
  C19 — exact row-level facts behind the readable corollaries: a creating write starts at
  version 1, a rename carries the row over, the expiry commands touch nothing but version and
  expiry, a successful store restarts the destination.
-/
import RedkaModel.Proofs.MetaStep

namespace Redka.MetaProofs

open Redka Redka.Model Redka.InvP Redka.Dispatch

variable {db : DB}

/-- the methods that run exactly one key upsert on the name they are given -/
def createKey : Op → Option Bytes
  | .strSet k _ | .strSetExpires k _ _ | .strIncr k _ | .strSetWith k _ _ => some k
  | .listPushBack k _ | .listPushFront k _ => some k
  | .setAdd k _ => some k
  | .hashSet k _ _ | .hashSetNotExists k _ _ | .hashIncr k _ _ => some k
  | .zAdd k _ _ | .zIncr k _ _ => some k
  | _ => none

def Fresh1 (k : Bytes) (now : Int) (post : DB) : Prop :=
  ∀ r' ∈ post.keys, r'.key = k → r'.version = 1 ∧ r'.mtime = now

theorem Fresh1.of_absent {k : Bytes} {now : Int} (hf : db.findKey k = none) : Fresh1 k now db :=
  fun r' hr' hk => absurd hk (findKey_none hf r' hr')

theorem upsert_new_touch {now : Int} {a b c : DB} {k : Bytes} {ty : Int} {onNew : Int → KeyRow}
    {onOld : KeyRow → KeyRow} {r : KeyRow} (hf : a.findKey k = none)
    (he : keyUpsert a k ty onNew onOld = .ok (b, r))
    (hnew : ∀ id, (onNew id).version = 1 ∧ (onNew id).mtime = now)
    (ht : Touch r.id b c) : Fresh1 k now c := by
  intro r' hr' hk
  obtain ⟨r2, hr2, hs, _⟩ := ht.keys r' hr'
  rcases keyUpsert_cases he with ⟨_, hr, hdb⟩ | ⟨old, hf', _⟩
  · rw [hdb] at hr2
    rcases List.mem_append.1 hr2 with hr2 | hr2
    · exact absurd (hs.key.symm.trans hk) (findKey_none hf r2 hr2)
    · have : r2 = r := List.mem_singleton.1 hr2
      subst this
      rw [hs.version, hs.mtime, hr]
      exact hnew _
  · rw [hf] at hf'; cases hf'

theorem strUpsertSet_new {now : Int} (h : WF db) (k v : Bytes) (hf : db.findKey k = none)
    (onNew : Int → KeyRow) (onOld : KeyRow → KeyRow)
    (hnew : ∀ id, (onNew id).id = id ∧ (onNew id).key = k ∧ (onNew id).ty = TString ∧
      (onNew id).len = none ∧ (onNew id).version = 1 ∧ (onNew id).mtime = now)
    (hold : ∀ o, (onOld o).id = o.id ∧ (onOld o).key = o.key ∧ (onOld o).ty = o.ty ∧
      (onOld o).len = o.len) :
    Fresh1 k now (strWrite db k v onNew onOld).2 := by
  unfold strWrite
  cases he : keyUpsert db k TString onNew onOld with
  | error e => exact Fresh1.of_absent hf
  | ok p =>
    obtain ⟨db1, r⟩ := p
    obtain ⟨d, _, h1, hr, hk, _⟩ := h.keyUpsert_str he
      (fun id => ⟨(hnew id).1, (hnew id).2.1, (hnew id).2.2.1, (hnew id).2.2.2.1⟩) hold
    obtain ⟨db2, h2, ht⟩ := strSet2_touch h1 hr v
    rw [hk] at h2
    simp only [h2]
    exact upsert_new_touch hf he (fun id => ⟨(hnew id).2.2.2.2.1, (hnew id).2.2.2.2.2⟩) ht

theorem strSetTx_new (h : WF db) {k : Bytes} (hf : db.findKey k = none) (v : Bytes)
    (et : Option Int) (now : Int) : Fresh1 k now (strSetTx db k v et now).2 :=
  strUpsertSet_new h k v hf _ _ (fun _ => ⟨rfl, rfl, rfl, rfl, rfl, rfl⟩) (fun _ => ⟨rfl, rfl, rfl, rfl⟩)

theorem strUpdateTx_new (h : WF db) {k : Bytes} (hf : db.findKey k = none) (v : Bytes)
    (now : Int) : Fresh1 k now (strUpdateTx db k v now).2 :=
  strUpsertSet_new h k v hf _ _ (fun _ => ⟨rfl, rfl, rfl, rfl, rfl, rfl⟩) (fun _ => ⟨rfl, rfl, rfl, rfl⟩)

theorem hashSetTx_new {k f v : Bytes} {now : Int} {d : DB} (hf : db.findKey k = none)
    (he : hashSetTx db k f v now = .ok d) : Fresh1 k now d := by
  unfold hashSetTx at he
  cases hk : hashSetKey db k now with
  | error e => rw [hk] at he; cases he
  | ok p =>
    obtain ⟨db1, r⟩ := p
    rw [hk] at he
    simp only [Except.ok.injEq] at he
    subst he
    exact upsert_new_touch hf hk (fun _ => ⟨rfl, rfl⟩) (hashSetRow_touch r.id f v)

theorem zAddTx_new {k e : Bytes} {s : Score} {now : Int} {d : DB} (hf : db.findKey k = none)
    (he : zAddTx db k e s now = .ok d) : Fresh1 k now d := by
  unfold zAddTx at he
  cases hk : zAddKey db k now with
  | error er => rw [hk] at he; cases he
  | ok p =>
    obtain ⟨db1, r⟩ := p
    rw [hk] at he
    simp only [Except.ok.injEq] at he
    subst he
    exact upsert_new_touch hf hk (fun _ => ⟨rfl, rfl⟩) (zSetRow_touch r.id e s)

theorem listPush_new {k : Bytes} (hf : db.findKey k = none) (e : Bytes) (front : Bool) (now : Int) :
    Fresh1 k now (listPush db k e front now).db := by
  unfold listPush
  cases hk : listPushKey db k now with
  | error er => exact Fresh1.of_absent hf
  | ok p =>
    obtain ⟨db1, r⟩ := p
    simp only
    generalize (if front = true then _ else _ : Dyadic) = pos
    split
    · exact upsert_new_touch hf hk (fun _ => ⟨rfl, rfl⟩) (Touch.refl _ _)
    · refine upsert_new_touch hf hk (fun _ => ⟨rfl, rfl⟩) (Touch.setLists r.id db1 _ (fun i hi => ?_))
      exact (filter_kid_append_other (·.kid) db1.lists ({ kid := r.id, pos := pos, elem := e } : ListRow)
        (i := i) (fun (e : r.id = i) => hi e.symm)).symm

theorem create_fresh_tx (h : WF db) {op : Op} {k : Bytes} (b : Bool) (now : Int)
    (hc : createKey op = some k) (hf : db.findKey k = none) :
    Fresh1 k now (Model.tx b op now db).db := by
  have h0 : Fresh1 k now db := Fresh1.of_absent hf
  cases op with
  | strSet k' v =>
    cases hc
    show Fresh1 _ now (strSet db _ v none now).db
    unfold strSet
    have := strSetTx_new h hf v none now
    split <;> (rename_i he; rw [he] at this; exact this)
  | strSetExpires k' v ttl =>
    cases hc
    show Fresh1 _ now (strSet db _ v _ now).db
    unfold strSet
    have := strSetTx_new h hf v (if ttl > 0 then some (now + ttl) else none) now
    split <;> (rename_i he; rw [he] at this; exact this)
  | strIncr k' d =>
    cases hc
    show Fresh1 _ now (strIncr db _ d now).db
    unfold strIncr
    simp only
    split
    · exact h0
    · rename_i n _
      have := strUpdateTx_new h hf (itoa (wrap64 (n + d))) now
      split <;> (rename_i he; rw [he] at this; exact this)
  | strSetWith k' v o =>
    cases hc
    show Fresh1 _ now (strSetWith db _ v o now).db
    unfold strSetWith
    simp only
    split
    · exact h0
    · split
      · exact h0
      · have h1 := strUpdateTx_new h hf v now
        have h2 := strSetTx_new h hf v (if o.ttl > 0 then some (now + o.ttl) else o.atMs) now
        split <;> rename_i he <;> split at he <;> first
          | (rw [he] at h1; exact h1)
          | (rw [he] at h2; exact h2)
  | listPushBack k' e => cases hc; exact listPush_new hf e false now
  | listPushFront k' e => cases hc; exact listPush_new hf e true now
  | setAdd k' es =>
    cases hc
    show Fresh1 _ now (setAdd db _ es now).db
    unfold setAdd
    cases hk : setAddKey db _ now with
    | error er => exact h0
    | ok p =>
      obtain ⟨db1, r⟩ := p
      exact upsert_new_touch hf hk (fun _ => ⟨rfl, rfl⟩) (setAddElems_touch es 0)
  | hashSet k' f v =>
    cases hc
    show Fresh1 _ now (hashSet db _ f v now).db
    unfold hashSet
    simp only
    split
    · exact h0
    · rename_i d he; exact hashSetTx_new hf he
  | hashSetNotExists k' f v =>
    cases hc
    show Fresh1 _ now (hashSetNotExists db _ f v now).db
    unfold hashSetNotExists
    split
    · exact h0
    · split
      · exact h0
      · rename_i d he; exact hashSetTx_new hf he
  | hashIncr k' f d =>
    cases hc
    show Fresh1 _ now (hashIncr db _ f d now).db
    unfold hashIncr
    simp only
    split
    · exact h0
    · split
      · exact h0
      · rename_i dd he; exact hashSetTx_new hf he
  | zAdd k' e s =>
    cases hc
    show Fresh1 _ now (zAdd db _ e s now).db
    unfold zAdd
    simp only
    split
    · exact h0
    · rename_i d he; exact zAddTx_new hf he
  | zIncr k' e d =>
    cases hc
    show Fresh1 _ now (zIncr db _ e d now).db
    unfold zIncr
    cases hk : zAddKey db _ now with
    | error er => exact h0
    | ok p =>
      obtain ⟨db1, r⟩ := p
      simp only
      split
      · exact upsert_new_touch hf hk (fun _ => ⟨rfl, rfl⟩) (zInsertNew_touch r.id e d)
      · split
        · exact upsert_new_touch hf hk (fun _ => ⟨rfl, rfl⟩) (Touch.refl _ _)
        · rename_i s _
          exact upsert_new_touch hf hk (fun _ => ⟨rfl, rfl⟩) (zSetRow_touch r.id e s)
  | _ => cases hc

theorem create_fresh_db (h : WF db) {op : Op} {k : Bytes} (now : Int) (hc : createKey op = some k)
    (hf : db.findKey k = none) : Fresh1 k now (Model.dbRun op now db).db := by
  by_cases hw : wrapOf op = .update
  · rw [dbRun_of_update hw]
    cases ho : (Model.tx true op now db).out with
    | ok v => rw [update_ok ho]; exact create_fresh_tx h true now hc hf
    | error e => rw [update_error ho]; exact Fresh1.of_absent hf
  · rw [dbRun_of_direct hw]; exact create_fresh_tx h false now hc hf

theorem keyDelete_absent (h : WF db) {k : Bytes} {ks : List Bytes} {now : Int} (hk : k ∈ ks)
    (hst : Spec.staleKey db now k = false) : (keyDelete db ks now).db.findKey k = none := by
  unfold DB.findKey
  rw [List.find?_eq_none]
  intro x hx hxk
  have hx' : x ∈ (db.deleteKeysWhere (fun r => ks.contains r.key && r.live now)).1.keys := hx
  rw [deleteKeysWhere_keys] at hx'
  obtain ⟨hxm, hxp⟩ := List.mem_filter.1 hx'
  have hxk : x.key = k := by simpa using hxk
  have hf : db.findKey k = some x := hxk ▸ findKey_of_mem h hxm
  have hlive : x.live now = true := by simpa [Spec.staleKey, hf] using hst
  simp [hlive, hxk, hk] at hxp

theorem pairwise_id_map {l : List KeyRow} (hu : l.Pairwise (fun a b => a.id ≠ b.id))
    (g : KeyRow → KeyRow) (hg : ∀ o, (g o).id = o.id) :
    (l.map g).Pairwise (fun a b => a.id ≠ b.id) := by
  rw [List.pairwise_map]
  exact hu.imp (fun {a b} hab => by rw [hg a, hg b]; exact hab)

theorem updKey_row (hu : db.keys.Pairwise (fun a b => a.id ≠ b.id)) {r : KeyRow} (hr : r ∈ db.keys)
    (f : KeyRow → KeyRow) (hf : ∀ o, (f o).id = o.id) :
    rowAt (db.updKey r.id f) r.id (f r).key = some (f r) := by
  have hu2 := pairwise_id_map hu (fun x => if x.id == r.id then f x else x)
    (fun o => by split <;> first | exact hf o | rfl)
  have hmem := mem_updKey_of (i := r.id) (f := f) hr
  simp only [beq_self_eq_true, if_true] at hmem
  have := rowAt_of_mem (db := db.updKey r.id f) hu2 hmem
  rwa [hf r] at this

theorem renameStmt_row (h : WF db) {k nk : Bytes} {now : Int} {r : KeyRow}
    (hl : db.liveKey k now = some r) :
    rowAt (renameStmt db k nk now) r.id nk =
      some { r with key := nk, version := r.version + 1, mtime := now } := by
  unfold renameStmt
  rw [hl]
  have hk1 := deleteKeysWhere_keys db (fun x => x.key == nk && x.id != r.id)
  refine updKey_row (db := (db.deleteKeysWhere (fun x => x.key == nk && x.id != r.id)).1) ?_ ?_
    (fun o => { o with key := nk, version := o.version + 1, mtime := now }) (fun _ => rfl)
  · rw [hk1]; exact h.uId.filter _
  · rw [hk1]; exact List.mem_filter.2 ⟨(liveKey_some hl).1, by simp⟩

theorem keyRename_row (h : WF db) {k nk : Bytes} {now : Int} {r : KeyRow}
    (hl : db.liveKey k now = some r) (hne : k ≠ nk)
    (hok : Spec.isErr (Model.dbRun (.keyRename k nk) now db).out = false) :
    rowAt (Model.dbRun (.keyRename k nk) now db).db r.id nk =
      some { r with key := nk, version := r.version + 1, mtime := now } := by
  have hrun : Model.dbRun (.keyRename k nk) now db = update (fun d => keyRename d k nk now) db := rfl
  have hrow := renameStmt_row h (nk := nk) hl
  have hkne : (k == nk) = false := by simpa using hne
  have hres : keyRename db k nk now = Res.ok .nil (renameStmt db k nk now) ∨
      Spec.isErr (keyRename db k nk now).out = true := by
    unfold keyRename
    simp only [hl, hkne]
    by_cases hem : r.key.isEmpty = true
    · right; simp only [hem, if_true]; rfl
    · simp only [hem, Bool.false_eq_true, if_false]
      cases hlnk : db.liveKey nk now with
      | none => left; rfl
      | some newK =>
        simp only
        by_cases hty : (r.ty != newK.ty) = true
        · right; simp only [hty, if_true]; rfl
        · left; simp only [hty, Bool.false_eq_true, if_false]
  rw [hrun] at hok ⊢
  rcases hres with hres | hres
  · have : update (fun d => keyRename d k nk now) db = Res.ok .nil (renameStmt db k nk now) := by
      unfold update; simp only [hres]; rfl
    rw [this]; exact hrow
  · rw [update_out] at hok
    rw [hres] at hok; cases hok

theorem expiry_rows (h : WF db) {k : Bytes} {now : Int} {r : KeyRow} (hl : db.liveKey k now = some r) :
    (∀ t, rowAt (keyExpireAt db k t now).db r.id k =
      some { r with version := r.version + 1, etime := some t }) ∧
    rowAt (keyPersist db k now).db r.id k = some { r with version := r.version + 1, etime := none } := by
  obtain ⟨hr, hk, _⟩ := liveKey_some hl
  subst hk
  unfold keyExpireAt keyPersist
  rw [hl]
  exact ⟨fun t => updKey_row h.uId hr (fun o => { o with version := o.version + 1, etime := some t }) (fun _ => rfl),
    updKey_row h.uId hr (fun o => { o with version := o.version + 1, etime := none }) (fun _ => rfl)⟩

theorem store_dest_row (h : WF db) {op : Op} {d : Bytes} {now : Int} (hd : Spec.storeDest op = some d)
    (hne : emptyStore op = false) (hE : Spec.isErr (Model.dbRun op now db).out = false) :
    ∀ r' ∈ (Model.dbRun op now db).db.keys, r'.key = d →
      r'.mtime = now ∧ DestCase now d (storeTy op) db (Model.dbRun op now db).db false r' := by
  intro r' hr' hk
  rcases (db_sum op now db h).storeSum hd hE with ⟨_, hor⟩ | ⟨_, _, hall⟩
  · rcases hor with hor | hor
    · rw [hor.1] at hE; cases hE
    · rw [hor] at hne; cases hne
  · have := (hall r' hr').2 hk
    rwa [hE] at this

end Redka.MetaProofs
