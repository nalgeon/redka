/-
  What the source says a command's `Run` calls (`callsOfTy`, from the `calls` facet regenerated from
  internal/command/* on every run), what the documentation says (`docRowOK`), and the table
  `apiCallOf`: parsed command ↦ the one repository call it makes. `run_shape`: every `Run` is that one call
  followed by a reply writer, or touches no repository at all; `run_is_the_api_call`: so the wire model's
  `run` depends on the repository through that call only. Core Lean only.
-/
import RedkaModel.Model.Wire.Cmd.Run
import RedkaModel.Model.Wire.CmdApi
import RedkaModel.Generated.Cmds
import RedkaModel.Generated.Grammar
import RedkaModel.Proofs.WireFrame

namespace Redka.Wire

open Redka

/-- the repository methods that `Run` of the struct type `ty` calls, according to the source -/
def callsOfTy (ty : String) : List String :=
  match Generated.runCalls.find? (fun p => p.1 == ty) with
  | some p => p.2
  | none => []

theorem call_congr (c : ParsedCmd) (r r' : Runner) (op : Op) (now : Int) (db : DB)
    (onOk : Val → Option (List Token)) (onErr : Err → Option (List Token × Bool)) (bag : Nat)
    (h : r op = r' op) :
    call c r op now db onOk onErr bag = call c r' op now db onOk onErr bag := by
  unfold call; rw [h]

/-- closes `call c r op … = call c r' op …` when the operation's method is among the source's calls -/
macro "api_step" h:ident : tactic =>
  `(tactic| (apply call_congr; refine $h _ ?_; dsimp only [Cmd.goType, opApi]; decide))

/-! ### the documented API (docs/commands/*.md) -/

/-- a documented method name matches a called one: equal, or a prefix when written `Insert*` -/
def apiMatches (doc call : String) : Bool :=
  let d := doc.toList
  if d.getLast? == some '*' then d.dropLast.isPrefixOf call.toList else doc == call

/-- the source facts of the command a documented name is dispatched to -/
def srcOfName (name : String) : Option CmdSrc :=
  match Generated.dispatch.find? (fun d => d.1 == String.ofList (name.toList.map Char.toLower)) with
  | none => none
  | some d => Generated.cmdSrcs.find? (fun s => s.fn == d.2.1)

/-- a row of a `Command / Go API` table is truthful: the command is dispatched to a command object
whose `Run` calls the documented method (`-`: calls no repository method at all) -/
def docRowOK (row : String × String) : Bool :=
  match srcOfName row.1 with
  | none => false
  | some s => if row.2 == "-" then s.calls.isEmpty else s.calls.any (apiMatches row.2)

/-- **The documented API call of a wire command, with its arguments**: the one repository call the
command object makes for the parsed fields (`none`: the command touches no repository, or the
request is outside the arithmetic domain of the model). A readable table of C13's mapping. -/
def apiCallOf (cmd : Cmd) (oracle : Option Bytes) : Option Op :=
  match cmd with
  | .ok | .config .. | .lolwut _ | .unknown | .echo _ | .ping _ | .select _ => none
  | .dbSize => some .keyLen
  | .del keys => some (.keyDelete keys)
  | .exists keys => some (.keyCount keys)
  | .expire key ttl => some (.keyExpire key ttl)
  | .expireAt key at_ => some (.keyExpireAt key at_)
  | .flushDB => some .keyDeleteAll
  | .keys pattern => some (.keyKeys pattern)
  | .persist key => some (.keyPersist key)
  | .randomKey => some (.keyRandom oracle)
  | .rename key newKey => some (.keyRename key newKey)
  | .renameNX key newKey => some (.keyRenameNX key newKey)
  | .scan cursor match_ count ktype => some (.keyScan cursor match_ (toTypeID ktype) count)
  | .ttl key | .type key => some (.keyGet key)
  | .lindex key index => some (.listGet key index)
  | .linsert key where_ pivot elem =>
    some (if where_ == asciiBytes "before" then .listInsertBefore key pivot elem else .listInsertAfter key pivot elem)
  | .llen key => some (.listLen key)
  | .lpop key => some (.listPopFront key)
  | .lpush key elem => some (.listPushFront key elem)
  | .lrange key start stop => if !limitArithSafe start stop then none else some (.listRange key start stop)
  | .lrem key count elem =>
    some (if count > 0 then .listDeleteFront key elem count
          else if count < 0 then .listDeleteBack key elem (wrap64 (-count))
          else .listDelete key elem)
  | .lset key index elem => some (.listSet key index elem)
  | .ltrim key start stop => if !limitArithSafe start stop then none else some (.listTrim key start stop)
  | .rpop key => some (.listPopBack key)
  | .rpoplpush src dst => some (.listPopBackPushFront src dst)
  | .rpush key elem => some (.listPushBack key elem)
  | .get key | .strlen key => some (.strGet key)
  | .getSet key value => some (.strSetWith key value {})
  | .incr key delta | .incrBy key delta => some (.strIncr key delta)
  | .incrByFloat key delta => match delta with | .fin d => some (.strIncrFloat key d) | _ => none
  | .mget keys => some (.strGetMany keys)
  | .mset items => some (.strSetMany items)
  | .set key value ifNX ifXX get ttl at_ keepTTL =>
    if !ifNX && !ifXX && !get && !keepTTL && at_.isNone then some (.strSetExpires key value ttl)
    else some (.strSetWith key value
      { ifExists := ifXX, ifNotExists := !ifXX && ifNX, ttl := if ttl > 0 then ttl else 0,
        atMs := if ttl > 0 then none else at_, keepTTL := !(ttl > 0) && at_.isNone && keepTTL })
  | .setEX key value ttl => some (.strSetExpires key value ttl)
  | .setNX key value => some (.strSetWith key value { ifNotExists := true })
  | .hdel key fields => some (.hashDelete key fields)
  | .hexists key field => some (.hashExists key field)
  | .hget key field => some (.hashGet key field)
  | .hgetAll key => some (.hashItems key)
  | .hincrBy key field delta => some (.hashIncr key field delta)
  | .hincrByFloat key field delta => match delta with | .fin d => some (.hashIncrFloat key field d) | _ => none
  | .hkeys key => some (.hashFields key)
  | .hlen key => some (.hashLen key)
  | .hmget key fields => some (.hashGetMany key fields)
  | .hmset key items | .hset key items => some (.hashSetMany key items)
  | .hscan key cursor match_ count => some (.hashScan key cursor match_ count)
  | .hsetNX key field value => some (.hashSetNotExists key field value)
  | .hvals key => some (.hashValues key)
  | .sadd key members => some (.setAdd key members)
  | .scard key => some (.setLen key)
  | .sdiff keys => some (.setDiff keys)
  | .sdiffStore dest keys => some (.setDiffStore dest keys)
  | .sinter keys => some (.setInter keys)
  | .sinterStore dest keys => some (.setInterStore dest keys)
  | .sismember key member => some (.setExists key member)
  | .smembers key => some (.setItems key)
  | .smove src dest member => some (.setMove src dest member)
  | .spop key => some (.setPop key oracle)
  | .srandMember key => some (.setRandom key oracle)
  | .srem key members => some (.setDelete key members)
  | .sscan key cursor match_ count => some (.setScan key cursor match_ count)
  | .sunion keys => some (.setUnion keys)
  | .sunionStore dest keys => some (.setUnionStore dest keys)
  | .zadd key items => some (.zAddMany key items)
  | .zcard key => some (.zLen key)
  | .zcount key min max => some (.zCount key min max)
  | .zincrBy key delta member => some (.zIncr key member delta)
  | .zinter keys aggregate _ => some (.zInter keys (aggOf aggregate))
  | .zinterStore dest keys aggregate => some (.zInterStore dest keys (aggOf aggregate))
  | .zrange key start stop byScore rev offset count _ =>
    if byScore then some (.zRangeScore key start stop rev offset count)
    else match truncInt start, truncInt stop with
      | some a, some b => some (.zRangeRank key a b rev)
      | _, _ => none
  | .zrangeByScore key min max _ offset count => some (.zRangeScore key min max false offset count)
  | .zrank key member _ => some (.zGetRank key member)
  | .zrem key members => some (.zDelete key members)
  | .zremRangeByRank key start stop => some (.zDeleteRank key start stop)
  | .zremRangeByScore key min max => some (.zDeleteScore key min max)
  | .zrevRange key start stop _ => some (.zRangeRank key start stop true)
  | .zrevRangeByScore key min max _ offset count => some (.zRangeScore key min max true offset count)
  | .zrevRank key member _ => some (.zGetRankRev key member)
  | .zscan key cursor match_ count => some (.zScan key cursor match_ count)
  | .zscore key member => some (.zGetScore key member)
  | .zunion keys aggregate _ => some (.zUnion keys (aggOf aggregate))
  | .zunionStore dest keys aggregate => some (.zUnionStore dest keys (aggOf aggregate))

/-- What a `Run` method does with the repository runner and the tables: it writes fixed tokens without touching the
repository, or makes no claim, or makes the ONE call that `apiCallOf` names and hands the outcome to a reply writer and
an error handler that each write one complete value. -/
inductive RunShape (c : ParsedCmd) (now : Int) (o : Option Bytes) : (Runner → DB → RunRes) → Prop
  | write (toks : List Token) (failed : Bool) (h : WireProofs.wellFormedOne toks) :
    RunShape c now o (fun _ db => { toks := toks, db := db, failed := failed })
  | noClaim : RunShape c now o (fun _ db => .outOfDomain db)
  | call (op : Op) (onOk : Val → Option (List Token)) (onErr : Err → Option (List Token × Bool)) (bag : Nat)
    (hop : apiCallOf c.cmd o = some op)
    (hok : ∀ v toks, onOk v = some toks → WireProofs.wellFormedOne toks)
    (herr : ∀ e toks f, onErr e = some (toks, f) → WireProofs.wellFormedOne toks) :
    RunShape c now o (fun r db => call c r op now db onOk onErr bag)

namespace RunShape

variable {c : ParsedCmd} {now : Int} {o : Option Bytes}

theorem ite {p : Prop} [Decidable p] {f g : Runner → DB → RunRes}
    (hf : p → RunShape c now o f) (hg : ¬p → RunShape c now o g) :
    RunShape c now o (fun r db => if p then f r db else g r db) := by
  by_cases h : p
  · simp only [if_pos h]; exact hf h
  · simp only [if_neg h]; exact hg h

/-- the repository is consulted through the one call only -/
theorem congr {f : Runner → DB → RunRes} (hs : RunShape c now o f) (r r' : Runner) (db : DB)
    (h : ∀ op, apiCallOf c.cmd o = some op → r op now db = r' op now db) : f r db = f r' db := by
  cases hs with
  | write | noClaim => rfl
  | call op onOk onErr bag hop => simp only [Wire.call, h op hop]

end RunShape

open WireProofs in
theorem run_shape (c : ParsedCmd) (now : Int) (o : Option Bytes) :
    RunShape c now o (fun r db => run c r now db o) := by
  obtain ⟨name, args, cmd⟩ := c
  cases cmd with
  | ok | unknown | echo | select => exact .write _ _ (wf_scalar _ rfl)
  | config => exact .ite (fun _ => .write _ _ (wf_array_scalars 2 _ rfl rfl)) (fun _ => .write _ _ (wf_scalar _ rfl))
  | ping => exact .ite (fun _ => .write _ _ (wf_scalar _ rfl)) (fun _ => .write _ _ (wf_scalar _ rfl))
  | lolwut =>
    cases o with
    | none => exact .ite (fun _ => .noClaim) (fun _ => .write _ _ (wf_scalar _ rfl))
    | some =>
      exact .ite (fun _ => .ite (fun _ => .write _ _ (wf_scalar _ rfl)) (fun _ => .noClaim))
        (fun _ => .write _ _ (wf_scalar _ rfl))
  | renameNX | hexists | hsetNX | sismember => exact .call _ _ _ _ rfl asBool_ok noErr_ok
  | flushDB | rename | mset | setEX | hmset => exact .call _ _ _ _ rfl asOK_ok noErr_ok
  | lindex | lpop | rpop | rpoplpush | get | hget | spop | srandMember =>
    exact .call _ _ _ _ rfl asBulk_ok (onNotFound_ok _ rfl)
  | zincrBy => exact .call _ _ _ _ rfl asFloat_ok noErr_ok
  | zscore => exact .call _ _ _ _ rfl asFloat_ok (onNotFound_ok _ rfl)
  | hkeys | hvals | sdiff | sinter | smembers | sunion => exact .call _ _ _ _ rfl arrayOfBulks_ok noErr_ok
  | zinter | zrangeByScore | zrevRange | zrevRangeByScore | zunion =>
    exact .call _ _ _ _ rfl (writeItems_ok _) noErr_ok
  | expire | expireAt | persist | smove => exact .call _ _ _ _ rfl (const_ok _ rfl) (onNotFound_ok _ rfl)
  -- the writers written out inside `run`: a case distinction on the result, each case a known writer
  | keys | scan | getSet | mget | setNX | hgetAll | hmget | hscan | sscan | zscan =>
    exact .call _ _ _ _ rfl (fun v toks h => by (repeat' split at h) <;> ok_leaf h) noErr_ok
  | randomKey | ttl | type | strlen | zrank | zrevRank =>
    exact .call _ _ _ _ rfl (fun v toks h => by (repeat' split at h) <;> ok_leaf h) (onNotFound_ok _ rfl)
  | linsert =>
    refine .call _ _ _ _ rfl asInt_ok (fun e toks f h => ?_)
    split at h
    · cases h; exact wf_scalar _ rfl
    · cases h; exact wf_scalar _ rfl
    · cases h
  | lset =>
    refine .call _ _ _ _ rfl asOK_ok (fun e toks f h => ?_)
    split at h
    · cases h; exact wf_scalar _ rfl
    · cases h
  | lrange => exact .ite (fun _ => .noClaim) (fun h => .call _ _ _ _ (if_neg h) arrayOfBulks_ok noErr_ok)
  | ltrim => exact .ite (fun _ => .noClaim) (fun h => .call _ _ _ _ (if_neg h) asOK_ok noErr_ok)
  | incrByFloat _ delta | hincrByFloat _ _ delta =>
    cases delta with
    | fin => exact .call _ _ _ _ rfl asFloat_ok noErr_ok
    | _ => exact .noClaim
  | set =>
    exact .ite (fun h => .call _ _ _ _ (if_pos h) asOK_ok noErr_ok)
      (fun h => .call _ _ _ _ (if_neg h)
        (fun v toks h => by split at h; dsimp only at h; (repeat' split at h) <;> ok_leaf h; cases h) noErr_ok)
  | zrange key start stop byScore =>
    cases byScore with
    | true => exact .call _ _ _ _ rfl (writeItems_ok _) noErr_ok
    | false =>
      simp only [run]
      cases ha : truncInt start with
      | none => exact .noClaim
      | some a =>
        cases hb : truncInt stop with
        | none => exact .noClaim
        | some b => exact .call _ _ _ _ (by simp only [apiCallOf, ha, hb]; rfl) (writeItems_ok _) noErr_ok
  -- all the others reply with the integer the call returns
  | _ => exact .call _ _ _ _ rfl asInt_ok noErr_ok

/-- **Each wire command is its API call**: the reply and the resulting tables of the wire model are a
function of what that ONE repository call — with the arguments `apiCallOf` lists — returns on the
same data at the same instant, and of nothing else the repository could do. -/
theorem run_is_the_api_call (c : ParsedCmd) (r r' : Runner) (now : Int) (db : DB) (o : Option Bytes)
    (h : ∀ op, apiCallOf c.cmd o = some op → r op now db = r' op now db) :
    run c r now db o = run c r' now db o :=
  (run_shape c now o).congr r r' db h

end Redka.Wire
