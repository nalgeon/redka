/-
  C19 — the effect calculus: `Touch j` (child-level edits of one key), `Eff now` (what a whole
  method may do to the key table: leave a row and its children alone, or bump it / create it at
  the time of the call), their composition laws, and the passage from `Eff` to the row
  requirements of `Spec.metaOK`.
-/
import RedkaModel.Proofs.Meta

namespace Redka.MetaProofs

open Redka Redka.Spec Redka.InvP

@[simp] theorem updKey_keys (db : DB) (i : Int) (f : KeyRow → KeyRow) :
    (db.updKey i f).keys = db.keys.map (fun r => if r.id == i then f r else r) := rfl
@[simp] theorem updKey_strs (db : DB) (i : Int) (f : KeyRow → KeyRow) : (db.updKey i f).strs = db.strs := rfl
@[simp] theorem updKey_lists (db : DB) (i : Int) (f : KeyRow → KeyRow) : (db.updKey i f).lists = db.lists := rfl
@[simp] theorem updKey_sets (db : DB) (i : Int) (f : KeyRow → KeyRow) : (db.updKey i f).sets = db.sets := rfl
@[simp] theorem updKey_hashes (db : DB) (i : Int) (f : KeyRow → KeyRow) : (db.updKey i f).hashes = db.hashes := rfl
@[simp] theorem updKey_zsets (db : DB) (i : Int) (f : KeyRow → KeyRow) : (db.updKey i f).zsets = db.zsets := rfl

theorem mem_updKey {db : DB} {i : Int} {f : KeyRow → KeyRow} {r' : KeyRow}
    (h : r' ∈ (db.updKey i f).keys) :
    ∃ r ∈ db.keys, (r.id = i ∧ r' = f r) ∨ (r.id ≠ i ∧ r' = r) := by
  rw [updKey_keys, List.mem_map] at h
  obtain ⟨r, hr, e⟩ := h
  refine ⟨r, hr, ?_⟩
  by_cases hi : r.id = i
  · left; simp [hi] at e; exact ⟨hi, e.symm⟩
  · right; simp [hi] at e; exact ⟨hi, e.symm⟩

theorem mem_updKey_of {db : DB} {i : Int} {f : KeyRow → KeyRow} {r : KeyRow} (h : r ∈ db.keys) :
    (if r.id == i then f r else r) ∈ (db.updKey i f).keys := by
  rw [updKey_keys]; exact List.mem_map.2 ⟨r, h, rfl⟩

theorem updKey_id (db : DB) (i : Int) : db.updKey i (fun o => o) = db := by
  unfold DB.updKey
  have : db.keys.map (fun r => if r.id == i then r else r) = db.keys := by
    simp
  rw [this]

theorem updKey_updKey (db : DB) (i : Int) (f g : KeyRow → KeyRow) (hf : ∀ o, (f o).id = o.id) :
    (db.updKey i f).updKey i g = db.updKey i (fun o => g (f o)) := by
  unfold DB.updKey
  simp only [List.map_map]
  congr 1
  apply List.map_congr_left
  intro r _
  by_cases hi : r.id = i
  · simp [hi, hf]
  · simp [hi]

/-- `r'` is `r` up to the cached length -/
def SameMeta (r r' : KeyRow) : Prop := r' = { r with len := r'.len }

theorem SameMeta.rfl' (r : KeyRow) : SameMeta r r := rfl

theorem SameMeta.trans {a b c : KeyRow} (h1 : SameMeta a b) (h2 : SameMeta b c) : SameMeta a c := by
  unfold SameMeta at *
  rw [h2, h1]

theorem SameMeta.id {r r' : KeyRow} (h : SameMeta r r') : r'.id = r.id := by rw [h]
theorem SameMeta.key {r r' : KeyRow} (h : SameMeta r r') : r'.key = r.key := by rw [h]
theorem SameMeta.ty {r r' : KeyRow} (h : SameMeta r r') : r'.ty = r.ty := by rw [h]
theorem SameMeta.version {r r' : KeyRow} (h : SameMeta r r') : r'.version = r.version := by rw [h]
theorem SameMeta.mtime {r r' : KeyRow} (h : SameMeta r r') : r'.mtime = r.mtime := by rw [h]
theorem SameMeta.etime {r r' : KeyRow} (h : SameMeta r r') : r'.etime = r.etime := by rw [h]

/-- every key id of `a` is still there in `b` -/
def Keep (a b : DB) : Prop := ∀ r ∈ a.keys, ∃ r' ∈ b.keys, r'.id = r.id

theorem Keep.refl (a : DB) : Keep a a := fun r hr => ⟨r, hr, rfl⟩

theorem Keep.trans {a b c : DB} (h1 : Keep a b) (h2 : Keep b c) : Keep a c := fun r hr => by
  obtain ⟨r', hr', e⟩ := h1 r hr
  obtain ⟨r'', hr'', e'⟩ := h2 r' hr'
  exact ⟨r'', hr'', e'.trans e⟩

/-- child-level edits of key id `j`: only the child rows of `j` and the `len` of its key row may
differ -/
structure Touch (j : Int) (a b : DB) : Prop where
  child : ∀ i, i ≠ j → ChildEq a b i
  keys : ∀ r' ∈ b.keys, ∃ r ∈ a.keys, SameMeta r r' ∧ (r'.id ≠ j → r' = r)
  keep : Keep a b

theorem Touch.refl (j : Int) (a : DB) : Touch j a a :=
  ⟨fun i _ => ChildEq.refl a i, fun r hr => ⟨r, hr, rfl, fun _ => rfl⟩, Keep.refl a⟩

theorem Touch.trans {j : Int} {a b c : DB} (h1 : Touch j a b) (h2 : Touch j b c) : Touch j a c := by
  refine ⟨fun i hi => (h1.child i hi).trans (h2.child i hi), fun r'' hr'' => ?_, h1.keep.trans h2.keep⟩
  obtain ⟨r', hr', s2, e2⟩ := h2.keys r'' hr''
  obtain ⟨r, hr, s1, e1⟩ := h1.keys r' hr'
  refine ⟨r, hr, s1.trans s2, fun hne => ?_⟩
  have := e2 hne
  rw [this] at hne ⊢
  exact e1 hne

theorem Touch.of_keys_eq {j : Int} {a b : DB} (hk : b.keys = a.keys)
    (hc : ∀ i, i ≠ j → ChildEq a b i) : Touch j a b :=
  ⟨hc, fun r hr => ⟨r, hk ▸ hr, rfl, fun _ => rfl⟩, fun r hr => ⟨r, hk ▸ hr, rfl⟩⟩

/-- the `len` update of the insert triggers -/
theorem Touch.updLen (j : Int) (a : DB) (f : KeyRow → KeyRow)
    (hf : ∀ o, f o = { o with len := (f o).len }) : Touch j a (a.updKey j f) := by
  refine ⟨fun i _ => ChildEq.of_tables rfl rfl rfl rfl rfl, fun r' hr' => ?_, fun r hr => ?_⟩
  · obtain ⟨r, hr, ⟨_, e⟩ | ⟨hi, e⟩⟩ := mem_updKey hr'
    · refine ⟨r, hr, ?_, fun hne => ?_⟩
      · rw [e]; exact hf r
      · rw [e, hf r] at hne; exact absurd (by assumption) hne
    · exact ⟨r, hr, e ▸ rfl, fun _ => e⟩
  · refine ⟨_, mem_updKey_of hr, ?_⟩
    split
    · rw [hf r]
    · rfl

/-- the row `r'` was written at the time of the call: bumped from a row of `a` with the same id,
or brand new -/
def Bumped (now : Int) (a : DB) (r' : KeyRow) : Prop :=
  r'.mtime = now ∧
  ((∃ r ∈ a.keys, r.id = r'.id ∧ r.ty = r'.ty ∧ r.version < r'.version) ∨
   ((∀ r ∈ a.keys, r.id ≠ r'.id) ∧ 1 ≤ r'.version))

/-- the effect of a (non-storing, non-expiry) method on the key table: every row of the result
either is a row of the pre-state whose children are untouched, or was written at the time of the
call with a larger version -/
def Eff (now : Int) (a b : DB) : Prop :=
  ∀ r' ∈ b.keys, (r' ∈ a.keys ∧ ChildEq a b r'.id) ∨ Bumped now a r'

theorem Eff.refl (now : Int) (a : DB) : Eff now a a := fun r hr => .inl ⟨hr, ChildEq.refl a _⟩

theorem Eff.trans {now : Int} {a b c : DB} (h1 : Eff now a b) (hk : Keep a b) (h2 : Eff now b c) :
    Eff now a c := by
  intro r'' hr''
  rcases h2 r'' hr'' with ⟨hb, hc⟩ | ⟨hm, hb⟩
  · rcases h1 r'' hb with ⟨ha, hc'⟩ | hbump
    · exact .inl ⟨ha, hc'.trans hc⟩
    · exact .inr hbump
  · refine .inr ⟨hm, ?_⟩
    rcases hb with ⟨r', hr', hid, hty, hv⟩ | ⟨hnew, hv⟩
    · rcases h1 r' hr' with ⟨ha, _⟩ | ⟨_, hb'⟩
      · exact .inl ⟨r', ha, hid, hty, hv⟩
      · rcases hb' with ⟨r, hr, hid', hty', hv'⟩ | ⟨hnew', hv'⟩
        · exact .inl ⟨r, hr, hid'.trans hid, hty'.trans hty, by omega⟩
        · exact .inr ⟨fun r hr => hid ▸ hnew' r hr, by omega⟩
    · refine .inr ⟨fun r hr e => ?_, hv⟩
      obtain ⟨r', hr', e'⟩ := hk r hr
      exact hnew r' hr' (e'.trans e)

theorem Eff.mono {now : Int} {a b : DB} (h : Eff now a b) (hm : MonoClock now a) : MonoClock now b := by
  intro r' hr'
  rcases h r' hr' with ⟨ha, _⟩ | ⟨hm', _⟩
  · exact hm r' ha
  · omega

theorem plain_of_mem {now : Int} {a b : DB} {r' : KeyRow}
    (hu : a.keys.Pairwise (fun x y => x.id ≠ y.id)) (ha : r' ∈ a.keys) (hc : ChildEq a b r'.id) :
    PlainRowM now a b r' := by
  unfold PlainRowM
  rw [rowAt_of_mem hu ha]
  have : absVal a r' = absVal b r' := absVal_congr hc
  exact ⟨Int.le_refl _, fun _ => Int.le_refl _, rfl,
    fun h => by rcases h with h | h <;> exact absurd (by first | exact this | rfl) h,
    fun h => absurd this h⟩

theorem plain_of_bumped {now : Int} {a b : DB} {r' : KeyRow}
    (hu : a.keys.Pairwise (fun x y => x.id ≠ y.id)) (hb : Bumped now a r') :
    PlainRowM now a b r' := by
  unfold PlainRowM
  obtain ⟨hmt, hb⟩ := hb
  rcases hb with ⟨r, hr, hid, hty, hv⟩ | ⟨hnew, hv⟩
  · have hfind : a.findId r'.id = some r := hid ▸ findId_of_mem hu hr
    cases hra : rowAt a r'.id r'.key with
    | some r0 =>
      obtain ⟨h0, hid0, _⟩ := rowAt_some hra
      have : r0 = r := eq_of_id_eq hu h0 hr (hid0.trans hid.symm)
      subst this
      exact ⟨by omega, fun hm => by have := hm r0 hr; omega, hty, fun _ => hv, fun _ => hmt⟩
    | none =>
      simp only [hfind]
      exact ⟨hv, hmt, hty⟩
  · have h1 : rowAt a r'.id r'.key = none := by
      cases hra : rowAt a r'.id r'.key with
      | none => rfl
      | some r0 => exact absurd (rowAt_some hra).2.1 (hnew r0 (rowAt_some hra).1)
    have h2 : a.findId r'.id = none := by
      cases hf : a.findId r'.id with
      | none => rfl
      | some r0 => exact absurd (findId_some hf).2 (hnew r0 (findId_some hf).1)
    simp only [h1, h2]
    exact ⟨hv, hmt⟩

theorem Eff.plain {now : Int} {a b : DB} (h : Eff now a b)
    (hu : a.keys.Pairwise (fun x y => x.id ≠ y.id)) :
    ∀ r' ∈ b.keys, PlainRowM now a b r' := by
  intro r' hr'
  rcases h r' hr' with ⟨ha, hc⟩ | hb
  · exact plain_of_mem hu ha hc
  · exact plain_of_bumped hu hb

/-- a function that bumps a key row at the time of the call -/
def IsBump (now : Int) (f : KeyRow → KeyRow) : Prop :=
  ∀ o, (f o).id = o.id ∧ (f o).ty = o.ty ∧ o.version < (f o).version ∧ (f o).mtime = now

theorem isBump_succ (now : Int) :
    IsBump now (fun o : KeyRow => { o with version := o.version + 1, mtime := now }) :=
  fun o => ⟨rfl, rfl, by show o.version < o.version + 1; omega, rfl⟩

theorem isBump_len (now : Int) (g : Option Int → Option Int) :
    IsBump now (fun o : KeyRow => { o with version := o.version + 1, mtime := now, len := g o.len }) :=
  fun o => ⟨rfl, rfl, by show o.version < o.version + 1; omega, rfl⟩

/-- child edits, then the key update (`sqlDelete2`, `sqlInsert`, …) -/
theorem eff_touch_updKey {now : Int} {j : Int} {a b : DB} {f : KeyRow → KeyRow}
    (ht : Touch j a b) (hf : IsBump now f) : Eff now a (b.updKey j f) ∧ Keep a (b.updKey j f) := by
  refine ⟨fun r'' hr'' => ?_, fun r hr => ?_⟩
  · obtain ⟨r', hr', ⟨hi, e⟩ | ⟨hi, e⟩⟩ := mem_updKey hr''
    · obtain ⟨r, hr, hs, _⟩ := ht.keys r' hr'
      obtain ⟨f1, f2, f3, f4⟩ := hf r'
      refine .inr ⟨e ▸ f4, .inl ⟨r, hr, ?_, ?_, ?_⟩⟩
      · rw [e, f1, hs.id]
      · rw [e, f2, hs.ty]
      · rw [e, ← hs.version]; exact f3
    · obtain ⟨r, hr, _, hsame⟩ := ht.keys r' hr'
      have := hsame hi
      subst this; subst e
      exact .inl ⟨hr, (ht.child _ hi).trans (ChildEq.of_tables rfl rfl rfl rfl rfl)⟩
  · obtain ⟨r', hr', e⟩ := ht.keep r hr
    refine ⟨_, mem_updKey_of hr', ?_⟩
    split
    · rw [(hf r').1, e]
    · exact e

/-- the key update, then child edits (`rlist_on_update`) -/
theorem eff_updKey_touch {now : Int} {j : Int} {a c : DB} {f : KeyRow → KeyRow}
    (hf : IsBump now f) (ht : Touch j (a.updKey j f) c) : Eff now a c ∧ Keep a c := by
  refine ⟨fun r'' hr'' => ?_, fun r hr => ?_⟩
  · obtain ⟨r', hr', hs, hsame⟩ := ht.keys r'' hr''
    obtain ⟨r, hr, ⟨hi, e⟩ | ⟨hi, e⟩⟩ := mem_updKey hr'
    · obtain ⟨f1, f2, f3, f4⟩ := hf r
      refine .inr ⟨?_, .inl ⟨r, hr, ?_, ?_, ?_⟩⟩
      · rw [hs.mtime, e, f4]
      · rw [hs.id, e, f1]
      · rw [hs.ty, e, f2]
      · rw [hs.version, e]; exact f3
    · have hne : r''.id ≠ j := by rw [hs.id, e]; exact hi
      have := hsame hne
      subst this; subst e
      exact .inl ⟨hr, (ChildEq.of_tables rfl rfl rfl rfl rfl : ChildEq a (a.updKey j f) _).trans
        (ht.child _ hne)⟩
  · have hmem := mem_updKey_of (i := j) (f := f) hr
    obtain ⟨r', hr', e⟩ := ht.keep _ hmem
    refine ⟨r', hr', e.trans ?_⟩
    split
    · exact (hf r).1
    · rfl

theorem upsert_touch_rows {a b c : DB} {k : Bytes} {ty : Int} {onNew : Int → KeyRow}
    {onOld : KeyRow → KeyRow} {r : KeyRow} (he : keyUpsert a k ty onNew onOld = .ok (b, r))
    (hnew : ∀ id, (onNew id).id = id) (hold : ∀ o, (onOld o).id = o.id) (ht : Touch r.id b c) :
    Keep a c ∧ (∀ i, ChildEq a b i) ∧
    (∀ r'' ∈ c.keys, (r'' ∈ a.keys ∧ r''.id ≠ r.id ∧ ChildEq a c r''.id) ∨ SameMeta r r'') ∧
    ((a.findKey k = none ∧ r = onNew a.nextKeyId ∧ ∀ o ∈ a.keys, o.id ≠ r.id) ∨
      ∃ old, a.findKey k = some old ∧ old.ty = ty ∧ r = onOld old) := by
  have hab : ∀ i, ChildEq a b i := fun i => by
    rcases keyUpsert_cases he with ⟨_, _, hdb⟩ | ⟨_, _, _, _, hdb⟩ <;>
      (rw [hdb]; exact ChildEq.of_tables rfl rfl rfl rfl rfl)
  -- it is enough that no id of `a` is lost in `b` and that the rows of `b` other than `r` are rows of `a`
  suffices hb : Keep a b ∧ (∀ x ∈ b.keys, x = r ∨ (x ∈ a.keys ∧ x.id ≠ r.id)) ∧
      ((a.findKey k = none ∧ r = onNew a.nextKeyId ∧ ∀ o ∈ a.keys, o.id ≠ r.id) ∨
        ∃ old, a.findKey k = some old ∧ old.ty = ty ∧ r = onOld old) by
    refine ⟨hb.1.trans ht.keep, hab, fun r'' hr'' => ?_, hb.2.2⟩
    obtain ⟨r', hr', hs, hsame⟩ := ht.keys r'' hr''
    rcases hb.2.1 r' hr' with rfl | ⟨hm, hne⟩
    · exact .inr hs
    · have hne : r''.id ≠ r.id := by rw [hs.id]; exact hne
      have := hsame hne
      subst this
      exact .inl ⟨hm, hne, (hab _).trans (ht.child _ hne)⟩
  rcases keyUpsert_cases he with ⟨hf, hr, hdb⟩ | ⟨old, hf, hty, hr, hdb⟩
  · have fresh : ∀ o ∈ a.keys, o.id ≠ r.id := fun o ho => by
      have := id_lt_nextKeyId a o ho
      rw [hr, hnew]; omega
    refine ⟨fun x hx => ⟨x, hdb ▸ List.mem_append_left _ hx, rfl⟩, fun x hx => ?_, .inl ⟨hf, hr, fresh⟩⟩
    rw [hdb] at hx
    exact (List.mem_append.1 hx).symm.imp List.mem_singleton.1 (fun hx => ⟨hx, fresh x hx⟩)
  · have hid : r.id = old.id := by rw [hr, hold]
    refine ⟨fun x hx => ⟨_, hdb ▸ mem_updKey_of (f := fun _ => r) hx, ?_⟩, fun x hx => ?_,
      .inr ⟨old, hf, hty, hr⟩⟩
    · split
      · rename_i hc; exact hid.trans (by simpa using hc : x.id = old.id).symm
      · rfl
    · rw [hdb] at hx
      obtain ⟨y, hy, ⟨_, e⟩ | ⟨hi, e⟩⟩ := mem_updKey hx
      · exact .inl e
      · exact .inr ⟨e ▸ hy, by rw [e, hid]; exact hi⟩

/-- the key upsert, then child edits (`sqlSet1`/`sqlSet2`, `sqlAdd1`/`sqlAdd2`, `sqlPush`, …) -/
theorem eff_upsert_touch {now : Int} {a b c : DB} {k : Bytes} {ty : Int} {onNew : Int → KeyRow}
    {onOld : KeyRow → KeyRow} {r : KeyRow}
    (he : keyUpsert a k ty onNew onOld = .ok (b, r))
    (hnew : ∀ id, (onNew id).id = id ∧ (onNew id).version = 1 ∧ (onNew id).mtime = now)
    (hold : IsBump now onOld) (ht : Touch r.id b c) : Eff now a c ∧ Keep a c := by
  obtain ⟨hkeep, _, hrows, hr⟩ := upsert_touch_rows he (fun id => (hnew id).1) (fun o => (hold o).1) ht
  refine ⟨fun r'' hr'' => ?_, hkeep⟩
  rcases hrows r'' hr'' with ⟨hm, _, hc⟩ | hs
  · exact .inl ⟨hm, hc⟩
  · rcases hr with ⟨_, rfl, fresh⟩ | ⟨old, hf, _, rfl⟩
    · obtain ⟨_, n2, n3⟩ := hnew a.nextKeyId
      exact .inr ⟨by rw [hs.mtime, n3], .inr ⟨fun o ho => by rw [hs.id]; exact fresh o ho,
        by rw [hs.version, n2]; omega⟩⟩
    · obtain ⟨o1, o2, o3, o4⟩ := hold old
      exact .inr ⟨by rw [hs.mtime, o4], .inl ⟨old, (findKey_some hf).1, by rw [hs.id, o1],
        by rw [hs.ty, o2], by rw [hs.version]; exact o3⟩⟩

theorem eff_upsert {now : Int} {a b : DB} {k : Bytes} {ty : Int} {onNew : Int → KeyRow}
    {onOld : KeyRow → KeyRow} {r : KeyRow}
    (he : keyUpsert a k ty onNew onOld = .ok (b, r))
    (hnew : ∀ id, (onNew id).id = id ∧ (onNew id).version = 1 ∧ (onNew id).mtime = now)
    (hold : IsBump now onOld) : Eff now a b ∧ Keep a b :=
  eff_upsert_touch he hnew hold (Touch.refl _ _)

theorem Touch.setStrs (j : Int) (a : DB) (l : List StrRow)
    (h : ∀ i, i ≠ j → a.strs.filter (fun x => x.kid == i) = l.filter (fun x => x.kid == i)) :
    Touch j a { a with strs := l } :=
  Touch.of_keys_eq rfl (fun i hi => ⟨h i hi, rfl, rfl, rfl, rfl⟩)

theorem Touch.setLists (j : Int) (a : DB) (l : List ListRow)
    (h : ∀ i, i ≠ j → a.lists.filter (fun x => x.kid == i) = l.filter (fun x => x.kid == i)) :
    Touch j a { a with lists := l } :=
  Touch.of_keys_eq rfl (fun i hi => ⟨rfl, h i hi, rfl, rfl, rfl⟩)

theorem Touch.setSets (j : Int) (a : DB) (l : List SetRow)
    (h : ∀ i, i ≠ j → a.sets.filter (fun x => x.kid == i) = l.filter (fun x => x.kid == i)) :
    Touch j a { a with sets := l } :=
  Touch.of_keys_eq rfl (fun i hi => ⟨rfl, rfl, h i hi, rfl, rfl⟩)

theorem Touch.setHashes (j : Int) (a : DB) (l : List HashRow)
    (h : ∀ i, i ≠ j → a.hashes.filter (fun x => x.kid == i) = l.filter (fun x => x.kid == i)) :
    Touch j a { a with hashes := l } :=
  Touch.of_keys_eq rfl (fun i hi => ⟨rfl, rfl, rfl, h i hi, rfl⟩)

theorem Touch.setZSets (j : Int) (a : DB) (l : List ZRow)
    (h : ∀ i, i ≠ j → a.zsets.filter (fun x => x.kid == i) = l.filter (fun x => x.kid == i)) :
    Touch j a { a with zsets := l } :=
  Touch.of_keys_eq rfl (fun i hi => ⟨rfl, rfl, rfl, rfl, h i hi⟩)

end Redka.MetaProofs
