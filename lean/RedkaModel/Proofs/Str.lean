/-
  `internal/rstring` against the abstract keyspace: what the two-statement write (`set` / `update`
  of set.go) does to the abstraction, and the refinement of each string operation.
-/
import RedkaModel.Proofs.Abs
import RedkaModel.Proofs.Dispatch
import RedkaModel.Proofs.Num
import RedkaModel.Proofs.StrSteps

namespace Redka.Model

open Redka Redka.Spec Redka.DB

/-! ### the value row upsert (`sqlSet2`) -/

/-- `insert into rstring … on conflict (kid) do update set value = excluded.value` -/
def strPutRow (strs : List StrRow) (id : Int) (v : Bytes) : List StrRow :=
  if strs.any (fun s => s.kid == id) then
    strs.map (fun s => if s.kid == id then { s with value := v } else s)
  else strs ++ [{ kid := id, value := v }]

theorem strSet2_eq {db : DB} {k v : Bytes} {r : KeyRow} (h : db.findKey k = some r) :
    strSet2 db k v = .ok { db with strs := strPutRow db.strs r.id v } := by
  simp only [strSet2, h, strPutRow]
  split <;> rfl

private theorem find?_map_put (id : Int) (v : Bytes) (id' : Int) : ∀ (l : List StrRow),
    (l.map (fun s => if s.kid == id then { s with value := v } else s)).find? (fun s => s.kid == id')
      = (l.find? (fun s => s.kid == id')).map (fun s => if s.kid == id then { s with value := v } else s)
  | [] => rfl
  | s :: l => by
    rw [List.map_cons, List.find?_cons, List.find?_cons]
    have hk : (if s.kid == id then { s with value := v } else s).kid = s.kid := by split <;> rfl
    rw [hk]
    cases h : s.kid == id' with
    | true => rfl
    | false => exact find?_map_put id v id' l

theorem find?_strPutRow (strs : List StrRow) (id : Int) (v : Bytes) (id' : Int) :
    (strPutRow strs id v).find? (fun s => s.kid == id')
      = if id = id' then some ⟨id, v⟩ else strs.find? (fun s => s.kid == id') := by
  unfold strPutRow
  split
  · rename_i hany
    rw [find?_map_put]
    by_cases hid : id = id'
    · subst hid
      rw [if_pos rfl]
      obtain ⟨s, hs, hsk⟩ := List.any_eq_true.1 hany
      cases hf : strs.find? (fun s => s.kid == id) with
      | none =>
        rw [List.find?_eq_none] at hf
        exact absurd hsk (hf s hs)
      | some s' =>
        have := List.find?_some hf
        have hk : s'.kid = id := by simpa using this
        simp only [Option.map_some, this, if_true]
        cases s'; simp_all
    · rw [if_neg hid]
      cases hf : strs.find? (fun s => s.kid == id') with
      | none => rfl
      | some s' =>
        have := List.find?_some hf
        have hk : s'.kid = id' := by simpa using this
        have : ¬ s'.kid = id := fun h => hid (h ▸ hk)
        simp [this]
  · rename_i hany
    rw [List.find?_append]
    by_cases hid : id = id'
    · subst hid
      have : strs.find? (fun s => s.kid == id) = none := by
        rw [List.find?_eq_none]
        intro s hs hsk
        exact hany (List.any_eq_true.2 ⟨s, hs, hsk⟩)
      simp [this]
    · simp [hid]

theorem kids_strPutRow {strs : List StrRow} (h : (strs.map (·.kid)).Nodup) (id : Int) (v : Bytes) :
    ((strPutRow strs id v).map (·.kid)).Nodup := by
  unfold strPutRow
  split
  · rw [List.map_map]
    have : (fun s : StrRow => s.kid) ∘ (fun s => if s.kid == id then { s with value := v } else s)
        = (fun s : StrRow => s.kid) := by
      funext s; simp only [Function.comp]; split <;> rfl
    rw [this]; exact h
  · rename_i hany
    refine nodup_map_append_one _ h fun s hs he => ?_
    exact hany (List.any_eq_true.2 ⟨s, hs, by simpa using he⟩)

theorem exists_kid_strPutRow {strs : List StrRow} {id' : Int} (id : Int) (v : Bytes)
    (h : ∃ s ∈ strs, s.kid = id') : ∃ s ∈ strPutRow strs id v, s.kid = id' := by
  obtain ⟨s, hs, hk⟩ := h
  unfold strPutRow
  split
  · refine ⟨_, List.mem_map.2 ⟨s, hs, rfl⟩, ?_⟩
    split <;> exact hk
  · exact ⟨s, List.mem_append_left _ hs, hk⟩

theorem self_kid_strPutRow (strs : List StrRow) (id : Int) (v : Bytes) :
    ∃ s ∈ strPutRow strs id v, s.kid = id := by
  have := find?_strPutRow strs id v id
  rw [if_pos rfl] at this
  exact ⟨_, List.mem_of_find?_eq_some this, rfl⟩

/-! ### the two-statement write -/

/-- `db2` is `db` with the name `k` now stored as row `r` holding the string `v`; nothing else
is different as far as the abstraction can see -/
structure Written (db db2 : DB) (k : Bytes) (r : KeyRow) (v : Bytes) : Prop where
  find : ∀ k', db2.findKey k' = if k == k' then some r else db.findKey k'
  ty : r.ty = TString
  val : absVal db2 r = some (.str v)
  frame : ∀ r' ∈ db.keys, r'.key ≠ k → absVal db2 r' = absVal db r'

/-- well-behaved assignment lists: a fresh row gets the given id, the name and the string tag;
an update keeps id, name and type -/
structure GoodUpsert (k : Bytes) (onNew : Int → KeyRow) (onOld : KeyRow → KeyRow) : Prop where
  newId : ∀ id, (onNew id).id = id
  newKey : ∀ id, (onNew id).key = k
  newTy : ∀ id, (onNew id).ty = TString
  oldId : ∀ o, (onOld o).id = o.id
  oldKey : ∀ o, (onOld o).key = o.key
  oldTy : ∀ o, (onOld o).ty = o.ty

theorem good_set (k : Bytes) (et : Option Int) (now : Int) : GoodUpsert k (setNew k et now) (setOld et now) :=
  ⟨fun _ => rfl, fun _ => rfl, fun _ => rfl, fun _ => rfl, fun _ => rfl, fun _ => rfl⟩

theorem good_upd (k : Bytes) (now : Int) : GoodUpsert k (setNew k none now) (updOld now) :=
  ⟨fun _ => rfl, fun _ => rfl, fun _ => rfl, fun _ => rfl, fun _ => rfl, fun _ => rfl⟩

theorem strWrite_other {db : DB} {k v : Bytes} {onNew : Int → KeyRow} {onOld : KeyRow → KeyRow}
    {old : KeyRow} (h : db.findKey k = some old) (ht : old.ty ≠ TString) :
    strWrite db k v onNew onOld = (.error .keyType, db) := by
  simp [strWrite, keyUpsert_other h ht]

/-- The second statement, after a key upsert that left the row `r` (a string key) under `k` and
every other stored row as it was: the tables are well-formed again and `k` is written. -/
theorem putRow_written {db : DB} (hw : db.WF) {ks : List KeyRow} {k v : Bytes} {r : KeyRow}
    (hf : ∀ k', ({ db with keys := ks } : DB).findKey k' = if k == k' then some r else db.findKey k')
    (hty : r.ty = TString) (hn : (ks.map (·.key)).Nodup) (hi : (ks.map (·.id)).Nodup)
    (hmem : ∀ x ∈ ks, x = r ∨ x ∈ db.keys) (hid : ∀ r' ∈ db.keys, r'.key ≠ k → r.id ≠ r'.id) :
    let db2 : DB := { db with keys := ks, strs := strPutRow db.strs r.id v }
    strSet2 { db with keys := ks } k v = .ok db2 ∧ db2.WF ∧ Written db db2 k r v := by
  refine ⟨strSet2_eq (by rw [hf]; simp), ⟨hn, hi, ?_, ?_, kids_strPutRow hw.strKids _ _⟩,
    ⟨hf, hty, ?_, ?_⟩⟩
  · intro x hx
    rcases hmem x hx with rfl | hx
    · rw [hty]; decide
    · exact hw.tyOk x hx
  · intro x hx hxt
    rcases hmem x hx with rfl | hx
    · exact self_kid_strPutRow _ _ _
    · exact exists_kid_strPutRow _ _ (hw.strRow x hx hxt)
  · rw [absVal_str hty]
    show ((strPutRow db.strs r.id v).find? _).map _ = _
    rw [find?_strPutRow, if_pos rfl]; rfl
  · intro r' hr' hne
    apply absVal_congr <;> try rfl
    show (strPutRow db.strs r.id v).find? _ = _
    rw [find?_strPutRow, if_neg (hid r' hr' hne)]

theorem strWrite_new {db : DB} {k v : Bytes} {onNew : Int → KeyRow} {onOld : KeyRow → KeyRow}
    (hw : db.WF) (hg : GoodUpsert k onNew onOld) (h : db.findKey k = none) :
    ∃ db2, strWrite db k v onNew onOld = (.ok db2, db2) ∧ db2.WF ∧
      Written db db2 k (onNew db.nextKeyId) v := by
  have hnone : db.findKey (onNew db.nextKeyId).key = none := by rw [hg.newKey]; exact h
  obtain ⟨he, hw2, hwr⟩ := putRow_written (k := k) (v := v) (r := onNew db.nextKeyId) hw
    (fun k' => by rw [← hg.newKey db.nextKeyId]; exact findKey_append hnone k') (hg.newTy _)
    (names_append hw.names hnone) (ids_append hw.ids (hg.newId _))
    (fun x hx => (List.mem_append.1 hx).symm.imp (by simp) id)
    (fun r' hr' _ => by rw [hg.newId]; exact fun he => nextKeyId_fresh db r' hr' he.symm)
  exact ⟨_, by simp only [strWrite, keyUpsert_new h]; rw [he], hw2, hwr⟩

theorem strWrite_old {db : DB} {k v : Bytes} {onNew : Int → KeyRow} {onOld : KeyRow → KeyRow}
    (hw : db.WF) (hg : GoodUpsert k onNew onOld) {old : KeyRow} (h : db.findKey k = some old)
    (ht : old.ty = TString) :
    ∃ db2, strWrite db k v onNew onOld = (.ok db2, db2) ∧ db2.WF ∧ Written db db2 k (onOld old) v := by
  obtain ⟨ho, hok⟩ := findKey_mem h
  obtain ⟨he, hw2, hwr⟩ := putRow_written (k := k) (v := v) (r := onOld old)
    (ks := (db.updKey old.id (fun _ => onOld old)).keys) hw
    (fun k' => by rw [← hok]; exact findKey_updKey hw.names hw.ids ho (hg.oldKey _) k')
    ((hg.oldTy _).trans ht)
    (by rw [updKey_names hw.ids ho (hg.oldKey _)]; exact hw.names)
    (by rw [updKey_ids hw.ids ho (hg.oldId _)]; exact hw.ids)
    (fun x hx => (mem_updKey hw.ids ho hx).imp id (·.1))
    (fun r' hr' hne => by
      rw [hg.oldId]; exact fun he => hne (by rw [← id_inj hw.ids ho hr' he, hok]))
  have he : strSet2 (db.updKey old.id fun _ => onOld old) k v = _ := he
  exact ⟨_, by simp only [strWrite, keyUpsert_old h ht, he], hw2, hwr⟩

theorem strWrite_wf {db : DB} {k v : Bytes} {onNew : Int → KeyRow} {onOld : KeyRow → KeyRow}
    (hw : db.WF) (hg : GoodUpsert k onNew onOld) : (strWrite db k v onNew onOld).2.WF := by
  cases hf : db.findKey k with
  | none =>
    obtain ⟨db2, he, hw2, _⟩ := strWrite_new (v := v) hw hg hf
    rw [he]; exact hw2
  | some old =>
    by_cases ht : old.ty = TString
    · obtain ⟨db2, he, hw2, _⟩ := strWrite_old (v := v) hw hg hf ht
      rw [he]; exact hw2
    · rw [strWrite_other hf ht]; exact hw

/-- What a successful write does to the abstract keyspace: the name `k` now maps to the string
`v` with the expiry of the written row — unless that expiry has already passed, in which case the
key is gone (`purge`). All other keys are untouched. -/
theorem Written.abs {db db2 : DB} {k : Bytes} {r : KeyRow} {v : Bytes} (hw : db.WF) (hw2 : db2.WF)
    (h : Written db db2 k r v) (now : Int) :
    abs now db2 = purge now (put (abs now db) k ⟨.str v, r.etime⟩) :=
  abs_of_written hw.names hw2.names h.find h.val h.frame now

theorem strWrite_absent {db : DB} {k v : Bytes} {onNew : Int → KeyRow} {onOld : KeyRow → KeyRow}
    (hw : db.WF) (hg : GoodUpsert k onNew onOld) (h : db.findKey k = none) (now : Int) :
    ∃ db2, strWrite db k v onNew onOld = (.ok db2, db2) ∧ db2.WF ∧
      abs now db2 = purge now (put (abs now db) k ⟨.str v, (onNew db.nextKeyId).etime⟩) := by
  obtain ⟨db2, he, hw2, hwr⟩ := strWrite_new (v := v) hw hg h
  exact ⟨db2, he, hw2, hwr.abs hw hw2 now⟩

theorem strWrite_present {db : DB} {k v : Bytes} {onNew : Int → KeyRow} {onOld : KeyRow → KeyRow}
    (hw : db.WF) (hg : GoodUpsert k onNew onOld) {old : KeyRow} (h : db.findKey k = some old)
    (ht : old.ty = TString) (now : Int) :
    ∃ db2, strWrite db k v onNew onOld = (.ok db2, db2) ∧ db2.WF ∧
      abs now db2 = purge now (put (abs now db) k ⟨.str v, (onOld old).etime⟩) := by
  obtain ⟨db2, he, hw2, hwr⟩ := strWrite_old (v := v) hw hg h ht
  exact ⟨db2, he, hw2, hwr.abs hw hw2 now⟩

/-- The four things a name can be at `now`, each with what the model's read (`sqlGet`) and the
abstraction make of it. -/
inductive Holder (now : Int) (db : DB) (k : Bytes) : Prop
  | absent (h : db.findKey k = none) (hg : get (abs now db) k = none)
      (hr : strGetRaw db k now = none)
  | stale (r : KeyRow) (h : db.findKey k = some r) (hl : r.live now = false)
      (hg : get (abs now db) k = none) (hr : strGetRaw db k now = none)
  | str (r : KeyRow) (b : Bytes) (h : db.findKey k = some r) (hl : r.live now = true)
      (ht : r.ty = TString) (hg : get (abs now db) k = some ⟨.str b, r.etime⟩)
      (hr : strGetRaw db k now = some b)
  | other (r : KeyRow) (v : SVal) (h : db.findKey k = some r) (hl : r.live now = true)
      (ht : r.ty ≠ TString) (hg : get (abs now db) k = some ⟨v, r.etime⟩) (hv : ∀ b, v ≠ .str b)
      (hr : strGetRaw db k now = none)

theorem holder {db : DB} (hw : db.WF) (now : Int) (k : Bytes) : Holder now db k := by
  have hga := get_abs hw.names now k
  have hra : strGetRaw db k now
      = match (db.findKey k).filter (fun r => r.ty == TString && r.live now) with
        | none => none
        | some r => (db.strs.find? (fun s => s.kid == r.id)).map (·.value) := by
    unfold strGetRaw; rw [liveKeyT_eq hw.names]; rfl
  cases hf : db.findKey k with
  | none =>
    rw [hf] at hga hra
    exact .absent hf hga hra
  | some r =>
    rw [hf] at hga hra
    obtain ⟨hm, _⟩ := findKey_mem hf
    cases hl : r.live now with
    | false =>
      refine .stale r hf hl ?_ ?_
      · rw [hga]; simp [rowEntry, hl]
      · rw [hra]; simp [Option.filter, hl]
    | true =>
      by_cases ht : r.ty = TString
      · obtain ⟨s, hs, hk⟩ := hw.strRow r hm ht
        cases hfs : db.strs.find? (fun s => s.kid == r.id) with
        | none =>
          rw [List.find?_eq_none] at hfs
          exact absurd (by simp [hk]) (hfs s hs)
        | some s' =>
          refine .str r s'.value hf hl ht ?_ ?_
          · rw [hga]; simp [rowEntry, hl, absVal_str ht, hfs]
          · rw [hra]; simp [Option.filter, hl, ht, hfs]
      · obtain ⟨v, hv, hns⟩ := absVal_nonstr (db := db) ht (hw.tyOk r hm)
        refine .other r v hf hl ht ?_ hns ?_
        · rw [hga]; simp [rowEntry, hl, hv]
        · rw [hra]; simp [Option.filter, ht]

theorem Holder.not_stale {now : Int} {db : DB} {k : Bytes} {r : KeyRow}
    (hns : staleKey db now k = false) (h : db.findKey k = some r) (hl : r.live now = false) : False := by
  simp [staleKey, h, hl] at hns

theorem get_abs_live {db : DB} (hw : db.WF) {now : Int} {k : Bytes} {e : Entry}
    (h : get (abs now db) k = some e) : liveAt now e.etime = true ∧ staleKey db now k = false := by
  rw [get_abs hw.names] at h
  cases hf : db.findKey k with
  | none => simp [hf] at h
  | some r =>
    rw [hf] at h
    have := rowEntry_live h
    refine ⟨this.1, ?_⟩
    simp only [staleKey, hf, KeyRow.live]
    rw [← this.2.1, this.1]; rfl

theorem strGetRaw_of_get {db : DB} (hw : db.WF) {now : Int} {k b : Bytes} {et : Option Int}
    (h : get (abs now db) k = some ⟨.str b, et⟩) : strGetRaw db k now = some b := by
  rcases holder hw now k with ⟨_, hg, _⟩ | ⟨_, _, _, hg, _⟩ | ⟨_, _, _, _, _, hg, hr⟩ |
    ⟨_, w, _, _, _, hg, hv, _⟩
  · rw [hg] at h; cases h
  · rw [hg] at h; cases h
  · rw [hg] at h; cases h; exact hr
  · rw [hg] at h; cases h; exact absurd rfl (hv _)

/-- the verdict on one step: same result, and the tables afterwards abstract to the
specification's keyspace (minus what has expired by `now`) -/
def Refines (now : Int) (m : Res) (s : SRes) : Prop :=
  m.out = s.out ∧ abs now m.db = purge now s.st

/-- nothing happened: the tables stand for the same keyspace -/
theorem Refines.same {db : DB} (hw : db.WF) (now : Int) (o : Out) :
    Refines now ⟨o, db⟩ ⟨o, abs now db⟩ := ⟨rfl, (purge_abs hw.names now).symm⟩

theorem wrap64_of_inInt64 {i : Int} (h : inInt64 i = true) : wrap64 i = i := by
  simp only [inInt64, minInt64, maxInt64, Bool.and_eq_true] at h
  have h1 := of_decide_eq_true h.1
  have h2 := of_decide_eq_true h.2
  simp only [wrap64, minInt64]
  omega

theorem wrap64_inInt64 (i : Int) : inInt64 (wrap64 i) = true := by
  simp only [inInt64, wrap64, minInt64, maxInt64, Bool.and_eq_true]
  refine ⟨decide_eq_true ?_, decide_eq_true ?_⟩ <;> omega

theorem strGet_refines {db : DB} (hw : db.WF) (now : Int) (k : Bytes) :
    Refines now (strGet db k now) (Spec.strGet (abs now db) k) := by
  unfold Refines
  rcases holder hw now k with ⟨_, hg, hr⟩ | ⟨_, _, _, hg, hr⟩ | ⟨_, _, _, _, _, hg, hr⟩ |
    ⟨_, v, _, _, _, hg, hv, hr⟩
  · simp [strGet, Spec.strGet, hg, hr, Res.err, Spec.er, purge_abs hw.names]
  · simp [strGet, Spec.strGet, hg, hr, Res.err, Spec.er, purge_abs hw.names]
  · simp [strGet, Spec.strGet, hg, hr, Res.ok, Spec.ok, purge_abs hw.names]
  · simp [strGet, (strOps_other hg hv).1, hr, Res.err, Spec.er, purge_abs hw.names]

theorem strSet_refines {db : DB} (hw : db.WF) {now : Int} {k : Bytes}
    (hns : staleKey db now k = false) (v : Bytes) (et : Option Int) :
    Refines now (update (fun d => strSet d k v et now) db) (Spec.strSet (abs now db) k v et) := by
  unfold Refines
  rcases holder hw now k with ⟨h, hg, hr⟩ | ⟨_, h, hl, _, _⟩ | ⟨r, b, h, _, ht, hg, hr⟩ |
    ⟨r, w, h, _, ht, hg, hv, hr⟩
  · obtain ⟨db2, he, _, ha⟩ := strWrite_absent (v := v) hw (good_set k et now) h now
    simp [update, strSet, strSetTx_eq, he, Res.ok, Spec.strSet, Spec.strPut, hg, Spec.ok, ha, setNew]
  · exact (Holder.not_stale hns h hl).elim
  · obtain ⟨db2, he, _, ha⟩ := strWrite_present (v := v) hw (good_set k et now) h ht now
    simp [update, strSet, strSetTx_eq, he, Res.ok, Spec.strSet, Spec.strPut, hg, Spec.ok, ha, setOld]
  · have he := strWrite_other (v := v) (onNew := setNew k et now) (onOld := setOld et now) h ht
    simp [update, strSet, strSetTx_eq, he, Res.err, Spec.strSet, (strOps_other hg hv).2.1, Spec.er,
      purge_abs hw.names]

theorem strIncr_refines {db : DB} (hw : db.WF) {now : Int} {k : Bytes}
    (hns : staleKey db now k = false) (d : Int) (hd : inInt64 d = true)
    (hov : ∀ b n, strGetRaw db k now = some b → valueInt b = some n → inInt64 (n + d) = true) :
    Refines now (update (fun x => strIncr x k d now) db) (Spec.strIncr (abs now db) k d) := by
  unfold Refines
  have hv0 : valueInt [] = some 0 := rfl
  rcases holder hw now k with ⟨h, hg, hr⟩ | ⟨_, h, hl, _, _⟩ | ⟨r, b, h, _, ht, hg, hr⟩ |
    ⟨r, w, h, _, ht, hg, hv, hr⟩
  · obtain ⟨db2, he, _, ha⟩ := strWrite_absent (v := itoa d) hw (good_upd k now) h now
    simp [update, strIncr, hr, hv0, wrap64_of_inInt64 hd, strUpdateTx_eq, he, Res.ok,
      Spec.strIncr, hg, Spec.ok, ha, setNew]
  · exact (Holder.not_stale hns h hl).elim
  · cases hvi : valueInt b with
    | none =>
      simp [update, strIncr, hr, hvi, Res.err, Spec.strIncr, hg, Spec.er, purge_abs hw.names]
    | some n =>
      have hw64 := wrap64_of_inInt64 (hov b n hr hvi)
      obtain ⟨db2, he, _, ha⟩ := strWrite_present (v := itoa (n + d)) hw (good_upd k now) h ht now
      simp [update, strIncr, hr, hvi, hw64, strUpdateTx_eq, he, Res.ok, Spec.strIncr, hg, Spec.ok,
        ha, updOld]
  · have he := fun v => strWrite_other (v := v) (onNew := setNew k none now) (onOld := updOld now) h ht
    simp [update, strIncr, hr, hv0, strUpdateTx_eq, he, Res.err, (strOps_other hg hv).2.2.1, Spec.er,
      purge_abs hw.names]

/-- Float increment (`Tx.IncrFloat`) against the specification: wherever the numeric domain of the
model decides the step (`valueFloat`, `formatFloatDec`), the stored text is read as a number, the
canonical text of the exact sum is stored, the expiry is kept; a text that is not a number is
refused without effect; outside the domain both sides say "not decided" and nothing changes. -/
theorem strIncrFloat_refines {db : DB} (hw : db.WF) {now : Int} {k : Bytes}
    (hns : staleKey db now k = false) (d : Dyadic) :
    Refines now (update (fun x => strIncrFloat x k d now) db) (Spec.strIncrFloat (abs now db) k d) := by
  unfold Refines
  have hv0 : valueFloat [] = .val .zero := rfl
  rcases holder hw now k with ⟨h, hg, hr⟩ | ⟨_, h, hl, _, _⟩ | ⟨r, b, h, _, ht, hg, hr⟩ |
    ⟨r, w, h, _, ht, hg, hv, hr⟩
  · cases hf : formatFloatDec (f64add 0 d) with
    | none =>
      have hx : strUpdate1 db k now = .ok _ := keyUpsert_new h
      simp [update, strIncrFloat, hr, hv0, hf, hx, Res.err, Spec.strIncrFloat, hg, Spec.skip,
        purge_abs hw.names]
    | some txt =>
      obtain ⟨db2, he, _, ha⟩ := strWrite_absent (v := txt) hw (good_upd k now) h now
      simp [update, strIncrFloat, hr, hv0, hf, strUpdateTx_eq, he, Res.ok, Spec.strIncrFloat, hg,
        Spec.ok, ha, setNew]
  · exact (Holder.not_stale hns h hl).elim
  · cases hvf : valueFloat b with
    | invalid =>
      simp [update, strIncrFloat, hr, hvf, Res.err, Spec.strIncrFloat, hg, Spec.er, purge_abs hw.names]
    | unknown =>
      simp [update, strIncrFloat, hr, hvf, Res.err, Spec.strIncrFloat, hg, Spec.skip, purge_abs hw.names]
    | val x =>
      cases hf : formatFloatDec (f64add x d) with
      | none =>
        have hy : strUpdate1 db k now = .ok _ := keyUpsert_old h ht
        simp [update, strIncrFloat, hr, hvf, hf, hy, Res.err, Spec.strIncrFloat, hg, Spec.skip,
          purge_abs hw.names]
      | some txt =>
        obtain ⟨db2, he, _, ha⟩ := strWrite_present (v := txt) hw (good_upd k now) h ht now
        simp [update, strIncrFloat, hr, hvf, hf, strUpdateTx_eq, he, Res.ok, Spec.strIncrFloat, hg,
          Spec.ok, ha, updOld]
  · have he := fun v => strWrite_other (v := v) (onNew := setNew k none now) (onOld := updOld now) h ht
    have hu : strUpdate1 db k now = .error .keyType := keyUpsert_other h ht
    cases hf : formatFloatDec (f64add 0 d) <;>
      simp [update, strIncrFloat, hr, hv0, hf, hu, strUpdateTx_eq, he, Res.err,
        (strOps_other hg hv).2.2.2, Spec.er, purge_abs hw.names]

/-- `SetCmd.run` writes with `update` when it keeps the expiry and with `set` otherwise: one
`strWrite`, whose assignment lists depend on the flag -/
def withOld (keep : Bool) (at_ : Option Int) (now : Int) : KeyRow → KeyRow :=
  if keep then updOld now else setOld at_ now

theorem withOld_etime (keep : Bool) (at_ : Option Int) (now : Int) (o : KeyRow) :
    (withOld keep at_ now o).etime = if keep then o.etime else at_ := by
  cases keep <;> rfl

theorem good_with (k : Bytes) (keep : Bool) (at_ : Option Int) (now : Int) :
    GoodUpsert k (setNew k (if keep then none else at_) now) (withOld keep at_ now) := by
  cases keep
  · exact good_set k at_ now
  · exact good_upd k now

theorem setWith_write (db : DB) (k v : Bytes) (keep : Bool) (at_ : Option Int) (now : Int) :
    (if keep then strUpdateTx db k v now else strSetTx db k v at_ now)
      = strWrite db k v (setNew k (if keep then none else at_) now) (withOld keep at_ now) := by
  cases keep <;> rfl

/-- The decision table of `SetCmd.run`, on the model. Whether anything is written depends on one
flag only once it is known what holds the name; the write is one `strWrite` (`setWith_write`). -/
theorem strSetWith_table {db : DB} (hw : db.WF) {now : Int} {k : Bytes}
    (hns : staleKey db now k = false) (v : Bytes) (o : SetOpts) :
    let r := update (fun x => strSetWith x k v o now) db
    let newExpiry : Option Int := if o.ttl > 0 then some (now + o.ttl) else o.atMs
    let s := abs now db
    match get s k with
    | none =>
      if o.ifExists then r.out = .ok (.list [.nil, .bool false, .bool false]) ∧ r.db = db
      else r.out = .ok (.list [.nil, .bool true, .bool false]) ∧
        abs now r.db = purge now (put s k ⟨.str v, if o.keepTTL then none else newExpiry⟩)
    | some ⟨.str prev, oldExpiry⟩ =>
      if o.ifNotExists then r.out = .ok (.list [.bytes prev, .bool false, .bool false]) ∧ r.db = db
      else r.out = .ok (.list [.bytes prev, .bool false, .bool true]) ∧
        abs now r.db = purge now (put s k ⟨.str v, if o.keepTTL then oldExpiry else newExpiry⟩)
    | some _ =>
      if o.ifExists then r.out = .ok (.list [.nil, .bool false, .bool false]) ∧ r.db = db
      else r.out = .error .keyType ∧ r.db = db := by
  simp only [update, strSetWith, setWith_write]
  generalize (if o.ttl > 0 then some (now + o.ttl) else o.atMs) = at_
  have hgood := good_with k o.keepTTL at_ now
  rcases holder hw now k with ⟨h, hg, hr⟩ | ⟨_, h, hl, _, _⟩ | ⟨r, b, h, _, ht, hg, hr⟩ |
    ⟨r, w, h, _, ht, hg, hv, hr⟩
  · obtain ⟨db2, he, _, ha⟩ := strWrite_absent (v := v) hw hgood h now
    cases h1 : o.ifExists <;> simp [hr, hg, he, ha, Res.ok, setNew]
  · exact (Holder.not_stale hns h hl).elim
  · obtain ⟨db2, he, _, ha⟩ := strWrite_present (v := v) hw hgood h ht now
    cases h2 : o.ifNotExists <;> simp [hr, hg, he, ha, Res.ok, withOld_etime]
  · have he := strWrite_other (v := v) (onNew := setNew k (if o.keepTTL then none else at_) now)
      (onOld := withOld o.keepTTL at_ now) h ht
    -- the third row of the table is the default arm of its `match`: `w` is any of the other four
    cases w <;> first | exact absurd rfl (hv _) |
      (cases h1 : o.ifExists <;> simp [hr, hg, he, Res.ok, Res.err])

/-- The specification's `strSetWith` is the same table. -/
theorem strSetWith_refines {db : DB} (hw : db.WF) {now : Int} {k : Bytes}
    (hns : staleKey db now k = false) (v : Bytes) (o : SetOpts) :
    Refines now (update (fun x => strSetWith x k v o now) db)
      (Spec.strSetWith (abs now db) k v o now) := by
  have ht := strSetWith_table hw hns v o
  have hp := purge_abs hw.names now
  unfold Refines
  simp only [Spec.strSetWith, Spec.strPut]
  cases hg : get (abs now db) k with
  | none =>
    simp only [hg] at ht
    cases h1 : o.ifExists <;> simp [h1] at ht <;> simp [ht, hp, Spec.ok]
  | some e =>
    obtain ⟨w, et⟩ := e
    simp only [hg] at ht
    cases w with
    | str b => cases h2 : o.ifNotExists <;> simp [h2] at ht <;> simp [ht, hp, Spec.ok]
    | _ => cases h1 : o.ifExists <;> simp [h1] at ht <;> simp [ht, hp, Spec.ok, Spec.er]

/-- the name is held by a live key of another type -/
def badKey (s : State) (k : Bytes) : Bool :=
  match get s k with
  | some ⟨.str _, _⟩ => false
  | some _ => true
  | none => false

theorem badKey_other {s : State} {k : Bytes} {w : SVal} {et : Option Int}
    (hg : get s k = some ⟨w, et⟩) (hv : ∀ b, w ≠ .str b) : badKey s k = true := by
  cases w <;> first | exact absurd rfl (hv _) | simp [badKey, hg]

theorem specSetMany_eq (s : State) (items : List (Bytes × Bytes)) :
    Spec.strSetMany s items
      = if items.any (fun p => badKey s p.1) then er .keyType s
        else Spec.ok .nil (items.foldl (fun acc p => put acc p.1 ⟨.str p.2, none⟩) s) := rfl

theorem badKey_put {s : State} {k : Bytes} (hb : badKey s k = false) (v : Bytes) (k' : Bytes) :
    badKey (put s k ⟨.str v, none⟩) k' = badKey s k' := by
  unfold badKey
  rw [get_put]
  by_cases hk : k = k'
  · subst hk
    simp only [beq_self_eq_true, if_true]
    exact hb.symm
  · have : (k == k') = false := by simpa using hk
    simp only [this, Bool.false_eq_true, if_false]

theorem setTx_step {db : DB} (hw : db.WF) {now : Int} {k : Bytes}
    (hns : staleKey db now k = false) (hb : badKey (abs now db) k = false) (v : Bytes) :
    ∃ db2, strSetTx db k v none now = (.ok db2, db2) ∧ db2.WF ∧
      abs now db2 = put (abs now db) k ⟨.str v, none⟩ ∧
      (∀ k', staleKey db now k' = false → staleKey db2 now k' = false) := by
  have hlive : liveAt now (none : Option Int) = true := rfl
  have hput := purge_put_live (sorted_abs hw.names now) (purge_abs hw.names now) k
    (e := ⟨.str v, none⟩) hlive
  have hst : ∀ {db2 : DB} {r : KeyRow}, Written db db2 k r v → r.etime = none →
      ∀ k', staleKey db now k' = false → staleKey db2 now k' = false := by
    intro db2 r hwr het k' hk'
    unfold staleKey at hk' ⊢
    rw [hwr.find]
    by_cases hk : k = k'
    · simp [hk, KeyRow.live, het, liveAt]
    · have : (k == k') = false := by simpa using hk
      simpa [this] using hk'
  rcases holder hw now k with ⟨h, hg, hr⟩ | ⟨_, h, hl, _, _⟩ | ⟨r, b, h, _, ht, hg, hr⟩ |
    ⟨r, w, h, _, ht, hg, hv, hr⟩
  · obtain ⟨db2, he, hw2, hwr⟩ := strWrite_new (v := v) hw (good_set k none now) h
    refine ⟨db2, he, hw2, ?_, hst hwr rfl⟩
    rw [hwr.abs hw hw2 now]; exact hput
  · exact (Holder.not_stale hns h hl).elim
  · obtain ⟨db2, he, hw2, hwr⟩ := strWrite_old (v := v) hw (good_set k none now) h ht
    refine ⟨db2, he, hw2, ?_, hst hwr rfl⟩
    rw [hwr.abs hw hw2 now]; exact hput
  · rw [badKey_other hg hv] at hb
    cases hb

theorem setTx_bad {db : DB} (hw : db.WF) {now : Int} {k : Bytes}
    (hb : badKey (abs now db) k = true) (v : Bytes) :
    strSetTx db k v none now = (.error .keyType, db) := by
  rcases holder hw now k with ⟨h, hg, hr⟩ | ⟨_, h, hl, hg, _⟩ | ⟨r, b, h, _, ht, hg, hr⟩ |
    ⟨r, w, h, _, ht, hg, hv, hr⟩
  · simp [badKey, hg] at hb
  · simp [badKey, hg] at hb
  · simp [badKey, hg] at hb
  · exact strWrite_other h ht

theorem strSetMany_raw (now : Int) : ∀ (items : List (Bytes × Bytes)) (db : DB), db.WF →
    (∀ p ∈ items, staleKey db now p.1 = false) →
    (items.any (fun p => badKey (abs now db) p.1) = true ∧
        ∃ d, strSetMany db items now = .err .keyType d) ∨
    (items.any (fun p => badKey (abs now db) p.1) = false ∧
        ∃ db', strSetMany db items now = .ok .nil db' ∧ db'.WF ∧
          abs now db' = items.foldl (fun acc p => put acc p.1 ⟨.str p.2, none⟩) (abs now db))
  | [], db, hw, _ => Or.inr ⟨rfl, db, rfl, hw, rfl⟩
  | (k, v) :: rest, db, hw, hns => by
    have hnsk := hns (k, v) (by simp)
    cases hb : badKey (abs now db) k with
    | true =>
      refine Or.inl ⟨by simp [hb], db, ?_⟩
      simp [strSetMany, setTx_bad hw hb v]
    | false =>
      obtain ⟨db2, he, hw2, ha, hst⟩ := setTx_step hw hnsk hb v
      have hns2 : ∀ p ∈ rest, staleKey db2 now p.1 = false :=
        fun p hp => hst p.1 (hns p (List.mem_cons_of_mem _ hp))
      have hbad : (fun p : Bytes × Bytes => badKey (abs now db2) p.1)
          = (fun p => badKey (abs now db) p.1) := by
        funext p; rw [ha, badKey_put hb]
      have hstep : strSetMany db ((k, v) :: rest) now = strSetMany db2 rest now := by
        simp [strSetMany, he]
      rcases strSetMany_raw now rest db2 hw2 hns2 with ⟨hany, d, hd⟩ | ⟨hany, db', hd, hw', ha'⟩
      · rw [hbad] at hany
        exact Or.inl ⟨by simp [hb, hany], d, by rw [hstep, hd]⟩
      · rw [hbad] at hany
        refine Or.inr ⟨by simp [hb, hany], db', by rw [hstep, hd], hw', ?_⟩
        rw [ha', ha]; rfl

theorem strSetMany_refines {db : DB} (hw : db.WF) {now : Int} {items : List (Bytes × Bytes)}
    (hns : ∀ p ∈ items, staleKey db now p.1 = false) :
    Refines now (update (fun x => strSetMany x items now) db)
      (Spec.strSetMany (abs now db) items) := by
  unfold Refines
  rw [specSetMany_eq]
  rcases strSetMany_raw now items db hw hns with ⟨hany, d, hd⟩ | ⟨hany, db', hd, hw', ha'⟩
  · simp [update, hd, Res.err, hany, Spec.er, purge_abs hw.names]
  · simp only [update, hd, Res.ok, hany, Spec.ok, Bool.false_eq_true, if_false, true_and]
    rw [← ha', purge_abs hw'.names]

/-- the string stored in an entry, when the entry is a string and its name was asked for -/
def strSel (ks : List Bytes) (p : Bytes × Entry) : Option Bytes :=
  match p.2.val with
  | .str b => if ks.contains p.1 then some b else none
  | _ => none

theorem getMany_items {db : DB} (hw : db.WF) (now : Int) (ks : List Bytes) :
    sortBy (fun a b => bytesLt a.1 b.1)
        ((db.keys.filter (fun r => ks.contains r.key && r.ty == TString && r.live now)).filterMap
          (fun r => (db.strs.find? (fun s => s.kid == r.id)).map (fun s => (r.key, s.value))))
      = (abs now db).filterMap (fun p => (strSel ks p).map (fun b => (p.1, b))) := by
  let cond : KeyRow → Bool := fun r => ks.contains r.key && r.ty == TString && r.live now
  let gm : KeyRow → Option Bytes := fun r => (db.strs.find? (fun s => s.kid == r.id)).map (·.value)
  have hF : (fun r : KeyRow => (db.strs.find? (fun s => s.kid == r.id)).map (fun s => (r.key, s.value)))
      = (fun r => (gm r).map (fun v => (r.key, v))) := by
    funext r; simp [gm, Option.map_map, Function.comp_def]
  rw [hF]
  have hrows : ((db.keys.filter cond).map (·.key)).Nodup :=
    List.Nodup.sublist (List.Sublist.map _ List.filter_sublist) hw.names
  have hkeys : (((db.keys.filter cond).filterMap (fun r => (gm r).map (fun v => (r.key, v)))).map
      (·.1)).Nodup :=
    List.Nodup.sublist (keys_filterMap_sublist (·.key) gm _) hrows
  have hsa := sorted_abs hw.names now
  apply sorted_ext (sorted_sortBy hkeys)
    (hsa.filterMap _ (by
      intro p q h
      cases hs : strSel ks p with
      | none => simp [hs] at h
      | some b => simp [hs] at h; rw [← h]))
  intro k
  rw [aget_sortBy hkeys, aget_filterMap_key (·.key) gm _ hrows k,
    aget_filterMap_key (·.1) (strSel ks) (abs now db) hsa.nodup_keys k, find?_filter',
    find?_key_and db.keys hw.names k cond, find?_key_eq_aget]
  have hga := get_abs hw.names now k
  unfold Spec.get findKey at hga
  rw [hga]
  cases hf : db.keys.find? (fun r => r.key == k) with
  | none => rfl
  | some r =>
    have hrk : r.key = k := by simpa using List.find?_some hf
    simp only [Option.filter, Option.bind_some, rowEntry, cond, hrk]
    cases hl : r.live now with
    | false => simp
    | true =>
      by_cases ht : r.ty = TString
      · rw [absVal_str ht]
        have hgm : gm r = (db.strs.find? (fun s => s.kid == r.id)).map (·.value) := rfl
        by_cases hc : k ∈ ks
        · cases hfs : db.strs.find? (fun s => s.kid == r.id) with
          | none => simp [hc, ht, hgm, hfs]
          | some s => simp [hc, ht, hgm, hfs, strSel]
        · cases hfs : db.strs.find? (fun s => s.kid == r.id) with
          | none => simp [hc]
          | some s => simp [hc, strSel]
      · have htb : (r.ty == TString) = false := by simpa using ht
        simp only [htb, Bool.and_false, Bool.false_and, Bool.false_eq_true, if_false, if_true,
          Option.bind_none]
        cases hv : absVal db r with
        | none => rfl
        | some v =>
          cases v with
          | str b => exact absurd (absVal_eq_str_ty hv) ht
          | _ => rfl

theorem strGetMany_refines {db : DB} (hw : db.WF) (now : Int) (ks : List Bytes) :
    Refines now (strGetMany db ks now) (Spec.strGetMany (abs now db) ks) := by
  unfold Refines
  refine ⟨?_, by simp [strGetMany, Spec.strGetMany, Res.ok, Spec.ok, purge_abs hw.names]⟩
  simp only [strGetMany, Spec.strGetMany, Res.ok, Spec.ok]
  rw [getMany_items hw now ks, List.map_filterMap]
  congr 3
  funext p
  unfold strSel Spec.pairVal
  cases p.2.val with
  | str b => cases ks.contains p.1 <;> simp
  | _ => rfl

theorem update_error_db {f : DB → Res} {db : DB} {e : Err} (h : (update f db).out = .error e) :
    (update f db).db = db := by
  rw [Dispatch.update_out] at h
  rw [Dispatch.update_error h]

theorem update_of_eq_ok {f : DB → Res} {db : DB} {v : Val} {d : DB} (h : f db = ⟨.ok v, d⟩) :
    update f db = ⟨.ok v, d⟩ :=
  (Dispatch.update_ok (congrArg Res.out h)).trans h

theorem set_result {db : DB} (hw : db.WF) {k : Bytes} (hno : ∀ r, db.findKey k = some r → r.ty = TString)
    (v : Bytes) (et : Option Int) (now : Int) :
    ∃ db2, update (fun d => strSet d k v et now) db = ⟨.ok .nil, db2⟩ ∧ db2.WF ∧
      abs now db2 = purge now (put (abs now db) k ⟨.str v, et⟩) := by
  cases hf : db.findKey k with
  | none =>
    obtain ⟨db2, he, hw2, ha⟩ := strWrite_absent (v := v) hw (good_set k et now) hf now
    exact ⟨db2, update_of_eq_ok (by simp [strSet, strSetTx_eq, he, Res.ok]), hw2, ha⟩
  | some r =>
    obtain ⟨db2, he, hw2, ha⟩ := strWrite_present (v := v) hw (good_set k et now) hf (hno r hf) now
    exact ⟨db2, update_of_eq_ok (by simp [strSet, strSetTx_eq, he, Res.ok]), hw2, ha⟩

theorem strIncr_ok {db : DB} (hw : db.WF) {now : Int} {k : Bytes} (hns : staleKey db now k = false)
    {d m : Int} (h : (update (fun x => strIncr x k d now) db).out = .ok (.int m)) :
    strGetRaw (update (fun x => strIncr x k d now) db).db k now = some (itoa m) ∧
      inInt64 m = true := by
  have hv0 : valueInt [] = some 0 := rfl
  have hlive : liveAt now (none : Option Int) = true := rfl
  rcases holder hw now k with ⟨hf, hg, hr⟩ | ⟨_, hf, hl, _, _⟩ | ⟨r, b, hf, hl, ht, hg, hr⟩ |
    ⟨r, w, hf, _, ht, hg, hv, hr⟩
  · obtain ⟨db2, he, hw2, ha⟩ :=
      strWrite_absent (v := itoa (wrap64 d)) hw (good_upd k now) hf now
    have hu : update (fun x => strIncr x k d now) db = ⟨.ok (.int (wrap64 d)), db2⟩ :=
      update_of_eq_ok (by simp [strIncr, hr, hv0, strUpdateTx_eq, he, Res.ok])
    rw [hu] at h ⊢
    simp only [Except.ok.injEq, Val.int.injEq] at h
    subst h
    refine ⟨strGetRaw_of_get hw2 (et := none) ?_, wrap64_inInt64 _⟩
    rw [ha, get_purge_put_self (sorted_abs hw.names now)]
    rfl
  · exact (Holder.not_stale hns hf hl).elim
  · cases hvi : valueInt b with
    | none => simp [update, strIncr, hr, hvi, Res.err] at h
    | some n =>
      obtain ⟨db2, he, hw2, ha⟩ :=
        strWrite_present (v := itoa (wrap64 (n + d))) hw (good_upd k now) hf ht now
      have hu : update (fun x => strIncr x k d now) db = ⟨.ok (.int (wrap64 (n + d))), db2⟩ :=
        update_of_eq_ok (by simp [strIncr, hr, hvi, strUpdateTx_eq, he, Res.ok])
      rw [hu] at h ⊢
      simp only [Except.ok.injEq, Val.int.injEq] at h
      subst h
      refine ⟨strGetRaw_of_get hw2 (et := r.etime) ?_, wrap64_inInt64 _⟩
      have hl' : liveAt now r.etime = true := hl
      rw [ha, get_purge_put_self (sorted_abs hw.names now)]
      exact if_pos hl'
  · have he := fun v => strWrite_other (v := v) (onNew := setNew k none now) (onOld := updOld now) hf ht
    simp [update, strIncr, hr, hv0, strUpdateTx_eq, he, Res.err] at h

/-! ### every method keeps `DB.WF`: it is made of the two writes (`Proofs/StrSteps.lean`) -/

theorem StrSteps.wf {now : Int} {db d : DB} (h : StrSteps now db d) (hw : db.WF) : d.WF :=
  h.pres hw (fun _ k _ et hw => strWrite_wf hw (good_set k et now))
    (fun _ k _ hw => strWrite_wf hw (good_upd k now))

theorem strSet_wf {db : DB} (hw : db.WF) (k v : Bytes) (et : Option Int) (now : Int) :
    (strSet db k v et now).db.WF :=
  (strSet_steps k v et).wf hw

theorem strIncr_wf {db : DB} (hw : db.WF) (k : Bytes) (d now : Int) : (strIncr db k d now).db.WF :=
  (strIncr_steps k d).wf hw

theorem strIncrFloat_wf {db : DB} (hw : db.WF) (k : Bytes) (d : Dyadic) (now : Int) :
    (strIncrFloat db k d now).db.WF :=
  (strIncrFloat_steps k d).wf hw

theorem strSetWith_wf {db : DB} (hw : db.WF) (k v : Bytes) (o : SetOpts) (now : Int) :
    (strSetWith db k v o now).db.WF :=
  (strSetWith_steps k v o).wf hw

theorem strSetMany_wf (now : Int) (items : List (Bytes × Bytes)) (db : DB) (hw : db.WF) :
    (strSetMany db items now).db.WF :=
  (strSetMany_steps items .refl).wf hw

end Redka.Model
