/-
  C06, first sentence: a type-specific operation on a name that is held — visibly — by a key of
  another type. Every model method reaches the key row either through the type-guarded lookup
  (`DB.liveKeyT`, which then finds nothing) or through the type-guarded upsert (`keyUpsert`, which
  then fails with `ErrKeyType`); the theorem below goes through the 54 one-key operations.
-/
import RedkaModel.Proofs.KeyRef
import RedkaModel.Spec.Meta
import RedkaModel.Proofs.KeyCrossAttr

set_option linter.unusedSimpArgs false

namespace Redka.Model

open Redka Redka.Spec Redka.DB

/-- the key of a type-specific operation that names exactly one key (the two float increments are
not listed) -/
def singleKey : Op → Option Bytes
  | .strGet k | .strIncr k _ | .strSet k _ | .strSetExpires k _ _ | .strSetWith k _ _ => some k
  | .listDelete k _ | .listDeleteBack k _ _ | .listDeleteFront k _ _ | .listGet k _
  | .listInsertAfter k _ _ | .listInsertBefore k _ _ | .listLen k | .listPopBack k | .listPopFront k
  | .listPushBack k _ | .listPushFront k _ | .listRange k _ _ | .listSet k _ _ | .listTrim k _ _ => some k
  | .setAdd k _ | .setDelete k _ | .setExists k _ | .setItems k | .setLen k | .setPop k _
  | .setRandom k _ | .setScan k _ _ _ => some k
  | .hashDelete k _ | .hashExists k _ | .hashFields k | .hashGet k _ | .hashGetMany k _
  | .hashIncr k _ _ | .hashItems k | .hashLen k | .hashScan k _ _ _ | .hashSet k _ _
  | .hashSetMany k _ | .hashSetNotExists k _ _ | .hashValues k => some k
  | .zAdd k _ _ | .zAddMany k _ | .zCount k _ _ | .zDelete k _ | .zDeleteRank k _ _
  | .zDeleteScore k _ _ | .zGetRank k _ | .zGetRankRev k _ | .zGetScore k _ | .zIncr k _ _ | .zLen k
  | .zRangeRank k _ _ _ | .zRangeScore k _ _ _ _ _ | .zScan k _ _ _ => some k
  | _ => none

/-- the operation would create the key if the name were free (so it must be refused when the name
is taken by another type). A conditional string set with `IfExists` creates nothing; a multi-set
of nothing creates nothing. -/
def creates : Op → Bool
  | .strIncr .. | .strSet .. | .strSetExpires .. => true
  | .strSetWith _ _ o => !o.ifExists
  | .listPushBack .. | .listPushFront .. => true
  | .setAdd .. => true
  | .hashIncr .. | .hashSet .. | .hashSetNotExists .. => true
  | .hashSetMany _ items => !items.isEmpty
  | .zAdd .. | .zIncr .. => true
  | .zAddMany _ items => !items.isEmpty
  | _ => false

theorem liveKeyT_empty (k : Bytes) (t now : Int) : ({} : DB).liveKeyT k t now = none := rfl

section cross
variable {db : DB} {k : Bytes} {t now : Int}

/-- the two facts about the tables that the case analysis uses -/
structure Blocked (db : DB) (k : Bytes) (t now : Int) : Prop where
  look : db.liveKeyT k t now = none
  upsert : ∀ onNew onOld, keyUpsert db k t onNew onOld = .error .keyType

theorem blocked_of_live {db : DB} (hn : (db.keys.map (·.key)).Nodup) {k : Bytes} {t now : Int}
    {r : KeyRow} (hl : db.liveKey k now = some r) (ht : r.ty ≠ t) : Blocked db k t now := by
  obtain ⟨hr, hrk, _⟩ := InvP.liveKey_some hl
  have hf : db.findKey k = some r := (findKey_eq_some_iff hn).2 ⟨hr, hrk⟩
  refine ⟨?_, fun _ _ => keyUpsert_other hf ht⟩
  rw [liveKeyT_eq hn, hf]
  simp [Option.filter, ht]

/-- the shape of the conclusion: nothing changes; a creating write is refused with `ErrKeyType`,
everything else answers what it answers on an empty database -/
def CrossOK (op : Op) (now : Int) (db : DB) : Prop :=
  (dbRun op now db).db = db ∧
    (dbRun op now db).out = if creates op then .error .keyType else (dbRun op now {}).out

/-- It is enough to look at the `Tx` method: `DB.Update` changes no result, and rolls back to
tables that the method has left alone anyway. -/
theorem crossOK_of_tx {op : Op} (h : ∀ b, tx b op now db
      = ⟨if creates op then .error .keyType else (tx b op now {}).out, db⟩) : CrossOK op now db := by
  have hu : ∀ (f : DB → Res) d, (update f d).out = (f d).out := by
    intro f d; unfold update; dsimp only; split <;> rfl
  unfold CrossOK dbRun
  cases wrapOf op
  · refine ⟨?_, by rw [hu, hu, h]⟩
    unfold update; rw [h]; dsimp only; split <;> rfl
  all_goals exact ⟨by rw [h], by rw [h]⟩

attribute [one_key] tx creates liveKeyT_empty Res.ok Res.err Bool.false_eq_true if_false if_true
  strGet strGetRaw strIncr strSet strSetExpires strSetTx strUpdateTx strSet1 strUpdate1 strSetWith
  listDelete listDeleteN listGet listInsert listLen listPop listPush listPushKey listRange listSet
  listTrim
  setAdd setAddKey setDelete setExists setItems setLen setPop setRandom setScan
  hashDelete hashExists hashFields hashGet hashGetMany hashIncr hashItems hashLen hashScan hashSet
  hashSetMany hashSetNotExists hashValues hashCountRaw hashSetTx hashSetKey hashGetRaw hashLiveRows
  hashSetManyLoop
  zAdd zAddMany zCount zDelete zDeleteRank zDeleteScore zGetRank zGetScore zIncr zLen zRangeRank
  zRangeScore zScan zLiveRows zCountElems zAddTx zAddKey zAddManyLoop zDeleteWhere

/-- what `Spec.crossType` says of an operation that names the one key `k` and has type `t` -/
theorem blocked_of_crossed (hn : (db.keys.map (·.key)).Nodup)
    (hc : ([k].any fun k => match db.liveKey k now with
      | some r => r.ty != t
      | none => false) = true) : Blocked db k t now := by
  simp only [List.any_cons, List.any_nil, Bool.or_false] at hc
  cases hl : db.liveKey k now with
  | none => simp [hl] at hc
  | some r => exact blocked_of_live hn hl (by simpa [hl] using hc)

end cross

/-- **A type-specific one-key operation on a name held visibly by a key of another type**: no
table row changes; an operation that would create the key is refused with `ErrKeyType`; every
other operation (reads, and the writes that only touch existing elements) answers exactly what it
answers on an empty database. Needs unique key names only.

One case analysis over the operations: `singleKey` leaves the 54 one-key operations, for each of
which `Spec.crossType` is the test of `blocked_of_crossed` at its key and type. Unfolded
(`one_key`), a method meets the key row only in a look-up, which finds nothing on `db` as on `{}`,
or in an upsert, which fails; what is left on both sides is the same nest of tests that do not
look at the tables. -/
theorem cross_type_single {db : DB} (hn : (db.keys.map (·.key)).Nodup) {op : Op} {k : Bytes}
    {now : Int} (hsk : singleKey op = some k) (hc : crossType op now db = true) :
    CrossOK op now db := by
  cases op <;> cases hsk
  all_goals obtain ⟨h1, h2⟩ := blocked_of_crossed hn hc
  all_goals refine crossOK_of_tx fun b => ?_
  all_goals simp only [one_key, h1, h2]
  case strSetWith v o =>
    rcases Bool.eq_false_or_eq_true o.ifExists with hE | hE <;>
      simp only [hE, Option.isSome_none, Bool.and_false, Bool.not_false, Bool.and_true, Bool.not_true,
        one_key, ite_self]
  case hashSetMany items => cases items <;> simp only [one_key, h2] <;> rfl
  case zAddMany items => cases items <;> simp only [one_key, h2] <;> rfl
  -- closed tests: an absent value reads as the integer 0; a count of 0 is not positive
  case strIncr | hashIncr | hashSetNotExists => rfl
  all_goals (repeat' split)
  all_goals rfl

end Redka.Model
