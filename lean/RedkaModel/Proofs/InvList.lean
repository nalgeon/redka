/-
  C11 — the list repository (`internal/rlist`): every method preserves the invariant, except that
  `Push` (alone or as the second half of pop-and-push) leaves `len` one above the number of rows exactly
  when it fails on the unique index of `(kid, pos)`.
-/
import RedkaModel.Proofs.InvPrim
import RedkaModel.Proofs.Index

namespace Redka.InvP

open Redka Redka.Model

variable {db : DB}

/-! ### counting the rows hit by a list of distinct positions -/

theorem length_filter_or_disjoint {α} (p1 p2 : α → Bool)
    (hd : ∀ x, ¬(p1 x = true ∧ p2 x = true)) :
    ∀ l : List α, (l.filter (fun x => p1 x || p2 x)).length
      = (l.filter p1).length + (l.filter p2).length
  | [] => rfl
  | x :: xs => by
    have ih := length_filter_or_disjoint p1 p2 hd xs
    have := hd x
    cases h1 : p1 x <;> cases h2 : p2 x <;> simp [h1, h2] at this ⊢ <;> omega

theorem count_victims {l : List ListRow}
    (hu : l.Pairwise (fun a b => (a.kid, a.pos) ≠ (b.kid, b.pos))) (kid : Int) :
    ∀ V : List Dyadic, V.Nodup → (∀ v ∈ V, ∃ x ∈ l, x.kid = kid ∧ x.pos = v) →
      (l.filter (fun x => x.kid == kid && V.contains x.pos)).length = V.length
  | [], _, _ => by simp
  | v :: V, hnd, hex => by
    rw [List.nodup_cons] at hnd
    have ih := count_victims hu kid V hnd.2 (fun w hw => hex w (List.mem_cons_of_mem _ hw))
    have hsplit : l.filter (fun x => x.kid == kid && (v :: V).contains x.pos)
        = l.filter (fun x => (x.kid == kid && x.pos == v) || (x.kid == kid && V.contains x.pos)) := by
      apply List.filter_congr; intro x _
      rw [List.contains_cons]
      cases x.kid == kid <;> simp
    rw [hsplit, length_filter_or_disjoint _ _ (fun x ⟨h1, h2⟩ => by
      simp only [Bool.and_eq_true, beq_iff_eq, List.contains_eq_mem, decide_eq_true_eq] at h1 h2
      exact hnd.1 (h1.2 ▸ h2.2)), ih]
    have hle := length_filter_le_one hu (fun x => x.kid == kid && x.pos == v)
      (fun a b ha hb hR => by
        simp only [Bool.and_eq_true, beq_iff_eq] at ha hb
        exact hR (by rw [ha.1, ha.2, hb.1, hb.2]))
    have hpos : 0 < (l.filter (fun x => x.kid == kid && x.pos == v)).length := by
      rw [List.length_filter_pos_iff]
      obtain ⟨x, hx, hk, hp⟩ := hex v List.mem_cons_self
      exact ⟨x, hx, by simp [hk, hp]⟩
    simp only [List.length_cons]
    omega

/-! ### triggers -/

theorem listOnDelete_fold {kid now : Int} (vs : List Dyadic) :
    ∀ {δ : Int → Int} {db : DB}, WFd δ db → Owner db kid TList →
      WFd (fun i => if i = kid then δ i - vs.length else δ i)
        (vs.foldl (fun d _ => listOnDelete d kid now) db) := by
  induction vs with
  | nil => intro δ db h _; exact h.congr (fun o _ => by simp)
  | cons v vs ih =>
    intro δ db h ho
    rw [List.foldl_cons]
    have h1 := WFd.updKey h kid (fun o => { o with version := o.version + 1, mtime := now, len := o.len.map (· - 1) }) (-1)
      (fun r _ _ => ⟨rfl, rfl, rfl, rfl⟩)
      (fun r hr e hs => absurd hs (ho.not_string h (by decide) r hr e))
    have ho1 : Owner (listOnDelete db kid now) kid TList := ho.updKey _ _ (fun _ => ⟨rfl, rfl⟩)
    refine (ih h1 ho1).congr (fun o _ => ?_)
    show (if o.id = kid then δ o.id - ((vs.length + 1 : Nat) : Int) else δ o.id)
      = if o.id = kid then (if o.id = kid then δ o.id + -1 else δ o.id) - (vs.length : Int)
        else (if o.id = kid then δ o.id + -1 else δ o.id)
    split <;> omega

theorem listOnDelete_fold_owner {kid now : Int} {k t : Int} (vs : List Dyadic) :
    ∀ {db : DB}, Owner db k t → Owner (vs.foldl (fun d _ => listOnDelete d kid now) db) k t := by
  induction vs with
  | nil => intro db h; exact h
  | cons v vs ih =>
    intro db h
    rw [List.foldl_cons]
    exact ih (h.updKey _ _ (fun _ => ⟨rfl, rfl⟩))

/-- `delete from rlist where kid = ? and pos in (…)` with the per-row trigger `rlist_on_delete` -/
theorem listDeleteRows_wf (h : WF db) {kid : Int} (ho : Owner db kid TList) (V : List Dyadic)
    (now : Int) (hnd : V.Nodup) (hex : ∀ v ∈ V, ∃ x ∈ db.lists, x.kid = kid ∧ x.pos = v) :
    WF (listDeleteRows db kid V now) := by
  unfold listDeleteRows
  have hn := count_victims h.uL kid V hnd hex
  have h1 : WFd (fun i => if i = kid then (V.length : Int) else 0)
      { db with lists := db.lists.filter (fun x => !(x.kid == kid && V.contains x.pos)) } := by
    refine WFd.setLists h _ (fun x hx => h.oL x (List.mem_filter.1 hx).1) (h.uL.filter _) ?_
    intro o _
    have := count_remove (·.kid) (fun x : ListRow => V.contains x.pos) db.lists kid o.id
    simp only [cL]
    rw [hn] at this
    omega
  have ho1 : Owner { db with lists := db.lists.filter (fun x => !(x.kid == kid && V.contains x.pos)) }
      kid TList := ho
  refine (listOnDelete_fold V h1 ho1).congr (fun o _ => ?_)
  show (0 : Int) = if o.id = kid then (if o.id = kid then (V.length : Int) else 0) - V.length
    else (if o.id = kid then (V.length : Int) else 0)
  split <;> omega


/-! ### the rows of one list -/

theorem mem_listRows {db : DB} {kid : Int} {x : ListRow} :
    x ∈ listRows db kid ↔ x ∈ db.lists ∧ x.kid = kid := by
  unfold listRows
  rw [mem_sortBy, List.mem_filter]
  simp

theorem listRows_pos_nodup {δ : Int → Int} (h : WFd δ db) (kid : Int) :
    ((listRows db kid).map (·.pos)).Nodup := by
  unfold listRows
  rw [((sortBy_perm _ _).map _).nodup_iff]
  show List.Pairwise _ _
  rw [List.pairwise_map]
  refine (h.uL.filter _).imp_of_mem ?_
  intro a b ha hb hab e
  have ha := (List.mem_filter.1 ha).2
  have hb := (List.mem_filter.1 hb).2
  simp only [beq_iff_eq] at ha hb
  exact hab (by rw [ha, hb, e])

/-- positions taken from a sub-list of (a permutation of) the rows of one list are distinct and
each designates a stored row -/
theorem victims_ok {δ : Int → Int} (h : WFd δ db) {kid : Int} {sub rows' : List ListRow}
    (hs : sub.Sublist rows') (hp : rows'.Perm (listRows db kid)) :
    (sub.map (·.pos)).Nodup ∧ ∀ v ∈ sub.map (·.pos), ∃ x ∈ db.lists, x.kid = kid ∧ x.pos = v := by
  constructor
  · refine List.Nodup.sublist (hs.map _) ?_
    rw [(hp.map _).nodup_iff]
    exact listRows_pos_nodup h kid
  · intro v hv
    obtain ⟨x, hx, rfl⟩ := List.mem_map.1 hv
    have := mem_listRows.1 (hp.subset (hs.subset hx))
    exact ⟨x, this.1, this.2, rfl⟩

/-! ### the methods -/

theorem listPop_wf (h : WF db) (k : Bytes) (front : Bool) (now : Int) :
    WF (listPop db k front now).db := by
  unfold listPop
  split
  · exact h
  · rename_i r hl
    simp only
    split
    · exact h
    · rename_i row hrow
      have hmem : row ∈ listRows db r.id := by
        cases front
        · exact List.mem_of_mem_getLast? (by simpa using hrow)
        · exact List.mem_of_mem_head? (by simpa using hrow)
      have := mem_listRows.1 hmem
      exact listDeleteRows_wf h (liveKeyT_owner hl) [row.pos] now (by simp)
        (fun v hv => by
          rw [List.mem_singleton] at hv; subst hv
          exact ⟨row, this.1, this.2, rfl⟩)

theorem listDelete_wf (h : WF db) (k e : Bytes) (now : Int) : WF (listDelete db k e now).db := by
  unfold listDelete
  split
  · exact h
  · rename_i r hl
    obtain ⟨h1, h2⟩ := victims_ok h (kid := r.id)
      (sub := (listRows db r.id).filter (fun x => x.elem == e)) List.filter_sublist (List.Perm.refl _)
    exact listDeleteRows_wf h (liveKeyT_owner hl) _ now h1 h2

theorem listDeleteN_wf (h : WF db) (k e : Bytes) (n : Int) (back : Bool) (now : Int) :
    WF (listDeleteN db k e n back now).db := by
  unfold listDeleteN
  split
  · exact h
  · split
    · exact h
    · rename_i r hl
      simp only
      cases back
      · obtain ⟨h1, h2⟩ := victims_ok h (kid := r.id)
          (sub := sqlLimit 0 n ((listRows db r.id).filter (fun x => x.elem == e)))
          ((Proofs.Index.sqlLimit_sublist _ _ _).trans List.filter_sublist) (List.Perm.refl _)
        exact listDeleteRows_wf h (liveKeyT_owner hl) _ now h1 h2
      · obtain ⟨h1, h2⟩ := victims_ok h (kid := r.id)
          (sub := sqlLimit 0 n ((listRows db r.id).filter (fun x => x.elem == e)).reverse)
          (rows' := (listRows db r.id).reverse)
          ((Proofs.Index.sqlLimit_sublist _ _ _).trans (List.filter_sublist.reverse)) (List.reverse_perm _)
        exact listDeleteRows_wf h (liveKeyT_owner hl) _ now h1 h2

theorem listTrim_wf (h : WF db) (k : Bytes) (a b now : Int) : WF (listTrim db k a b now).db := by
  unfold listTrim
  split
  · exact h
  · rename_i r hl
    simp only
    split
    · exact h
    · split
      · exact h
      · rename_i keep _
        obtain ⟨h1, h2⟩ := victims_ok h (kid := r.id)
          (sub := (listRows db r.id).filter (fun x => !(keep.map (·.pos)).contains x.pos))
          List.filter_sublist (List.Perm.refl _)
        exact listDeleteRows_wf h (liveKeyT_owner hl) _ now h1 h2

theorem listSet_wf (h : WF db) (k : Bytes) (i : Int) (e : Bytes) (now : Int) :
    WF (listSet db k i e now).db := by
  unfold listSet
  split
  · exact h
  · rename_i r hl
    split
    · exact h
    · rename_i row _
      have h1 : WF (listOnUpdate db r.id now) := by
        have := WFd.updKey h r.id (fun o => { o with version := o.version + 1, mtime := now }) 0
          (fun o _ _ => ⟨rfl, rfl, rfl, by cases o.len <;> simp⟩) (fun _ _ _ _ => rfl)
        exact this.congr (fun o _ => by simp)
      refine WFd.setLists h1 _ ?_ ?_ ?_
      · intro x hx
        obtain ⟨y, hy, rfl⟩ := List.mem_map.1 hx
        have := h1.oL y hy
        split <;> exact this
      · rw [List.pairwise_map]
        refine h1.uL.imp ?_
        intro a b hab
        split <;> split <;> exact hab
      · intro o _
        have : (((listOnUpdate db r.id now).lists.map (fun x : ListRow =>
            if x.kid == r.id && x.pos == row.pos then { x with elem := e } else x)).filter
            (fun x => x.kid == o.id)).length
              = ((listOnUpdate db r.id now).lists.filter (fun x => x.kid == o.id)).length :=
          length_filter_map_kid (fun y : ListRow => y.kid) _
            (fun x : ListRow => by
              show (if x.kid == r.id && x.pos == row.pos then _ else x).kid = x.kid; split <;> rfl)
            _ o.id
        rw [this]; rfl

theorem listPushKey_wf (h : WF db) {k : Bytes} {now : Int} {db1 : DB} {r : KeyRow}
    (he : listPushKey db k now = .ok (db1, r)) :
    WFd (fun i => if i = r.id then 1 else 0) db1 ∧ Owner db1 r.id TList := by
  unfold listPushKey at he
  obtain ⟨d, hd, h1, ho, _⟩ := h.keyUpsert (ty := TList) 1 1 (some 1) (by decide)
    ⟨fun h => absurd h (by decide), fun _ => rfl⟩ (fun h => absurd h (by decide)) he
    (fun _ => ⟨rfl, rfl, rfl, rfl⟩)
    (fun o => ⟨rfl, rfl, rfl, rfl⟩)
  exact ⟨h1.congr (fun o _ => by rcases hd with rfl | rfl <;> rfl), ho⟩

/-- appending one row to a list lowers the excess of its key by one -/
theorem listAppend_gen {δ : Int → Int} {db1 : DB} {kid : Int} (h1 : WFd δ db1)
    (ho : Owner db1 kid TList) (pos : Dyadic) (e : Bytes)
    (hnew : ∀ y ∈ db1.lists, y.kid = kid → y.pos ≠ pos) :
    WFd (fun i => if i = kid then δ i - 1 else δ i)
      { db1 with lists := db1.lists ++ [{ kid := kid, pos := pos, elem := e }] } := by
  refine WFd.setLists h1 _ ?_ ?_ ?_
  · intro x hx
    rcases List.mem_append.1 hx with hx | hx
    · exact h1.oL x hx
    · rw [List.mem_singleton] at hx; subst hx; exact ho
  · refine pairwise_append_one h1.uL _ (fun y hy heq => ?_)
    simp only [Prod.mk.injEq] at heq
    exact hnew y hy heq.1 heq.2
  · intro o _
    have := count_append (fun y : ListRow => y.kid) db1.lists { kid := kid, pos := pos, elem := e } o.id
    simp only [cL] at this ⊢
    omega

/-- appending the row that the already-bumped `len` announces -/
theorem listAppend_wf {db1 : DB} {kid : Int} (h1 : WFd (fun i => if i = kid then 1 else 0) db1)
    (ho : Owner db1 kid TList) (pos : Dyadic) (e : Bytes)
    (hnew : ∀ y ∈ db1.lists, y.kid = kid → y.pos ≠ pos) :
    WF { db1 with lists := db1.lists ++ [{ kid := kid, pos := pos, elem := e }] } :=
  (listAppend_gen h1 ho pos e hnew).congr (fun o _ => by
    show (0 : Int) = if o.id = kid then (if o.id = kid then 1 else 0) - 1 else (if o.id = kid then 1 else 0)
    split <;> omega)

/-- a key row announcing one row more than `rlist` holds is not the invariant -/
theorem not_wf_of_excess {db1 : DB} {kid : Int} (h1 : WFd (fun i => if i = kid then 1 else 0) db1)
    (ho : Owner db1 kid TList) : ¬ WF db1 := by
  intro hw
  obtain ⟨o, hom, hid, hty⟩ := ho
  have a := (h1.cnt o hom).2 (by rw [hty]; decide)
  have b := (hw.cnt o hom).2 (by rw [hty]; decide)
  rw [a] at b
  simp only [hid, if_true, Option.some.injEq] at b
  omega

/-- `push` keeps the invariant exactly when it does not fail on the unique index
(`UNIQUE constraint failed`): there the key row has already been bumped, and only the rollback of the
transaction undoes it -/
theorem listPush_wf_iff (h : WF db) (k e : Bytes) (front : Bool) (now : Int) :
    WF (listPush db k e front now).db ↔ (listPush db k e front now).out ≠ .error .sqlUnique := by
  unfold listPush
  cases hk : listPushKey db k now with
  | error er =>
    have : er = .keyType := keyUpsert_error (by unfold listPushKey at hk; exact hk)
    subst this
    exact ⟨fun _ => nofun, fun _ => h⟩
  | ok p =>
    obtain ⟨db1, r⟩ := p
    obtain ⟨h1, ho1⟩ := listPushKey_wf h hk
    simp only []
    generalize (if front = true then
        (match dyMin ((db1.lists.filter (fun x => x.kid == r.id)).map (·.pos)) with
          | none => (0 : Dyadic) | some m => round53 (m - 1))
      else _) = pos
    split
    · exact ⟨fun hw => absurd hw (not_wf_of_excess h1 ho1), fun hc => absurd rfl hc⟩
    · rename_i hc
      refine ⟨fun _ => nofun, fun _ => listAppend_wf h1 ho1 _ e ?_⟩
      intro y hy hkid hpos
      apply hc
      simp only [List.contains_eq_mem, List.mem_map, List.mem_filter, decide_eq_true_eq]
      exact ⟨y, ⟨hy, by simp [hkid]⟩, hpos⟩

theorem listPush_wf (h : WF db) (k e : Bytes) (front : Bool) (now : Int)
    (hout : (listPush db k e front now).out ≠ .error .sqlUnique) :
    WF (listPush db k e front now).db := (listPush_wf_iff h k e front now).2 hout

theorem listPush_breaks (h : WF db) (k e : Bytes) (front : Bool) (now : Int)
    (hout : (listPush db k e front now).out = .error .sqlUnique) :
    ¬ WF (listPush db k e front now).db := fun hw => (listPush_wf_iff h k e front now).1 hw hout

theorem listPopBackPushFront_wf_iff (h : WF db) (s d : Bytes) (now : Int) :
    WF (listPopBackPushFront db s d now).db ↔
      (listPopBackPushFront db s d now).out ≠ .error .sqlUnique := by
  unfold listPopBackPushFront
  have h1 := listPop_wf h s false now
  have hpop : ∀ er, (listPop db s false now).out = .error er → er = .notFound := by
    intro er he
    unfold listPop at he
    split at he
    · cases he; rfl
    · simp only at he
      split at he
      · cases he; rfl
      · cases he
  generalize listPop db s false now = r at h1 hpop ⊢
  cases hro : r.out with
  | error er =>
    cases hpop er hro
    simp only [hro]
    exact ⟨fun _ => nofun, fun _ => h1⟩
  | ok v =>
    cases v <;> simp only [hro] <;> try exact ⟨fun _ => nofun, fun _ => h1⟩
    rename_i el
    have hp := listPush_wf_iff h1 d el true now
    cases hpo : (listPush r.db d el true now).out with
    | error er =>
      rw [hpo] at hp
      simp only [hpo]
      exact hp
    | ok v =>
      simp only [hpo]
      exact ⟨fun _ => nofun, fun _ => hp.2 (by rw [hpo]; nofun)⟩

theorem listPopBackPushFront_wf (h : WF db) (s d : Bytes) (now : Int)
    (hout : (listPopBackPushFront db s d now).out ≠ .error .sqlUnique) :
    WF (listPopBackPushFront db s d now).db := (listPopBackPushFront_wf_iff h s d now).2 hout

theorem listPopBackPushFront_breaks (h : WF db) (s d : Bytes) (now : Int)
    (hout : (listPopBackPushFront db s d now).out = .error .sqlUnique) :
    ¬ WF (listPopBackPushFront db s d now).db :=
  fun hw => (listPopBackPushFront_wf_iff h s d now).1 hw hout

/-- `insert` (after the repair of D04/D21: find the key, insert next to the pivot, then bump the
key row): every outcome leaves the invariant intact -/
theorem listInsert_wf (h : WF db) (k p e : Bytes) (after : Bool) (now : Int) :
    WF (listInsert db k p e after now).db := by
  generalize hres : listInsert db k p e after now = res
  unfold listInsert at hres
  split at hres
  · subst hres; exact h
  · rename_i r0 hl
    have ho := liveKeyT_owner hl
    simp only at hres
    split at hres
    · subst hres; exact h
    · rename_i pv _
      generalize (if after = true then
          (match dyMin (((listRows db r0.id).filter (fun x => decide (pv < x.pos))).map (·.pos)) with
            | none => round53 (pv + 1) | some nx => mid53 pv nx)
        else _) = newpos at hres
      split at hres
      · subst hres; exact h
      · rename_i hc
        subst hres
        have hnew : ∀ y ∈ db.lists, y.kid = r0.id → y.pos ≠ newpos := by
          intro y hy hkid hpos
          apply hc
          simp only [List.contains_eq_mem, List.mem_map, decide_eq_true_eq]
          exact ⟨y, mem_listRows.2 ⟨hy, hkid⟩, hpos⟩
        have h1 := listAppend_gen h ho newpos e hnew
        have ho1 : Owner { db with lists := db.lists ++ [{ kid := r0.id, pos := newpos, elem := e }] }
            r0.id TList := ho
        exact h1.settle ho1 (by decide) rfl _ (fun o _ _ => ⟨rfl, rfl, rfl, rfl⟩)


end Redka.InvP
