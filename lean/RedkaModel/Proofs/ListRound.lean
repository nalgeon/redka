/-
  Rounding to 53 bits never crosses a double.

  `round53 y` is one of the two neighbours of `y` on the 53-bit grid of its binade, and no
  representable number lies strictly between those neighbours (`no_repr_between`). Hence for every
  representable `z`: `z ≤ y → z ≤ round53 y` and `y ≤ z → round53 y ≤ z`
  (`round53_ge_of_repr_le`, `round53_le_of_repr_ge`). Together with exact halving this gives the
  order facts behind `Spacious`, for positions that are doubles:

    * `m < round53 (m + 1)` unless the sum rounds back to `m` (`push_back_order`);
    * `round53 (m - 1) < m` unless it rounds back to `m` (`push_front_order`);
    * `a < mid53 a b < b` unless the midpoint rounds to `a` or to `b` (`mid_order`);

  i.e. the only way the position arithmetic of `rlist` can go wrong is the collision that the
  unique index on `(kid, pos)` detects. New positions are doubles again (`repr53_round53`,
  `repr53_mid53`).
-/
import RedkaModel.Proofs.ListPos

namespace Redka.ListRound

open Redka Redka.Model Redka.ListOrd Redka.ListPos

/-- a double, exponent range aside: zero, or an odd numerator of at most 53 bits -/
def repr53 : Dyadic → Bool
  | .zero => true
  | .ofOdd n _ _ => decide (natBits n.natAbs ≤ 53)

theorem round53_of_repr {x : Dyadic} (h : repr53 x = true) : round53 x = x := by
  cases x with
  | zero => rfl
  | ofOdd n k hn => exact round53_of_bits n k hn (by simpa [repr53] using h)

theorem repr53_neg (x : Dyadic) : repr53 (-x) = repr53 x := by
  cases x with
  | zero => rfl
  | ofOdd n k hn => rw [Dyadic.neg_ofOdd]; simp [repr53, Int.natAbs_neg]

theorem repr53_zero : repr53 0 = true := rfl

theorem repr53_dyHalf (x : Dyadic) : repr53 (dyHalf x) = repr53 x := by
  cases x <;> rfl

/-- `2 * x`, by decrementing the exponent -/
def dyDouble (x : Dyadic) : Dyadic := x <<< (1 : Int)

theorem repr53_dyDouble (x : Dyadic) : repr53 (dyDouble x) = repr53 x := by
  cases x <;> rfl

theorem dyHalf_dyDouble (x : Dyadic) : dyHalf (dyDouble x) = x := by
  cases x with
  | zero => rfl
  | ofOdd n k hn =>
    show Dyadic.ofOdd n (k - 1 + 1) hn = Dyadic.ofOdd n k hn
    congr 1; omega

theorem dyDouble_eq (x : Dyadic) : dyDouble x = x + x := by
  have := dyHalf_add_self (dyDouble x)
  rw [dyHalf_dyDouble] at this
  exact this.symm

/-! ### powers of two in `Rat` -/

/-- `2 ^ e` for an integer exponent -/
def pw (e : Int) : Rat := (2 : Rat) ^ e

theorem pw_pos (e : Int) : 0 < pw e := Rat.zpow_pos (by decide)
theorem pw_add (a b : Int) : pw (a + b) = pw a * pw b := Rat.zpow_add (by decide) a b
theorem pw_nat (n : Nat) : pw (n : Int) = (((2 : Int) ^ n : Int) : Rat) := by
  unfold pw
  rw [Rat.zpow_natCast, Rat.intCast_pow]
  rfl

theorem int_mul_pw_lt {x y : Int} (e : Int) : (x : Rat) * pw e < (y : Rat) * pw e ↔ x < y := by
  rw [Rat.mul_lt_mul_right (pw_pos e), Rat.intCast_lt_intCast]

theorem int_mul_pw_le {x y : Int} (e : Int) : (x : Rat) * pw e ≤ (y : Rat) * pw e ↔ x ≤ y := by
  rw [← Rat.not_lt, int_mul_pw_lt, Int.not_lt]

/-- a value `m * 2^e` seen on the finer grid `2^(e - d)` -/
theorem mul_pw_shift (m e : Int) (d : Nat) :
    (m : Rat) * pw e = ((m * 2 ^ d : Int) : Rat) * pw (e - d) := by
  have : e = (d : Int) + (e - d) := by omega
  conv => lhs; rw [this, pw_add, pw_nat]
  rw [Rat.intCast_mul, Rat.mul_assoc]

theorem toRat_grid (m p : Int) : (Dyadic.ofIntWithPrec m p).toRat = m * pw (-p) :=
  Dyadic.toRat_ofIntWithPrec_eq_mul_two_pow

theorem toRat_odd (n k : Int) (hn : n % 2 = 1) : (Dyadic.ofOdd n k hn).toRat = n * pw (-k) :=
  Dyadic.toRat_ofOdd_eq_mul_two_pow

/-- grid points are ordered like their numerators -/
theorem grid_le_grid {m₁ m₂ : Int} (p : Int) (h : m₁ ≤ m₂) :
    Dyadic.ofIntWithPrec m₁ p ≤ Dyadic.ofIntWithPrec m₂ p := by
  rw [← Dyadic.toRat_le_toRat_iff, toRat_grid, toRat_grid, int_mul_pw_le]
  exact h

theorem two_le_pow {d : Nat} (hd : 1 ≤ d) : (2 : Int) ≤ 2 ^ d := by
  have := Nat.pow_le_pow_right (by decide : 2 > 0) hd
  have h2 : ((2 ^ 1 : Nat) : Int) ≤ ((2 ^ d : Nat) : Int) := Int.ofNat_le.2 this
  simpa using h2

/-! ### no double between two neighbours of the 53-bit grid -/

theorem no_repr_between (q : Nat) (hq : 2 ^ 52 ≤ q) (p : Int) (z : Dyadic) (hz : repr53 z = true) :
    ¬ (Dyadic.ofIntWithPrec q p < z ∧ z < Dyadic.ofIntWithPrec (q + 1 : Nat) p) := by
  rintro ⟨h1, h2⟩
  rw [← Dyadic.toRat_lt_toRat_iff, toRat_grid] at h1 h2
  cases z with
  | zero =>
    have h0 : (Dyadic.zero).toRat = ((0 : Int) : Rat) * pw (-p) := by
      show (0 : Dyadic).toRat = _
      rw [Dyadic.toRat_zero]; simp
    rw [h0, int_mul_pw_lt] at h1
    omega
  | ofOdd c f hc =>
    have hbits : natBits c.natAbs ≤ 53 := by simpa [repr53] using hz
    have hc53 : c.natAbs < 2 ^ 53 := (natBits_le_iff _ _).1 hbits
    rw [toRat_odd] at h1 h2
    by_cases hfp : f ≤ p
    · obtain ⟨d, hd⟩ : ∃ d : Nat, (d : Int) = p - f := ⟨(p - f).toNat, by omega⟩
      have hz' := mul_pw_shift c (-f) d
      have he : -f - (d : Int) = -p := by omega
      rw [he] at hz'
      rw [hz', int_mul_pw_lt] at h1 h2
      omega
    · obtain ⟨d, hd⟩ : ∃ d : Nat, (d : Int) = f - p := ⟨(f - p).toNat, by omega⟩
      have hlo := mul_pw_shift (q : Int) (-p) d
      have he : -p - (d : Int) = -f := by omega
      rw [he] at hlo
      rw [hlo, int_mul_pw_lt] at h1
      have hd1 : 1 ≤ d := by omega
      have ht := two_le_pow hd1
      have hq' : ((2 : Int) ^ 52) ≤ (q : Int) := by
        have : ((2 ^ 52 : Nat) : Int) ≤ (q : Int) := Int.ofNat_le.2 hq
        simpa using this
      have hprod : (2 : Int) ^ 52 * 2 ≤ (q : Int) * 2 ^ d :=
        Int.mul_le_mul hq' ht (by decide) (by omega)
      omega

/-! ### the shape of `round53` on a number that is not a double -/

/-- the quotient `a >>> sh` of an odd `a` with `53 + sh` bits, `sh ≥ 1` -/
theorem quot_facts (a : Nat) (hodd : a % 2 = 1) (hb : 53 < natBits a) :
    2 ^ 52 ≤ a >>> (natBits a - 53) ∧
    (a >>> (natBits a - 53)) * 2 ^ (natBits a - 53) < a ∧
    a < (a >>> (natBits a - 53) + 1) * 2 ^ (natBits a - 53) := by
  have ha : a ≠ 0 := by intro h; rw [h] at hodd; cases hodd
  have hB : natBits a = a.log2 + 1 := by simp [natBits, ha]
  generalize hsh : natBits a - 53 = sh at *
  have hlog : a.log2 = 52 + sh := by omega
  have hlo := Nat.log2_self_le ha
  rw [hlog] at hlo
  have hpos : 0 < 2 ^ sh := Nat.two_pow_pos sh
  rw [Nat.shiftRight_eq_div_pow]
  have hdm := Nat.div_add_mod a (2 ^ sh)
  have hml := Nat.mod_lt a hpos
  have hsh1 : 1 ≤ sh := by omega
  have hdvd : 2 ∣ 2 ^ sh := by
    obtain ⟨t, ht⟩ : ∃ t, sh = t + 1 := ⟨sh - 1, by omega⟩
    rw [ht, Nat.pow_succ]; exact Nat.dvd_mul_left 2 _
  have hr : a % 2 ^ sh % 2 = a % 2 := Nat.mod_mod_of_dvd a hdvd
  refine ⟨?_, ?_, ?_⟩
  · rw [Nat.le_div_iff_mul_le hpos, ← Nat.pow_add]; exact hlo
  · have : a / 2 ^ sh * 2 ^ sh = 2 ^ sh * (a / 2 ^ sh) := Nat.mul_comm _ _
    omega
  · have : (a / 2 ^ sh + 1) * 2 ^ sh = 2 ^ sh * (a / 2 ^ sh) + 2 ^ sh := by
      rw [Nat.add_mul, Nat.one_mul, Nat.mul_comm]
    omega

theorem round53_pos_form (n k : Int) (hn : n % 2 = 1) (hpos : 0 < n) (hb : 53 < natBits n.natAbs) :
    round53 (.ofOdd n k hn)
        = Dyadic.ofIntWithPrec ((n.natAbs >>> (natBits n.natAbs - 53) : Nat) : Int)
            (k - ((natBits n.natAbs - 53 : Nat) : Int)) ∨
    round53 (.ofOdd n k hn)
        = Dyadic.ofIntWithPrec ((n.natAbs >>> (natBits n.natAbs - 53) + 1 : Nat) : Int)
            (k - ((natBits n.natAbs - 53 : Nat) : Int)) := by
  have hnb : ¬ natBits n.natAbs ≤ 53 := by omega
  have hnn : ¬ n < 0 := by omega
  simp only [round53, hnb, if_false, hnn]
  split
  · exact Or.inr rfl
  · exact Or.inl rfl

theorem round53_neg (x : Dyadic) : round53 (-x) = -round53 x := by
  cases x with
  | zero => rfl
  | ofOdd n k hn =>
    rw [Dyadic.neg_ofOdd]
    by_cases hb : natBits n.natAbs ≤ 53
    · rw [round53_of_bits _ _ _ (by rw [Int.natAbs_neg]; exact hb), round53_of_bits _ _ _ hb,
        Dyadic.neg_ofOdd]
    · simp only [round53, Int.natAbs_neg, hb, if_false]
      rw [Dyadic.neg_ofIntWithPrec]
      congr 1
      by_cases hlt : n < 0
      · have : ¬ -n < 0 := by omega
        simp only [hlt, this, if_true, if_false, Int.neg_neg]
      · have : -n < 0 := by omega
        simp only [hlt, this, if_true, if_false]

/-- a positive number that is not a double lies strictly between its two neighbours on the
53-bit grid, and `round53` picks one of them -/
theorem bracket (n k : Int) (hn : n % 2 = 1) (hpos : 0 < n) (hb : 53 < natBits n.natAbs) :
    ∃ (q : Nat) (p : Int), 2 ^ 52 ≤ q ∧
      Dyadic.ofIntWithPrec q p < .ofOdd n k hn ∧
      Dyadic.ofOdd n k hn < Dyadic.ofIntWithPrec (q + 1 : Nat) p ∧
      (round53 (.ofOdd n k hn) = Dyadic.ofIntWithPrec q p ∨
        round53 (.ofOdd n k hn) = Dyadic.ofIntWithPrec (q + 1 : Nat) p) := by
  have hodd : n.natAbs % 2 = 1 := by omega
  obtain ⟨hq, hlo, hhi⟩ := quot_facts n.natAbs hodd hb
  refine ⟨n.natAbs >>> (natBits n.natAbs - 53), k - ((natBits n.natAbs - 53 : Nat) : Int), hq, ?_, ?_,
    round53_pos_form n k hn hpos hb⟩
  · rw [← Dyadic.toRat_lt_toRat_iff, toRat_grid, toRat_odd,
      mul_pw_shift _ _ (natBits n.natAbs - 53)]
    have he : -(k - ((natBits n.natAbs - 53 : Nat) : Int)) - ((natBits n.natAbs - 53 : Nat) : Int) = -k := by
      omega
    rw [he, int_mul_pw_lt]
    have : ((n.natAbs >>> (natBits n.natAbs - 53) * 2 ^ (natBits n.natAbs - 53) : Nat) : Int)
        < (n.natAbs : Int) := Int.ofNat_lt.2 hlo
    have hn' : (n.natAbs : Int) = n := by omega
    rw [hn'] at this
    simpa using this
  · rw [← Dyadic.toRat_lt_toRat_iff, toRat_grid, toRat_odd,
      mul_pw_shift _ (-(k - _)) (natBits n.natAbs - 53)]
    have he : -(k - ((natBits n.natAbs - 53 : Nat) : Int)) - ((natBits n.natAbs - 53 : Nat) : Int) = -k := by
      omega
    rw [he, int_mul_pw_lt]
    have : (n.natAbs : Int)
        < (((n.natAbs >>> (natBits n.natAbs - 53) + 1) * 2 ^ (natBits n.natAbs - 53) : Nat) : Int) :=
      Int.ofNat_lt.2 hhi
    have hn' : (n.natAbs : Int) = n := by omega
    rw [hn'] at this
    simpa using this

/-! ### rounding never crosses a double -/

theorem round53_ge_of_repr_le_pos (n k : Int) (hn : n % 2 = 1) (hpos : 0 < n)
    (hb : 53 < natBits n.natAbs) {z : Dyadic} (hz : repr53 z = true) (h : z ≤ .ofOdd n k hn) :
    z ≤ round53 (.ofOdd n k hn) := by
  obtain ⟨q, p, hq, hlo, hhi, hr⟩ := bracket n k hn hpos hb
  have hge : Dyadic.ofIntWithPrec q p ≤ round53 (.ofOdd n k hn) := by
    rcases hr with hr | hr <;> rw [hr]
    · exact Dyadic.le_refl _
    · exact grid_le_grid p (by omega)
  by_cases hzl : z ≤ Dyadic.ofIntWithPrec q p
  · exact Dyadic.le_trans hzl hge
  · exact absurd ⟨Dyadic.not_lt.1 hzl, dy_lt_of_le_of_lt h hhi⟩ (no_repr_between q hq p z hz)

theorem round53_le_of_repr_ge_pos (n k : Int) (hn : n % 2 = 1) (hpos : 0 < n)
    (hb : 53 < natBits n.natAbs) {z : Dyadic} (hz : repr53 z = true) (h : Dyadic.ofOdd n k hn ≤ z) :
    round53 (.ofOdd n k hn) ≤ z := by
  obtain ⟨q, p, hq, hlo, hhi, hr⟩ := bracket n k hn hpos hb
  have hle : round53 (.ofOdd n k hn) ≤ Dyadic.ofIntWithPrec (q + 1 : Nat) p := by
    rcases hr with hr | hr <;> rw [hr]
    · exact grid_le_grid p (by omega)
    · exact Dyadic.le_refl _
  by_cases hzh : Dyadic.ofIntWithPrec (q + 1 : Nat) p ≤ z
  · exact Dyadic.le_trans hle hzh
  · exact absurd ⟨dy_lt_of_lt_of_le hlo h, Dyadic.not_lt.1 hzh⟩ (no_repr_between q hq p z hz)

theorem neg_le_neg_iff' {a b : Dyadic} : -a ≤ -b ↔ b ≤ a := by
  constructor <;> intro h <;> grind

/-- rounding does not go below a double that the exact value does not go below -/
theorem round53_ge_of_repr_le {z y : Dyadic} (hz : repr53 z = true) (h : z ≤ y) : z ≤ round53 y := by
  cases y with
  | zero => exact h
  | ofOdd n k hn =>
    by_cases hb : natBits n.natAbs ≤ 53
    · rw [round53_of_bits n k hn hb]; exact h
    · by_cases hpos : 0 < n
      · exact round53_ge_of_repr_le_pos n k hn hpos (by omega) hz h
      · have hneg : 0 < -n := by omega
        have hn' : -n % 2 = 1 := by omega
        have hneq : Dyadic.ofOdd (-n) k hn' = -Dyadic.ofOdd n k hn := rfl
        have h' : Dyadic.ofOdd (-n) k hn' ≤ -z := by
          rw [hneq]; exact neg_le_neg_iff'.2 h
        have := round53_le_of_repr_ge_pos (-n) k hn' hneg
          (by rw [Int.natAbs_neg]; omega) (by rw [repr53_neg]; exact hz) h'
        rw [hneq, round53_neg] at this
        exact neg_le_neg_iff'.1 this

/-- rounding does not go above a double that the exact value does not go above -/
theorem round53_le_of_repr_ge {z y : Dyadic} (hz : repr53 z = true) (h : y ≤ z) : round53 y ≤ z := by
  have h' : -z ≤ -y := neg_le_neg_iff'.2 h
  have := round53_ge_of_repr_le (by rw [repr53_neg]; exact hz) h'
  rw [round53_neg] at this
  exact neg_le_neg_iff'.1 this

/-! ### the result of rounding is a double -/

theorem repr53_grid (m p : Int) (h : m.natAbs ≤ 2 ^ 53) : repr53 (Dyadic.ofIntWithPrec m p) = true := by
  unfold Dyadic.ofIntWithPrec
  split
  · rfl
  · rename_i hm
    have hodd := Int.shiftRight_trailingZeros_mod_two hm
    simp only [repr53, decide_eq_true_eq, natBits_le_iff]
    have hle : (m >>> m.trailingZeros).natAbs ≤ m.natAbs := by
      rw [Int.shiftRight_eq_div_pow]; exact Int.natAbs_ediv_le_natAbs _ _
    have hne : (m >>> m.trailingZeros).natAbs ≠ 2 ^ 53 := by
      intro he
      have : (m >>> m.trailingZeros).natAbs % 2 = 1 := by omega
      rw [he] at this
      cases this
    omega

theorem repr53_round53 (x : Dyadic) : repr53 (round53 x) = true := by
  cases x with
  | zero => rfl
  | ofOdd n k hn =>
    by_cases hb : natBits n.natAbs ≤ 53
    · rw [round53_of_bits n k hn hb]; simpa [repr53] using hb
    · have hodd : n.natAbs % 2 = 1 := by omega
      obtain ⟨_, hlo, _⟩ := quot_facts n.natAbs hodd (by omega)
      have hlt : n.natAbs < 2 ^ natBits n.natAbs := by
        have hne : n.natAbs ≠ 0 := by omega
        simp only [natBits, hne, if_false]
        exact Nat.lt_log2_self
      have hq53 : n.natAbs >>> (natBits n.natAbs - 53) < 2 ^ 53 := by
        rw [Nat.shiftRight_eq_div_pow, Nat.div_lt_iff_lt_mul (Nat.two_pow_pos _), ← Nat.pow_add]
        have : 53 + (natBits n.natAbs - 53) = natBits n.natAbs := by omega
        rw [this]; exact hlt
      simp only [round53, hb, if_false]
      apply repr53_grid
      have hq' : ∀ c : Bool, (if c = true then n.natAbs >>> (natBits n.natAbs - 53) + 1
          else n.natAbs >>> (natBits n.natAbs - 53)) ≤ 2 ^ 53 := by
        intro c; split <;> omega
      split <;> simp only [Int.natAbs_neg, Int.natAbs_natCast] <;> exact hq' _

theorem repr53_mid53 (a b : Dyadic) : repr53 (mid53 a b) = true := by
  unfold mid53
  rw [repr53_dyHalf]; exact repr53_round53 _

/-! ### the order facts -/

/-- `max + 1`: beyond `max`, unless it rounds back to `max` -/
theorem push_back_order {m : Dyadic} (hm : repr53 m = true) (hne : round53 (m + 1) ≠ m) :
    m < round53 (m + 1) :=
  dy_lt_of_le_of_ne (round53_ge_of_repr_le hm (dy_le_of_lt (dy_lt_add_one m))) (Ne.symm hne)

/-- `min - 1`: below `min`, unless it rounds back to `min` -/
theorem push_front_order {m : Dyadic} (hm : repr53 m = true) (hne : round53 (m - 1) ≠ m) :
    round53 (m - 1) < m :=
  dy_lt_of_le_of_ne (round53_le_of_repr_ge hm (dy_le_of_lt (dy_sub_one_lt m))) hne

theorem dyHalf_le_dyHalf {x y : Dyadic} (h : x ≤ y) : dyHalf x ≤ dyHalf y := by
  have h1 := dyHalf_add_self x
  have h2 := dyHalf_add_self y
  grind

/-- `(a + b) / 2`: strictly between, unless it rounds to one of the two -/
theorem mid_order {a b : Dyadic} (ha : repr53 a = true) (hb : repr53 b = true) (hab : a < b)
    (hna : mid53 a b ≠ a) (hnb : mid53 a b ≠ b) : a < mid53 a b ∧ mid53 a b < b := by
  have h1 : dyDouble a ≤ a + b := by rw [dyDouble_eq]; grind
  have h2 : a + b ≤ dyDouble b := by rw [dyDouble_eq]; grind
  have h3 := round53_ge_of_repr_le (by rw [repr53_dyDouble]; exact ha) h1
  have h4 := round53_le_of_repr_ge (by rw [repr53_dyDouble]; exact hb) h2
  have h5 := dyHalf_le_dyHalf h3
  have h6 := dyHalf_le_dyHalf h4
  rw [dyHalf_dyDouble] at h5 h6
  exact ⟨dy_lt_of_le_of_ne h5 (Ne.symm hna), dy_lt_of_le_of_ne h6 hnb⟩

/-! ### `Spacious` for tables whose positions are doubles -/

/-- every stored position is a double -/
def PosRepr (L : List ListRow) : Prop := ∀ x ∈ L, repr53 x.pos = true

theorem pushRoom_of_repr (L : List ListRow) (kid : Int) (front : Bool) (hr : PosRepr L)
    (hnc : ((L.filter (fun x => x.kid == kid)).map (·.pos)).contains (pushPos L kid front) = false) :
    pushRoom L kid front = true := by
  have hrepr : ∀ m ∈ (L.filter (fun x => x.kid == kid)).map (·.pos), repr53 m = true := by
    intro m hm
    obtain ⟨y, hy, rfl⟩ := List.mem_map.1 hm
    exact hr y (List.mem_filter.1 hy).1
  rw [List.contains_eq_mem, decide_eq_false_iff_not] at hnc
  apply pushRoom_of_order
  · rintro rfl m hm
    have hmem := (dyMin_spec hm).1
    have hp : pushPos L kid true = round53 (m - 1) := by simp only [pushPos, hm, if_true]
    exact push_front_order (hrepr m hmem) (fun he => hnc (by rw [hp, he]; exact hmem))
  · rintro rfl m hm
    have hmem := (dyMax_spec hm).1
    have hp : pushPos L kid false = round53 (m + 1) := by
      simp only [pushPos, hm, Bool.false_eq_true, if_false]
    exact push_back_order (hrepr m hmem) (fun he => hnc (by rw [hp, he]; exact hmem))

theorem insertRoom_of_repr (rows : List ListRow) (p : Bytes) (after : Bool) (hr : PosRepr rows)
    (hnc : ∀ np, insertPos rows p after = some np → np ∉ rows.map (·.pos)) :
    insertRoom rows p after = true := by
  have hrepr : ∀ pos ∈ rows.map (·.pos), repr53 pos = true := by
    intro pos hpos
    obtain ⟨x, hx, rfl⟩ := List.mem_map.1 hpos
    exact hr x hx
  apply insertRoom_of_order
  intro pv np hpv hnp
  have hfresh := hnc np hnp
  have hpvmem : pv ∈ rows.map (·.pos) := by
    obtain ⟨x, hx, hxp⟩ := List.mem_map.1 (dyMin_spec hpv).1
    exact List.mem_map.2 ⟨x, (List.mem_filter.1 hx).1, hxp⟩
  simp only [insertPos, hpv, Option.some.injEq] at hnp
  subst hnp
  cases after with
  | true =>
    simp only [if_true] at hfresh ⊢
    cases hm : dyMin ((rows.filter (fun x => decide (pv < x.pos))).map (·.pos)) with
    | none =>
      simp only [hm] at hfresh
      exact ⟨push_back_order (hrepr pv hpvmem) (fun he => hfresh (by rw [he]; exact hpvmem)),
        fun _ hc => by cases hc⟩
    | some nx =>
      simp only [hm] at hfresh
      obtain ⟨hlt, hnxmem⟩ := dyMin_next hm
      have hb := mid_order (hrepr pv hpvmem) (hrepr nx hnxmem) hlt
        (fun he => hfresh (by rw [he]; exact hpvmem)) (fun he => hfresh (by rw [he]; exact hnxmem))
      exact ⟨hb.1, fun _ hc => by cases hc; exact hb.2⟩
  | false =>
    simp only [Bool.false_eq_true, if_false] at hfresh ⊢
    cases hm : dyMax ((rows.filter (fun x => decide (x.pos < pv))).map (·.pos)) with
    | none =>
      simp only [hm] at hfresh
      exact ⟨push_front_order (hrepr pv hpvmem) (fun he => hfresh (by rw [he]; exact hpvmem)),
        fun _ hc => by cases hc⟩
    | some pr =>
      simp only [hm] at hfresh
      obtain ⟨hlt, hprmem⟩ := dyMax_prev hm
      have hb := mid_order (hrepr pr hprmem) (hrepr pv hpvmem) hlt
        (fun he => hfresh (by rw [he]; exact hprmem)) (fun he => hfresh (by rw [he]; exact hpvmem))
      exact ⟨hb.2, fun _ hc => by cases hc; exact hb.1⟩

/-- the position a push computes is a double -/
theorem repr53_pushPos (L : List ListRow) (kid : Int) (front : Bool) :
    repr53 (pushPos L kid front) = true := by
  unfold pushPos
  simp only []
  cases front with
  | true =>
    simp only [if_true]
    split
    · rfl
    · exact repr53_round53 _
  | false =>
    simp only [Bool.false_eq_true, if_false]
    split
    · rfl
    · exact repr53_round53 _

/-- the position an insert computes is a double -/
theorem repr53_insertPos {rows : List ListRow} {p : Bytes} {after : Bool} {np : Dyadic}
    (h : insertPos rows p after = some np) : repr53 np = true := by
  unfold insertPos at h
  split at h
  · cases h
  · simp only [Option.some.injEq] at h
    subst h
    cases after with
    | true =>
      simp only [if_true]
      split
      · exact repr53_round53 _
      · exact repr53_mid53 _ _
    | false =>
      simp only [Bool.false_eq_true, if_false]
      split
      · exact repr53_round53 _
      · exact repr53_mid53 _ _

/-! ### every list operation keeps the stored positions doubles -/

/-- every position stored in `rlist` is a double (what the `real` column can hold) -/
def Representable (db : DB) : Prop := PosRepr db.lists

theorem listDeleteRows_repr {db : DB} (h : Representable db) (kid : Int) (V : List Dyadic) (now : Int) :
    Representable (listDeleteRows db kid V now) := by
  rw [listDeleteRows_eq]
  intro x hx
  exact h x (List.mem_filter.1 hx).1

theorem listPop_repr {db : DB} (h : Representable db) (k : Bytes) (front : Bool) (now : Int) :
    Representable (listPop db k front now).db := by
  unfold listPop
  split
  · exact h
  · simp only []
    split
    · exact h
    · exact listDeleteRows_repr h _ _ _

theorem listDelete_repr {db : DB} (h : Representable db) (k e : Bytes) (now : Int) :
    Representable (listDelete db k e now).db := by
  unfold listDelete
  split
  · exact h
  · exact listDeleteRows_repr h _ _ _

theorem listDeleteN_repr {db : DB} (h : Representable db) (k e : Bytes) (n : Int) (back : Bool)
    (now : Int) : Representable (listDeleteN db k e n back now).db := by
  unfold listDeleteN
  split
  · exact h
  · split
    · exact h
    · exact listDeleteRows_repr h _ _ _

theorem listTrim_repr {db : DB} (h : Representable db) (k : Bytes) (a b : Int) (now : Int) :
    Representable (listTrim db k a b now).db := by
  unfold listTrim
  split
  · exact h
  · simp only []
    split
    · exact h
    · split
      · exact h
      · exact listDeleteRows_repr h _ _ _

theorem listSet_repr {db : DB} (h : Representable db) (k : Bytes) (i : Int) (e : Bytes) (now : Int) :
    Representable (listSet db k i e now).db := by
  unfold listSet
  split
  · exact h
  · simp only []
    split
    · exact h
    · intro x hx
      simp only [Res.ok] at hx
      obtain ⟨y, hy, rfl⟩ := List.mem_map.1 hx
      have hy' : y ∈ db.lists := hy
      split
      · exact h y hy'
      · exact h y hy'

theorem listPushKey_lists {db db1 : DB} {k : Bytes} {now : Int} {r : KeyRow}
    (h : listPushKey db k now = .ok (db1, r)) : db1.lists = db.lists := by
  unfold listPushKey keyUpsert at h
  split at h
  · cases h; rfl
  · split at h
    · cases h; rfl
    · cases h

theorem listPush_repr {db : DB} (h : Representable db) (k e : Bytes) (front : Bool) (now : Int) :
    Representable (listPush db k e front now).db := by
  rw [listPush_eq]
  cases hk : listPushKey db k now with
  | error er => exact h
  | ok p =>
    obtain ⟨db1, r⟩ := p
    have hl := listPushKey_lists hk
    simp only []
    split
    · intro x hx
      have hx' : x ∈ db1.lists := hx
      rw [hl] at hx'; exact h x hx'
    · intro x hx
      simp only [Res.ok] at hx
      rcases List.mem_append.1 hx with hx | hx
      · rw [hl] at hx; exact h x hx
      · have : x = { kid := r.id, pos := pushPos db1.lists r.id front, elem := e } := by simpa using hx
        rw [this]; exact repr53_pushPos _ _ _

theorem listInsert_repr {db : DB} (h : Representable db) (k p e : Bytes) (after : Bool) (now : Int) :
    Representable (listInsert db k p e after now).db := by
  rw [listInsert_eq]
  split
  · exact h
  · rename_i r0 _
    cases hnp : insertPos (listRows db r0.id) p after with
    | none => exact h
    | some np =>
      simp only []
      split
      · exact h
      · intro x hx
        simp only [Res.ok] at hx
        have hx' : x ∈ db.lists ++ [{ kid := r0.id, pos := np, elem := e }] := hx
        rcases List.mem_append.1 hx' with hx' | hx'
        · exact h x hx'
        · have : x = { kid := r0.id, pos := np, elem := e } := by simpa using hx'
          rw [this]; exact repr53_insertPos hnp

theorem listPopBackPushFront_repr {db : DB} (h : Representable db) (s d : Bytes) (now : Int) :
    Representable (listPopBackPushFront db s d now).db := by
  have h1 := listPop_repr h s false now
  unfold listPopBackPushFront
  simp only []
  split
  · exact h1
  · rename_i el _
    have h2 := listPush_repr h1 d el true now
    split
    · exact h2
    · exact h2
  · exact h1

end Redka.ListRound
