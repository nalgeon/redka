/-
  Each operation of `internal/rhash` against its specification (`Refines`), and the preservation
  of the invariant part `HWF`. The model's guarded reads are reads of `hashAt (abs now db) k`
  (`hashAt_abs`, `hashGetRaw_abs`, `hashCountRaw_abs`). The five writes that go through `tx.set`
  share one case analysis of the name (`setTx_cases`: a key of another type, or `Writable`) and, on
  a writable name, one equation each for what the specification does (`hashSet_writable`, …), the
  free name being the empty hash without expiry. `Delete` has its own statement pair.
-/
import RedkaModel.Proofs.HashRef
import RedkaModel.Proofs.HashSteps

namespace Redka.HashRef

open Redka Redka.Model Redka.Spec Redka.DB Redka.Scan

/-- "keys that are missing or hold another type" read as the empty map, on both sides -/
theorem hashAt_abs {db : DB} (hw : db.WF) (now : Int) (k : Bytes) :
    hashAt (abs now db) k
      = match db.liveKeyT k THash now with
        | none => []
        | some r => hview db.hashes r.id := by
  rcases hholder hw now k with ⟨_, hg, hk⟩ | ⟨_, _, _, hg, hk⟩ | ⟨r, _, _, _, hg, hk⟩ |
    ⟨r, v, _, _, _, hg, hv, hk⟩
  · simp [hashAt, hg, hk]
  · simp [hashAt, hg, hk]
  · simp [hashAt, hg, hk]
  · rw [(hashOps_other hg hv).1, hk]

theorem hashGetRaw_some {db : DB} {k : Bytes} {now : Int} {r : KeyRow}
    (hk : db.liveKeyT k THash now = some r) (f : Bytes) :
    hashGetRaw db k f now = hfind db.hashes r.id f := by
  simp [hashGetRaw, hk, hfind]

theorem hashGetRaw_none {db : DB} {k : Bytes} {now : Int} (hk : db.liveKeyT k THash now = none)
    (f : Bytes) : hashGetRaw db k f now = none := by
  simp [hashGetRaw, hk]

theorem hashCountRaw_some {db : DB} {k : Bytes} {now : Int} {r : KeyRow}
    (hk : db.liveKeyT k THash now = some r) (fs : List Bytes) :
    hashCountRaw db k fs now
      = ((db.hashes.filter (fun x => x.kid == r.id && fs.contains x.field)).length : Int) := by
  simp [hashCountRaw, hk]

theorem hashCountRaw_none {db : DB} {k : Bytes} {now : Int} (hk : db.liveKeyT k THash now = none)
    (fs : List Bytes) : hashCountRaw db k fs now = 0 := by
  simp [hashCountRaw, hk]

theorem hashGetRaw_abs {db : DB} (hw : HWF db) (now : Int) (k f : Bytes) :
    hashGetRaw db k f now = aget (hashAt (abs now db) k) f := by
  rw [hashAt_abs hw.wf]
  cases hk : db.liveKeyT k THash now with
  | none => exact hashGetRaw_none hk f
  | some r => rw [hashGetRaw_some hk, aget_hview hw.pairs]

/-- `sqlCount` counts the listed (distinct) fields that the map has -/
theorem hashCountRaw_abs {db : DB} (hw : HWF db) (now : Int) (k : Bytes) {fs : List Bytes}
    (hfs : fs.Nodup) :
    hashCountRaw db k fs now
      = ((fs.filter (fun f => (aget (hashAt (abs now db) k) f).isSome)).length : Int) := by
  rw [hashAt_abs hw.wf]
  cases hk : db.liveKeyT k THash now with
  | none =>
    rw [hashCountRaw_none hk]
    exact congrArg (fun l : List Bytes => (l.length : Int))
      (List.filter_eq_nil_iff.2 (fun _ _ => Bool.false_ne_true)).symm
  | some r => simp only [hashCountRaw_some hk, count_listed hw.pairs r.id hfs, aget_hview hw.pairs]

theorem hashCountRaw_one {db : DB} (hw : HWF db) (now : Int) (k f : Bytes) :
    hashCountRaw db k [f] now = if (aget (hashAt (abs now db) k) f).isSome then 1 else 0 := by
  rw [hashCountRaw_abs hw now k (List.nodup_cons.2 ⟨List.not_mem_nil, List.nodup_nil⟩),
    List.filter_cons, List.filter_nil]
  split <;> rfl

theorem liveRows_view {db : DB} (hw : db.WF) (now : Int) (k : Bytes) :
    (hashLiveRows db k now).map (fun x => (x.field, x.value)) = hashAt (abs now db) k := by
  rw [hashAt_abs hw]
  unfold hashLiveRows
  cases db.liveKeyT k THash now <;> rfl

theorem hashItems_refines {db : DB} (hw : db.WF) (now : Int) (k : Bytes) :
    Refines now (Model.hashItems db k now) (Spec.ok (.list ((hashAt (abs now db) k).map Spec.pairVal))
      (abs now db)) := by
  refine ⟨?_, (purge_abs hw.names now).symm⟩
  simp only [Model.hashItems, Res.ok, Spec.ok, ← liveRows_view hw now k, List.map_map]
  rfl

theorem hashFields_refines {db : DB} (hw : db.WF) (now : Int) (k : Bytes) :
    Refines now (Model.hashFields db k now)
      (Spec.ok (Spec.bytesList ((hashAt (abs now db) k).map (·.1))) (abs now db)) := by
  refine ⟨?_, (purge_abs hw.names now).symm⟩
  simp only [Model.hashFields, Res.ok, Spec.ok, Spec.bytesList, ← liveRows_view hw now k, List.map_map]
  rfl

theorem hashValues_refines {db : DB} (hw : db.WF) (now : Int) (k : Bytes) :
    Refines now (Model.hashValues db k now)
      (Spec.ok (Spec.bytesList (sortBy bytesLt ((hashAt (abs now db) k).map (·.2)))) (abs now db)) := by
  refine ⟨?_, (purge_abs hw.names now).symm⟩
  simp only [Model.hashValues, Res.ok, Spec.ok, Spec.bytesList, ← liveRows_view hw now k, List.map_map]
  rfl

theorem hashGetMany_refines {db : DB} (hw : db.WF) (now : Int) (k : Bytes) (fs : List Bytes) :
    Refines now (Model.hashGetMany db k fs now)
      (Spec.ok (.list (((hashAt (abs now db) k).filter (fun p => fs.contains p.1)).map Spec.pairVal))
        (abs now db)) := by
  refine ⟨?_, (purge_abs hw.names now).symm⟩
  simp only [Model.hashGetMany, Res.ok, Spec.ok, ← liveRows_view hw now k, List.filter_map, List.map_map]
  rfl

theorem hashGet_refines {db : DB} (hw : HWF db) (now : Int) (k f : Bytes) :
    Refines now (Model.hashGet db k f now) (Spec.hashGet (abs now db) k f) := by
  unfold Refines Model.hashGet Spec.hashGet
  rw [hashGetRaw_abs hw]
  cases aget (hashAt (abs now db) k) f <;> exact ⟨rfl, (purge_abs hw.wf.names now).symm⟩

theorem hashExists_refines {db : DB} (hw : HWF db) (now : Int) (k f : Bytes) :
    Refines now (Model.hashExists db k f now)
      (Spec.ok (.bool (aget (hashAt (abs now db) k) f).isSome) (abs now db)) := by
  unfold Refines Model.hashExists
  rw [hashCountRaw_one hw]
  cases (aget (hashAt (abs now db) k) f).isSome <;> exact ⟨rfl, (purge_abs hw.wf.names now).symm⟩

theorem hashLen_refines {db : DB} (hw : HWF db) (now : Int) (k : Bytes) :
    Refines now (Model.hashLen db k now)
      (Spec.ok (.int (hashAt (abs now db) k).length) (abs now db)) := by
  unfold Refines Model.hashLen
  rw [hashAt_abs hw.wf]
  cases hk : db.liveKeyT k THash now with
  | none => exact ⟨rfl, (purge_abs hw.wf.names now).symm⟩
  | some r =>
    obtain ⟨hf, ht, _⟩ := (liveKeyT_eq_some_iff hw.wf.names).1 hk
    simp only [hw.len r (findKey_mem hf).1 ht, length_hview]
    exact ⟨rfl, (purge_abs hw.wf.names now).symm⟩

/-- the name `k` can be written as a hash: it is free (`h = []`, no expiry) or holds the hash `h` -/
def Writable (s : State) (k : Bytes) (h : List (Bytes × Bytes)) (et : Option Int) : Prop :=
  (get s k = none ∧ h = [] ∧ et = none) ∨ get s k = some ⟨.hash h, et⟩

theorem Writable.hashAt {s : State} {k : Bytes} {h : List (Bytes × Bytes)} {et : Option Int}
    (hwr : Writable s k h et) : hashAt s k = h := by
  rcases hwr with ⟨hg, rfl, _⟩ | hg <;> simp [Spec.hashAt, hg]

section writable

variable {s : State} {k : Bytes} {h : List (Bytes × Bytes)} {et : Option Int} (hwr : Writable s k h et)
include hwr

theorem hashSet_writable (f v : Bytes) :
    Spec.hashSet s k f v = ok (.bool (aget h f).isNone) (put s k ⟨.hash (aput h f v), et⟩) := by
  unfold Spec.hashSet
  rcases hwr with ⟨hg, rfl, rfl⟩ | hg <;> rw [hg] <;> rfl

theorem hashSetNX_writable (f v : Bytes) :
    Spec.hashSetNX s k f v
      = if (aget h f).isSome then ok (.bool false) s
        else ok (.bool true) (put s k ⟨.hash (aput h f v), et⟩) := by
  unfold Spec.hashSetNX
  rcases hwr with ⟨hg, rfl, rfl⟩ | hg <;> rw [hg] <;> rfl

theorem hashIncr_writable (f : Bytes) (d : Int) :
    Spec.hashIncr s k f d
      = match valueInt ((aget h f).getD []) with
        | none => er .valueType s
        | some n => ok (.int (n + d)) (put s k ⟨.hash (aput h f (itoa (n + d))), et⟩) := by
  unfold Spec.hashIncr
  rcases hwr with ⟨hg, rfl, rfl⟩ | hg <;> rw [hg]
  · show _ = ok (.int (0 + d)) (put s k ⟨.hash [(f, itoa (0 + d))], none⟩)
    rw [Int.zero_add]
  · rfl

theorem hashIncrFloat_writable (f : Bytes) (d : Dyadic) :
    Spec.hashIncrFloat s k f d
      = match valueFloat ((aget h f).getD []) with
        | .invalid => er .valueType s
        | .unknown => skip s
        | .val x =>
          match formatFloatDec (f64add x d) with
          | none => skip s
          | some txt => ok (.score (.fin (f64add x d))) (put s k ⟨.hash (aput h f txt), et⟩) := by
  unfold Spec.hashIncrFloat
  rcases hwr with ⟨hg, rfl, rfl⟩ | hg <;> rw [hg] <;> rfl

theorem hashSetMany_writable {items : List (Bytes × Bytes)} (hne : items.isEmpty = false) :
    Spec.hashSetMany s k items
      = ok (.int (items.filter (fun p => (aget h p.1).isNone)).length)
          (put s k ⟨.hash (items.foldl (fun acc p => aput acc p.1 p.2) h), et⟩) := by
  unfold Spec.hashSetMany
  rw [hne]
  rcases hwr with ⟨hg, rfl, rfl⟩ | hg <;> simp only [hg, Bool.false_eq_true, if_false]
  rw [show items.filter (fun p => (aget ([] : List (Bytes × Bytes)) p.1).isNone) = items from
    List.filter_eq_self.2 (fun _ _ => rfl)]

end writable

theorem setTx_absent {db : DB} (hw : HWF db) {k : Bytes} (h : db.findKey k = none) (f v : Bytes)
    (now : Int) :
    ∃ db2, hashSetTx db k f v now = .ok db2 ∧ HWF db2 ∧
      abs now db2 = put (abs now db) k ⟨.hash [(f, v)], none⟩ := by
  obtain ⟨db2, r2, he, hw2, het, hwr⟩ := hashSetTx_new hw h f v now
  refine ⟨db2, he, hw2, ?_⟩
  rw [hwr.abs hw.wf.names hw2.wf.names now, het]
  exact purge_put_live (sorted_abs hw.wf.names now) (purge_abs hw.wf.names now) k rfl

/-- on a visible hash the write needs no `purge` -/
theorem setTx_visible {db : DB} (hw : HWF db) {now : Int} {k : Bytes} {h : List (Bytes × Bytes)}
    {et : Option Int} (hg : get (abs now db) k = some ⟨.hash h, et⟩) (f v : Bytes) :
    ∃ db2, hashSetTx db k f v now = .ok db2 ∧ HWF db2 ∧
      abs now db2 = put (abs now db) k ⟨.hash (aput h f v), et⟩ := by
  rcases hholder hw.wf now k with ⟨_, hg', _⟩ | ⟨_, _, _, hg', _⟩ | ⟨r, hf, hl, ht, hg', _⟩ |
    ⟨r, w, _, _, _, hg', hv, _⟩
  · rw [hg'] at hg; cases hg
  · rw [hg'] at hg; cases hg
  · rw [hg'] at hg
    simp only [Option.some.injEq, Entry.mk.injEq, SVal.hash.injEq] at hg
    obtain ⟨rfl, rfl⟩ := hg
    obtain ⟨db2, r2, he, hw2, het, hwr⟩ := hashSetTx_old hw hf ht f v now
    refine ⟨db2, he, hw2, ?_⟩
    rw [hwr.abs hw.wf.names hw2.wf.names now, het]
    exact purge_put_live (sorted_abs hw.wf.names now) (purge_abs hw.wf.names now) k hl
  · rw [hg'] at hg
    simp only [Option.some.injEq, Entry.mk.injEq] at hg
    exact absurd hg.1 (hv _)

/-- **What `tx.set` meets at a name** that is not an expired leftover: a key of another type, and
its key upsert `sqlSet1` fails; or a writable name, and it puts the field. -/
theorem setTx_cases {db : DB} (hw : HWF db) {now : Int} {k : Bytes} (hns : staleKey db now k = false) :
    (∃ e, get (abs now db) k = some e ∧ (∀ h, e.val ≠ .hash h) ∧
        hashSetKey db k now = .error .keyType) ∨
    (∃ h et, Writable (abs now db) k h et ∧ (∃ x, hashSetKey db k now = .ok x) ∧
      ∀ f v, ∃ db2, hashSetTx db k f v now = .ok db2 ∧ HWF db2 ∧
        abs now db2 = put (abs now db) k ⟨.hash (aput h f v), et⟩) := by
  rcases hholder hw.wf now k with ⟨h, hg, _⟩ | ⟨_, h, hl, _, _⟩ | ⟨r, h, _, ht, hg, _⟩ |
    ⟨r, w, h, _, ht, hg, hv, _⟩
  · exact .inr ⟨[], none, .inl ⟨hg, rfl, rfl⟩, ⟨_, keyUpsert_new h⟩, fun f v => setTx_absent hw h f v now⟩
  · exact (Holder.not_stale hns h hl).elim
  · exact .inr ⟨_, _, .inr hg, ⟨_, keyUpsert_old h ht⟩, setTx_visible hw hg⟩
  · exact .inl ⟨_, hg, hv, keyUpsert_other h ht⟩

theorem hashSet_refines {db : DB} (hw : HWF db) {now : Int} {k : Bytes}
    (hns : staleKey db now k = false) (f v : Bytes) :
    Refines now (update (fun d => Model.hashSet d k f v now) db) (Spec.hashSet (abs now db) k f v) := by
  unfold Refines
  rcases setTx_cases hw hns with ⟨e, hg, hv, hkey⟩ | ⟨h, et, hwr, _, hset⟩
  · simp [update, Model.hashSet, hashSetTx, hkey, Res.err, (hashOps_other hg hv).2.1, Spec.er,
      purge_abs hw.wf.names]
  · obtain ⟨db2, he, hw2, ha⟩ := hset f v
    rw [hashSet_writable hwr, ← ha]
    simp only [update, Model.hashSet, he, Res.ok, Spec.ok, hashCountRaw_one hw, hwr.hashAt,
      purge_abs hw2.wf.names, and_true]
    cases aget h f <;> rfl

theorem hashSetNX_refines {db : DB} (hw : HWF db) {now : Int} {k : Bytes}
    (hns : staleKey db now k = false) (f v : Bytes) :
    Refines now (update (fun d => Model.hashSetNotExists d k f v now) db)
      (Spec.hashSetNX (abs now db) k f v) := by
  unfold Refines
  rcases setTx_cases hw hns with ⟨e, hg, hv, hkey⟩ | ⟨h, et, hwr, _, hset⟩
  · simp [update, Model.hashSetNotExists, hashCountRaw_one hw, (hashOps_other hg hv).1, aget_nil,
      hashSetTx, hkey, Res.err, (hashOps_other hg hv).2.2.1, Spec.er, purge_abs hw.wf.names]
  · obtain ⟨db2, he, hw2, ha⟩ := hset f v
    rw [hashSetNX_writable hwr]
    simp only [update, Model.hashSetNotExists, hashCountRaw_one hw, hwr.hashAt]
    cases (aget h f).isSome
    · simp [he, Res.ok, Spec.ok, ← ha, purge_abs hw2.wf.names]
    · simp [Res.ok, Spec.ok, purge_abs hw.wf.names]

theorem hashIncr_refines {db : DB} (hw : HWF db) {now : Int} {k : Bytes}
    (hns : staleKey db now k = false) (f : Bytes) (d : Int) (hd : inInt64 d = true)
    (hov : ∀ b n, hashGetRaw db k f now = some b → valueInt b = some n → inInt64 (n + d) = true) :
    Refines now (update (fun x => Model.hashIncr x k f d now) db) (Spec.hashIncr (abs now db) k f d) := by
  unfold Refines
  have hv0 : valueInt [] = some 0 := rfl
  have hraw := hashGetRaw_abs hw now k f
  rcases setTx_cases hw hns with ⟨e, hg, hv, hkey⟩ | ⟨h, et, hwr, _, hset⟩
  · simp [update, Model.hashIncr, hraw, (hashOps_other hg hv).1, aget_nil, hv0, hashSetTx, hkey,
      Res.err, (hashOps_other hg hv).2.2.2.1, Spec.er, purge_abs hw.wf.names]
  · rw [hwr.hashAt] at hraw
    rw [hashIncr_writable hwr]
    simp only [update, Model.hashIncr, hraw]
    cases hvi : valueInt ((aget h f).getD []) with
    | none => simp [Res.err, Spec.er, purge_abs hw.wf.names]
    | some n =>
      have hw64 : wrap64 (n + d) = n + d := by
        cases hgf : aget h f with
        | none =>
          rw [hgf] at hvi
          simp only [Option.getD_none, hv0, Option.some.injEq] at hvi
          rw [← hvi, Int.zero_add]; exact wrap64_of_inInt64 hd
        | some b =>
          rw [hgf] at hvi hraw
          exact wrap64_of_inInt64 (hov b n hraw hvi)
      obtain ⟨db2, he, hw2, ha⟩ := hset f (itoa (n + d))
      simp [hw64, he, Res.ok, Spec.ok, ← ha, purge_abs hw2.wf.names]

/-- Float increment of a hash field against the specification (numeric domain as for strings:
`valueFloat`, `formatFloatDec`; a missing field counts as zero; outside the domain both sides say
"not decided" and nothing changes). -/
theorem hashIncrFloat_refines {db : DB} (hw : HWF db) {now : Int} {k : Bytes}
    (hns : staleKey db now k = false) (f : Bytes) (d : Dyadic) :
    Refines now (update (fun x => Model.hashIncrFloat x k f d now) db)
      (Spec.hashIncrFloat (abs now db) k f d) := by
  unfold Refines
  have hv0 : valueFloat [] = .val .zero := rfl
  have hraw := hashGetRaw_abs hw now k f
  rcases setTx_cases hw hns with ⟨e, hg, hv, hkey⟩ | ⟨h, et, hwr, ⟨x, hx⟩, hset⟩
  · cases hf : formatFloatDec (f64add 0 d) <;>
      simp [update, Model.hashIncrFloat, hraw, (hashOps_other hg hv).1, aget_nil, hv0, hf, hashSetTx,
        hkey, Res.err, (hashOps_other hg hv).2.2.2.2.1, Spec.er, purge_abs hw.wf.names]
  · rw [hwr.hashAt] at hraw
    rw [hashIncrFloat_writable hwr]
    simp only [update, Model.hashIncrFloat, hraw]
    cases hvf : valueFloat ((aget h f).getD []) with
    | invalid => simp [Res.err, Spec.er, purge_abs hw.wf.names]
    | unknown => simp [Res.err, Spec.skip, purge_abs hw.wf.names]
    | val y =>
      cases hf : formatFloatDec (f64add y d) with
      | none => simp [hf, hx, Res.err, Spec.skip, purge_abs hw.wf.names]
      | some txt =>
        obtain ⟨db2, he, hw2, ha⟩ := hset f txt
        simp [hf, he, Res.ok, Spec.ok, ← ha, purge_abs hw2.wf.names]

theorem loop_visible (now : Int) (k : Bytes) : ∀ (items : List (Bytes × Bytes)) (db : DB)
    (h : List (Bytes × Bytes)) (et : Option Int), HWF db → get (abs now db) k = some ⟨.hash h, et⟩ →
    ∃ db2, hashSetManyLoop db k now items = (.ok db2, db2) ∧ HWF db2 ∧
      abs now db2
        = put (abs now db) k ⟨.hash (items.foldl (fun acc p => aput acc p.1 p.2) h), et⟩
  | [], db, h, et, hw, hg =>
    ⟨db, rfl, hw, (put_self (sorted_abs hw.wf.names now) hg).symm⟩
  | (f, v) :: rest, db, h, et, hw, hg => by
    obtain ⟨db1, he, hw1, ha⟩ := setTx_visible hw hg f v
    have hg1 : get (abs now db1) k = some ⟨.hash (aput h f v), et⟩ := by
      rw [ha, get_put]; simp
    obtain ⟨db2, hl, hw2, ha2⟩ := loop_visible now k rest db1 (aput h f v) et hw1 hg1
    refine ⟨db2, by simp only [hashSetManyLoop, he]; exact hl, hw2, ?_⟩
    rw [ha2, ha, put_put (sorted_abs hw.wf.names now)]
    rfl

/-- how many of the listed fields are new: the count the model computes from one `count(field)`
statement and the count the specification makes item by item -/
theorem created_count (m : List (Bytes × Bytes)) (items : List (Bytes × Bytes)) :
    (items.length : Int) - (((items.map (·.1)).filter (fun f => (aget m f).isSome)).length : Int)
      = ((items.filter (fun p => (aget m p.1).isNone)).length : Int) := by
  rw [List.filter_map, List.length_map]
  have hsplit := List.length_eq_countP_add_countP (fun p : Bytes × Bytes => (aget m p.1).isNone) (l := items)
  rw [List.countP_eq_length_filter, List.countP_eq_length_filter] at hsplit
  have h1 : items.filter (fun x => decide ¬(aget m x.1).isNone = true)
      = items.filter ((fun f => (aget m f).isSome) ∘ (·.1)) := by
    apply List.filter_congr
    intro p _
    simp only [Function.comp]
    cases aget m p.1 <;> rfl
  rw [h1] at hsplit
  omega

theorem hashSetMany_refines {db : DB} (hw : HWF db) {now : Int} {k : Bytes}
    (hns : staleKey db now k = false) {items : List (Bytes × Bytes)}
    (hnd : (items.map (·.1)).Nodup) :
    Refines now (update (fun d => Model.hashSetMany d k items now) db)
      (Spec.hashSetMany (abs now db) k items) := by
  unfold Refines
  cases items with
  | nil =>
    simp [update, Model.hashSetMany, hashSetManyLoop, Res.ok, Spec.hashSetMany, Spec.ok,
      hashCountRaw_abs hw now k List.nodup_nil, purge_abs hw.wf.names]
  | cons p rest =>
    obtain ⟨f, v⟩ := p
    rcases setTx_cases hw hns with ⟨e, hg, hv, hkey⟩ | ⟨h, et, hwr, _, hset⟩
    · simp [update, Model.hashSetMany, hashSetManyLoop, hashSetTx, hkey, Res.err,
        (hashOps_other hg hv).2.2.2.2.2.1 ((f, v) :: rest) rfl, Spec.er, purge_abs hw.wf.names]
    · obtain ⟨db1, he, hw1, ha⟩ := hset f v
      have hg1 : get (abs now db1) k = some ⟨.hash (aput h f v), et⟩ := by rw [ha, get_put]; simp
      obtain ⟨db2, hl, hw2, ha2⟩ := loop_visible now k rest db1 _ et hw1 hg1
      have hloop : hashSetManyLoop db k now ((f, v) :: rest) = (.ok db2, db2) := by
        simp only [hashSetManyLoop, he]; exact hl
      rw [ha, put_put (sorted_abs hw.wf.names now)] at ha2
      rw [hashSetMany_writable hwr rfl]
      simp only [update, Model.hashSetMany, hashCountRaw_abs hw now k hnd, hwr.hashAt, hloop, Res.ok,
        Spec.ok, created_count]
      exact ⟨trivial, by rw [← purge_abs hw2.wf.names now, ha2]; rfl⟩

/-- the assignments of `sqlDelete`'s second statement -/
def hDrop (now n : Int) (o : KeyRow) : KeyRow :=
  { o with version := o.version + 1, mtime := now, len := o.len.map (· - n) }

theorem hashDelete_some {db : DB} (hw : HWF db) {k : Bytes} {now : Int} {r : KeyRow}
    (hf : db.findKey k = some r) (ht : r.ty = THash) (hk : db.liveKeyT k THash now = some r)
    (fs : List Bytes)
    (hn : (db.hashes.filter (fun x => x.kid == r.id && fs.contains x.field)).length ≠ 0) :
    ∃ db2 r2, Model.hashDelete db k fs now
        = .ok (.int (db.hashes.filter (fun x => x.kid == r.id && fs.contains x.field)).length) db2 ∧
      HWF db2 ∧ r2.etime = r.etime ∧
      WrittenV db db2 k r2 (.hash ((hview db.hashes r.id).filter (fun p => !fs.contains p.1))) := by
  obtain ⟨ho, hok⟩ := findKey_mem hf
  let n : Int := (db.hashes.filter (fun x => x.kid == r.id && fs.contains x.field)).length
  let r2 := hDrop now n r
  have hr2id : r2.id = r.id := rfl
  have ks : KeysStep db (db.updKey r.id (fun _ => r2)).keys k r2 :=
    keysStep_update hw.wf.names hw.wf.ids hf rfl rfl ht
  have rs := rowsStep_del hw.pairs r.id fs
  have hlen : r2.len = some (((hashDel db.hashes r.id fs).filter
      (fun x => x.kid == r2.id)).length : Int) := by
    show r.len.map (· - n) = _
    rw [hr2id, hw.len r ho ht]
    have := length_filter_hashDel db.hashes r.id fs
    simp only [Option.map_some, Option.some.injEq, n]
    omega
  obtain ⟨hw2, hwr⟩ := step_hwf_written hw ks rs hlen
  refine ⟨_, r2, ?_, hw2, rfl, ?_⟩
  · simp only [Model.hashDelete, hk]
    rw [if_neg (fun h => hn (Int.natCast_eq_zero.1 (beq_iff_eq.1 h)))]
    rw [← updKey_const hw.wf.ids ho]
    rfl
  · rw [hr2id, hview_hashDel hw.pairs] at hwr
    exact hwr

theorem hashDelete_refines {db : DB} (hw : HWF db) (now : Int) (k : Bytes) (fs : List Bytes) :
    Refines now (update (fun d => Model.hashDelete d k fs now) db)
      (Spec.hashDelete (abs now db) k fs) := by
  unfold Refines
  rcases hholder hw.wf now k with ⟨_, hg, hk⟩ | ⟨_, _, _, hg, hk⟩ | ⟨r, hf, hl, ht, hg, hk⟩ |
    ⟨r, v, _, _, _, hg, hv, hk⟩
  · simp [update, Model.hashDelete, hk, Res.ok, Spec.hashDelete, hg, Spec.ok, purge_abs hw.wf.names]
  · simp [update, Model.hashDelete, hk, Res.ok, Spec.hashDelete, hg, Spec.ok, purge_abs hw.wf.names]
  · have hsplit := length_filter_hashDel db.hashes r.id fs
    have hl1 := length_hview db.hashes r.id
    have hl2 : ((hview db.hashes r.id).filter (fun p => !fs.contains p.1)).length
        = ((hashDel db.hashes r.id fs).filter (fun x => x.kid == r.id)).length := by
      rw [← hview_hashDel hw.pairs, length_hview]
    by_cases hn : (db.hashes.filter (fun x => x.kid == r.id && fs.contains x.field)).length = 0
    · have hsame : ((hview db.hashes r.id).filter (fun p => !fs.contains p.1)).length
          = (hview db.hashes r.id).length := by omega
      simp only [update, Model.hashDelete, hk, hn, Spec.hashDelete, hg, hsame]
      simp [Res.ok, Spec.ok, purge_abs hw.wf.names]
    · obtain ⟨db2, r2, he, hw2, het, hwr⟩ := hashDelete_some hw hf ht hk fs hn
      have hdiff : ¬ ((hview db.hashes r.id).filter (fun p => !fs.contains p.1)).length
          = (hview db.hashes r.id).length := by omega
      simp only [update, he, Res.ok, Spec.hashDelete, hg, Spec.ok, beq_iff_eq, hdiff, if_false]
      refine ⟨?_, ?_⟩
      · congr 2; omega
      · rw [hwr.abs hw.wf.names hw2.wf.names now, het]
  · simp [update, Model.hashDelete, hk, Res.ok, (hashOps_other hg hv).2.2.2.2.2.2, Spec.ok,
      purge_abs hw.wf.names]

theorem spec_hashDelete (s : State) (k : Bytes) (fs : List Bytes) :
    (Spec.hashDelete s k fs).out
        = .ok (.int (((hashAt s k).length : Int)
            - ((hashAt s k).filter (fun p => !fs.contains p.1)).length)) ∧
      (((Spec.hashDelete s k fs).st = s ∧
          (hashAt s k).filter (fun p => !fs.contains p.1) = hashAt s k) ∨
        ∃ et, get s k = some ⟨.hash (hashAt s k), et⟩ ∧
          (Spec.hashDelete s k fs).st
            = put s k ⟨.hash ((hashAt s k).filter (fun p => !fs.contains p.1)), et⟩) := by
  unfold Spec.hashDelete hashAt
  cases hg : get s k with
  | none => exact ⟨rfl, .inl ⟨rfl, rfl⟩⟩
  | some en =>
    obtain ⟨v, et⟩ := en
    cases v with
    | hash h =>
      refine ⟨rfl, ?_⟩
      simp only [Spec.ok]
      split
      · rename_i hl
        exact .inl ⟨rfl, List.filter_eq_self.2 (List.length_filter_eq_length_iff.1 (beq_iff_eq.1 hl))⟩
      · exact .inr ⟨et, rfl, rfl⟩
    | _ => exact ⟨rfl, .inl ⟨rfl, rfl⟩⟩

theorem _root_.Redka.Model.SetSteps.hwf {db d : DB} {k : Bytes} {now : Int} (hs : SetSteps k now db d)
    (hw : HWF db) : HWF d :=
  hs.pres hw (fun _ f v d' hw he => hashSetTx_hwf hw k f v now d' he)

theorem hashDelete_hwf {db : DB} (hw : HWF db) (k : Bytes) (fs : List Bytes) (now : Int) :
    HWF (Model.hashDelete db k fs now).db := by
  cases hk : db.liveKeyT k THash now with
  | none => simp only [Model.hashDelete, hk]; exact hw
  | some r =>
    by_cases hn : (db.hashes.filter (fun x => x.kid == r.id && fs.contains x.field)).length = 0
    · simp only [Model.hashDelete, hk, hn]; exact hw
    · obtain ⟨hf, ht, _⟩ := (liveKeyT_eq_some_iff hw.wf.names).1 hk
      obtain ⟨db2, _, he, hw2, _⟩ := hashDelete_some hw hf ht hk fs hn
      rw [he]; exact hw2

theorem hashAt_sorted {db : DB} (hw : HWF db) (now : Int) (k : Bytes) :
    Sorted (hashAt (abs now db) k) := by
  rw [hashAt_abs hw.wf]
  cases db.liveKeyT k THash now with
  | none => exact List.Pairwise.nil
  | some r => exact hview_sorted hw.pairs r.id

theorem hashAt_after {db db' : DB} (hw : db.WF) {now : Int} {k : Bytes} {H : List (Bytes × Bytes)}
    {et : Option Int} (hlive : liveAt now et = true)
    (ha : abs now db' = purge now (put (abs now db) k ⟨.hash H, et⟩)) :
    hashAt (abs now db') k = H := by
  unfold hashAt
  rw [ha, get_purge ((sorted_abs hw.names now).put k _), get_put]
  simp [hlive]

theorem foldl_aput_perm {a b : List (Bytes × Bytes)} (hp : a.Perm b) (hnd : (a.map (·.1)).Nodup)
    {h : List (Bytes × Bytes)} (hs : Sorted h) :
    a.foldl (fun acc p => aput acc p.1 p.2) h = b.foldl (fun acc p => aput acc p.1 p.2) h := by
  have hndb : (b.map (·.1)).Nodup := (hp.map _).nodup_iff.1 hnd
  apply sorted_ext (sorted_foldl_aput a h hs) (sorted_foldl_aput b h hs)
  intro f
  rw [aget_foldl_aput a h hnd, aget_foldl_aput b h hndb, aget_perm hp hnd]

theorem specSetMany_perm {s : State} {k : Bytes} {a b : List (Bytes × Bytes)} (hp : a.Perm b)
    (hnd : (a.map (·.1)).Nodup)
    (hs : ∀ h et, get s k = some ⟨.hash h, et⟩ → Sorted h) :
    Spec.hashSetMany s k a = Spec.hashSetMany s k b := by
  have hemp : a.isEmpty = b.isEmpty := by
    cases a with
    | nil => rw [hp.symm.eq_nil]
    | cons x a' =>
      cases b with
      | nil => exact absurd hp.eq_nil (by simp)
      | cons y b' => rfl
  unfold Spec.hashSetMany
  rw [hemp]
  split
  · rfl
  · cases hg : get s k with
    | none =>
      simp only [hp.length_eq, foldl_aput_perm hp hnd (h := []) List.Pairwise.nil]
    | some e =>
      obtain ⟨val, et⟩ := e
      cases val with
      | hash h =>
        simp only [foldl_aput_perm hp hnd (hs h et hg), (hp.filter _).length_eq]
      | _ => rfl

end Redka.HashRef
