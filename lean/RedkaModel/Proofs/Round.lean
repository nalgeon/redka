/-
  `ratRound53` (Basic.lean), the model of `strconv.ParseFloat`'s rounding, is CORRECTLY ROUNDED:
  for every positive rational `p / q` the result is `m · 2^(-t)` where `m` has exactly 53 bits
  (or is `2^53` after a carry), lies within half a unit in the last place of `p / q`, and is even
  when `p / q` is exactly half-way. Pure integer arithmetic; core Lean only.

  At the end: the two facts about `round53` (the float64 sum) from which
  `C01.float_sum_correctly_rounded` follows with `roundUp_nearest`.
-/
import RedkaModel.Basic
namespace Redka.Round
open Redka

def numAt (p : Nat) (t : Int) : Nat := if t ≥ 0 then p * 2 ^ t.toNat else p
def denAt (q : Nat) (t : Int) : Nat := if t ≥ 0 then q else q * 2 ^ (-t).toNat

theorem scaleDiv_eq (p q : Nat) (t : Int) :
    scaleDiv p q t = (numAt p t / denAt q t, numAt p t % denAt q t, denAt q t) := by
  unfold scaleDiv numAt denAt
  split <;> rfl

theorem denAt_pos {q : Nat} (hq : 0 < q) (t : Int) : 0 < denAt q t := by
  unfold denAt; split
  · exact hq
  · exact Nat.mul_pos hq (Nat.pow_pos (by decide))

/-- the rounding decision of `ratRound53` -/
def roundUp (m r d : Nat) : Nat := if 2 * r > d || (2 * r == d && m % 2 == 1) then m + 1 else m

theorem roundUp_cases (m r d : Nat) :
    (roundUp m r d = m + 1 ∧ d ≤ 2 * r ∧ (2 * r = d → m % 2 = 1)) ∨
    (roundUp m r d = m ∧ 2 * r ≤ d ∧ (2 * r = d → m % 2 = 0)) := by
  unfold roundUp
  split <;> rename_i h <;>
    simp only [Bool.or_eq_true, Bool.and_eq_true, decide_eq_true_eq, beq_iff_eq] at h
  · exact .inl ⟨rfl, by omega, by omega⟩
  · exact .inr ⟨rfl, by omega, by omega⟩

/-- one rounding step is to nearest, ties to even -/
theorem roundUp_nearest (n d m r : Nat) (hd : 0 < d) (hm : n / d = m) (hrr : n % d = r) :
    2 * ((n : Int) - ((roundUp m r d : Nat) : Int) * d).natAbs ≤ d ∧
    (2 * ((n : Int) - ((roundUp m r d : Nat) : Int) * d).natAbs = d → roundUp m r d % 2 = 0) ∧
    (roundUp m r d = m ∨ roundUp m r d = m + 1) := by
  have hr : r < d := hrr ▸ Nat.mod_lt n hd
  have hmd : (n : Int) = (m : Int) * d + r := by
    rw [← hm, ← hrr, Int.mul_comm]; exact_mod_cast (Nat.div_add_mod n d).symm
  -- the distance is `d - r` after rounding up and `r` otherwise; the rest is about `r` and `d`
  rcases roundUp_cases m r d with ⟨e, h1, h2⟩ | ⟨e, h1, h2⟩ <;> rw [e]
  · have : ((n : Int) - ((m + 1 : Nat) : Int) * d).natAbs = d - r := by
      rw [hmd, Int.natCast_add, Int.add_mul]; omega
    rw [this]
    clear this hmd hm hrr e
    exact ⟨by omega, fun h => by omega, .inr rfl⟩
  · have : ((n : Int) - (m : Int) * d).natAbs = r := by rw [hmd]; omega
    rw [this]
    clear this hmd hm hrr e
    exact ⟨by omega, fun h => by omega, .inl rfl⟩

/-- a 53-bit quotient rounds to a 53-bit number or to `2^53` -/
theorem round_bounds {m m' : Nat} (h : m' = m ∨ m' = m + 1) (h1 : 2 ^ 52 ≤ m) (h2 : m < 2 ^ 53) :
    2 ^ 52 ≤ m' ∧ m' ≤ 2 ^ 53 := by omega

/-! ### the scale: the quotient has exactly 53 bits -/

theorem natBits_pos {n : Nat} (h : 0 < n) : natBits n = Nat.log2 n + 1 := by
  unfold natBits; simp [Nat.ne_of_gt h]

theorem quot_pred (p q : Nat) (t : Int) :
    numAt p (t - 1) / denAt q (t - 1) = numAt p t / denAt q t / 2 := by
  unfold numAt denAt
  by_cases h1 : t ≥ 1
  · have h0 : t ≥ 0 := by omega
    have h0' : t - 1 ≥ 0 := by omega
    simp only [h0, h0', if_true]
    have hk : t.toNat = (t - 1).toNat + 1 := by omega
    rw [hk, Nat.pow_succ, ← Nat.mul_assoc, Nat.div_div_eq_div_mul, Nat.mul_div_mul_right _ _ (by decide : 0 < 2)]
  · by_cases h0 : t = 0
    · subst h0
      have : ¬ ((0 : Int) - 1 ≥ 0) := by omega
      simp only [this, if_false]
      simp [Nat.div_div_eq_div_mul]
    · have hn : ¬ (t ≥ 0) := by omega
      have hn' : ¬ (t - 1 ≥ 0) := by omega
      simp only [hn, hn', if_false]
      have hk : (-(t - 1)).toNat = (-t).toNat + 1 := by omega
      rw [hk, Nat.pow_succ, ← Nat.mul_assoc, Nat.div_div_eq_div_mul]

/-- a number of `52 + (B + 1) + 1` bits over one of `B + 1` bits -/
theorem quot_bits {P Q A B : Nat} (hP : 2 ^ A ≤ P) (hP' : P < 2 ^ (A + 1)) (hQ : 2 ^ B ≤ Q)
    (hQ' : Q < 2 ^ (B + 1)) (h : A = 52 + (B + 1)) : 2 ^ 52 ≤ P / Q ∧ P / Q < 2 ^ 54 := by
  have hq : 0 < Q := Nat.lt_of_lt_of_le (Nat.pow_pos (by decide)) hQ
  have e1 : 2 ^ A = 2 ^ 52 * 2 ^ (B + 1) := by rw [h, Nat.pow_add]
  have e2 : 2 ^ (A + 1) = 2 ^ 54 * 2 ^ B := by rw [← Nat.pow_add]; congr 1; omega
  rw [Nat.le_div_iff_mul_le hq, Nat.div_lt_iff_lt_mul hq]
  exact ⟨Nat.le_trans (Nat.mul_le_mul_left _ (Nat.le_of_lt hQ')) (e1 ▸ hP),
    Nat.lt_of_lt_of_le (e2 ▸ hP') (Nat.mul_le_mul_left _ hQ)⟩

/-- scaling by `2^k` adds `k` bits -/
theorem bits_scale {x a : Nat} (k : Nat) (h1 : 2 ^ a ≤ x) (h2 : x < 2 ^ (a + 1)) :
    2 ^ (a + k) ≤ x * 2 ^ k ∧ x * 2 ^ k < 2 ^ (a + k + 1) := by
  rw [Nat.pow_add, show a + k + 1 = a + 1 + k by omega, Nat.pow_add]
  exact ⟨Nat.mul_le_mul_right _ h1, Nat.mul_lt_mul_of_pos_right h2 (Nat.pow_pos (by decide))⟩

/-- at the first guess `t0 = 53 - bits p + bits q` the quotient lies in `[2^52, 2^54)` -/
theorem quot_t0 (p q : Nat) (hp : 0 < p) (hq : 0 < q) {t0 : Int}
    (ht0 : t0 = 53 - (natBits p : Int) + (natBits q : Int)) :
    2 ^ 52 ≤ numAt p t0 / denAt q t0 ∧ numAt p t0 / denAt q t0 < 2 ^ 54 := by
  subst ht0
  rw [natBits_pos hp, natBits_pos hq]
  have hpl : 2 ^ p.log2 ≤ p := Nat.log2_self_le (Nat.ne_of_gt hp)
  have hph : p < 2 ^ (p.log2 + 1) := Nat.lt_log2_self
  have hql : 2 ^ q.log2 ≤ q := Nat.log2_self_le (Nat.ne_of_gt hq)
  have hqh : q < 2 ^ (q.log2 + 1) := Nat.lt_log2_self
  generalize p.log2 = a at *
  generalize q.log2 = b at *
  unfold numAt denAt
  split
  · -- the numerator is scaled up
    obtain ⟨h1, h2⟩ := bits_scale ((53 : Int) - ((a + 1 : Nat) : Int) + ((b + 1 : Nat) : Int)).toNat hpl hph
    exact quot_bits h1 h2 hql hqh (by omega)
  · -- the denominator is scaled up
    obtain ⟨h1, h2⟩ := bits_scale (-((53 : Int) - ((a + 1 : Nat) : Int) + ((b + 1 : Nat) : Int))).toNat hql hqh
    exact quot_bits hpl hph h1 h2 (by omega)

/-- the quotient at the scale `ratRound53` settles on has exactly 53 bits -/
theorem quot_final (p q : Nat) (hp : 0 < p) (hq : 0 < q) (t0 t : Int)
    (ht0 : t0 = 53 - (natBits p : Int) + (natBits q : Int))
    (ht : t = if (scaleDiv p q t0).1 ≥ 2 ^ 53 then t0 - 1 else t0) :
    2 ^ 52 ≤ numAt p t / denAt q t ∧ numAt p t / denAt q t < 2 ^ 53 := by
  have h0 := quot_t0 p q hp hq ht0
  rw [scaleDiv_eq] at ht
  simp only at ht
  by_cases hge : numAt p t0 / denAt q t0 ≥ 2 ^ 53
  · rw [if_pos hge] at ht
    subst ht
    rw [quot_pred]
    omega
  · rw [if_neg hge] at ht
    subst ht
    omega

/-- **`ratRound53` is correctly rounded**: the result is `m · 2^(-t)` with a 53-bit `m` (or `2^53`
after a carry), within half a unit in the last place of `p / q`, and even on a tie. -/
theorem ratRound53_nearest (p q : Nat) (hp : 0 < p) (hq : 0 < q) (x : Dyadic)
    (h : ratRound53 p q = some x) :
    ∃ (m : Nat) (t : Int), x = Dyadic.ofIntWithPrec (m : Int) t ∧ 2 ^ 52 ≤ m ∧ m ≤ 2 ^ 53 ∧
      2 * ((numAt p t : Int) - (m : Int) * denAt q t).natAbs ≤ denAt q t ∧
      (2 * ((numAt p t : Int) - (m : Int) * denAt q t).natAbs = denAt q t → m % 2 = 0) := by
  unfold ratRound53 at h
  dsimp only at h
  generalize ht0 : (53 : Int) - (natBits p : Int) + (natBits q : Int) = t0 at h
  generalize ht : (if (scaleDiv p q t0).1 ≥ 2 ^ 53 then t0 - 1 else t0) = t at h
  obtain ⟨hlo, hhi⟩ := quot_final p q hp hq t0 t ht0.symm ht.symm
  rw [scaleDiv_eq] at h
  simp only at h
  have hd := denAt_pos hq t
  obtain ⟨hn, hte, hor⟩ := roundUp_nearest (numAt p t) (denAt q t) _ _ hd rfl rfl
  have hm' : (if 2 * (numAt p t % denAt q t) > denAt q t ||
      (2 * (numAt p t % denAt q t) == denAt q t && numAt p t / denAt q t % 2 == 1)
      then numAt p t / denAt q t + 1 else numAt p t / denAt q t)
      = roundUp (numAt p t / denAt q t) (numAt p t % denAt q t) (denAt q t) := rfl
  rw [hm'] at h
  generalize roundUp (numAt p t / denAt q t) (numAt p t % denAt q t) (denAt q t) = m' at *
  have hfin : ∀ (c : Bool), (if c = true then none else some (Dyadic.ofIntWithPrec (m' : Int) t)) = some x →
      x = Dyadic.ofIntWithPrec (m' : Int) t := by
    intro c hc
    cases c
    · simp at hc; exact hc.symm
    · simp at hc
  obtain ⟨b1, b2⟩ := round_bounds hor hlo hhi
  refine ⟨m', t, ?_, b1, b2, hn, hte⟩
  split at h <;> exact hfin _ h

/-! ### `round53` -/

/-- `round53` compares the remainder with half the divisor -/
theorem roundUp_half (m r h : Nat) :
    (if r > h || (r == h && m % 2 == 1) then m + 1 else m) = roundUp m r (2 * h) := by
  have c1 : decide (r > h) = decide (2 * r > 2 * h) := decide_eq_decide.mpr (by omega)
  have c2 : (r == h) = (2 * r == 2 * h) := by
    rw [Bool.eq_iff_iff, beq_iff_eq, beq_iff_eq]; omega
  rw [roundUp, c1, c2]

/-- dropping all but the leading 53 bits -/
theorem quot53 {a sh : Nat} (ha : 0 < a) (hb : natBits a = 53 + sh) :
    2 ^ 52 ≤ a / 2 ^ sh ∧ a / 2 ^ sh < 2 ^ 53 := by
  have hd : 0 < 2 ^ sh := Nat.pow_pos (by decide)
  rw [natBits_pos ha] at hb
  have h1 : 52 + sh = a.log2 := by omega
  have h2 : 53 + sh = a.log2 + 1 := by omega
  rw [Nat.le_div_iff_mul_le hd, Nat.div_lt_iff_lt_mul hd, ← Nat.pow_add, ← Nat.pow_add, h1, h2]
  exact ⟨Nat.log2_self_le (Nat.ne_of_gt ha), Nat.lt_log2_self⟩

end Redka.Round
