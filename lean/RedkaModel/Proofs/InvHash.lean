/-
  C11 — the hash repository (`internal/rhash`) preserves the invariant.
-/
import RedkaModel.Proofs.InvPrim
import RedkaModel.Proofs.HashSteps

namespace Redka.InvP

open Redka Redka.Model

variable {db : DB}

/-- `sqlSet2` + trigger `rhash_on_insert` -/
theorem hashSetRow_wf (h : WF db) {kid : Int} (ho : Owner db kid THash) (f v : Bytes) :
    WF (hashSetRow db kid f v) ∧ Owner (hashSetRow db kid f v) kid THash := by
  unfold hashSetRow
  split
  · -- the field exists: only its value changes
    refine ⟨?_, ho⟩
    refine (WFd.setHashes h _ ?_ ?_ ?_ ?_)
    · intro x hx
      obtain ⟨y, hy, rfl⟩ := List.mem_map.1 hx
      have := h.oH y hy
      split <;> exact this
    · rw [List.pairwise_map]
      refine h.uH.imp ?_
      intro a b hab
      split <;> split <;> exact hab
    · rw [List.pairwise_map]
      refine h.rH.imp ?_
      intro a b hab
      split <;> split <;> exact hab
    · intro o _
      have : ((db.hashes.map (fun r : HashRow => if r.kid == kid && r.field == f then { r with value := v } else r)).filter
          (fun x => x.kid == o.id)).length = (db.hashes.filter (fun x => x.kid == o.id)).length :=
        length_filter_map_kid (·.kid) _
          (fun x => by show (if x.kid == kid && x.field == f then _ else x).kid = x.kid; split <;> rfl)
          db.hashes o.id
      rw [this]; rfl
  · rename_i hany
    have hany : ∀ y ∈ db.hashes, ¬(y.kid = kid ∧ y.field = f) := fun y hy hc =>
      hany (List.any_eq_true.2 ⟨y, hy, Bool.and_eq_true_iff.2 ⟨beq_iff_eq.2 hc.1, beq_iff_eq.2 hc.2⟩⟩)
    have h1 : WFd (fun i => if i = kid then -1 else 0)
        { db with hashes := db.hashes ++
          [({ rowid := db.nextHashRowid, kid := kid, field := f, value := v } : HashRow)] } := by
      refine WFd.setHashes h _ ?_ ?_ ?_ ?_
      · intro x hx
        rcases List.mem_append.1 hx with hx | hx
        · exact h.oH x hx
        · rw [List.mem_singleton] at hx; subst hx; exact ho
      · refine pairwise_append_one h.uH _ (fun y hy heq => hany y hy ?_)
        simpa using heq
      · refine pairwise_append_one h.rH _ (fun y hy => ?_)
        have := rowid_lt_nextHashRowid db y hy
        show y.rowid ≠ db.nextHashRowid
        omega
      · intro o _
        have := count_append (fun y : HashRow => y.kid) db.hashes
          { rowid := db.nextHashRowid, kid := kid, field := f, value := v } o.id
        simp only [cH] at this ⊢
        omega
    have ho1 : Owner { db with hashes := db.hashes ++
        [({ rowid := db.nextHashRowid, kid := kid, field := f, value := v } : HashRow)] } kid THash := ho
    exact ⟨h1.settle ho1 (by decide) rfl _ (fun r _ _ => ⟨rfl, rfl, rfl, rfl⟩),
      ho1.updKey _ _ (fun _ => ⟨rfl, rfl⟩)⟩

theorem hashSetKey_wf (h : WF db) {k : Bytes} {now : Int} {db1 : DB} {r : KeyRow}
    (he : hashSetKey db k now = .ok (db1, r)) : WF db1 ∧ Owner db1 r.id THash :=
  h.keyUpsert_plain (by decide) he (fun _ => ⟨rfl, rfl, rfl, rfl⟩) (fun _ => ⟨rfl, rfl, rfl, rfl⟩)

theorem hashSetTx_wf (h : WF db) {k f v : Bytes} {now : Int} {d : DB}
    (he : hashSetTx db k f v now = .ok d) : WF d := by
  unfold hashSetTx at he
  split at he
  · cases he
  · rename_i db1 r hk
    obtain ⟨h1, ho1⟩ := hashSetKey_wf h hk
    simp only [Except.ok.injEq] at he
    exact he ▸ (hashSetRow_wf h1 ho1 f v).1

theorem _root_.Redka.Model.SetSteps.wf {k : Bytes} {now : Int} {d : DB} (hs : SetSteps k now db d) (h : WF db) : WF d :=
  hs.pres h (fun _ _ _ _ h he => hashSetTx_wf h he)

theorem hashSet_wf (h : WF db) (k f v : Bytes) (now : Int) : WF (hashSet db k f v now).db :=
  (hashSet_steps f v).wf h

theorem hashSetMany_wf (h : WF db) (k : Bytes) (items : List (Bytes × Bytes)) (now : Int) :
    WF (hashSetMany db k items now).db :=
  (hashSetMany_steps items).wf h

theorem hashSetNotExists_wf (h : WF db) (k f v : Bytes) (now : Int) :
    WF (hashSetNotExists db k f v now).db :=
  (hashSetNotExists_steps f v).wf h

theorem hashIncr_wf (h : WF db) (k f : Bytes) (d now : Int) : WF (hashIncr db k f d now).db :=
  (hashIncr_steps f d).wf h

theorem hashIncrFloat_wf (h : WF db) (k f : Bytes) (d : Dyadic) (now : Int) :
    WF (hashIncrFloat db k f d now).db :=
  (hashIncrFloat_steps f d).wf h

/-- delete some fields of one hash, then `len = len - n` on its key -/
theorem hashRemove_wf (h : WF db) {kid : Int} (ho : Owner db kid THash) (q : HashRow → Bool)
    (f : KeyRow → KeyRow)
    (hf : ∀ r ∈ db.keys, r.id = kid → (f r).id = r.id ∧ (f r).key = r.key ∧ (f r).ty = r.ty ∧
      (f r).len = r.len.map (· - ((db.hashes.filter (fun x => x.kid == kid && q x)).length : Int))) :
    WF (DB.updKey { db with hashes := db.hashes.filter (fun x => !(x.kid == kid && q x)) } kid f) := by
  have h1 : WFd (fun i => if i = kid then ((db.hashes.filter (fun x => x.kid == kid && q x)).length : Int) else 0)
      { db with hashes := db.hashes.filter (fun x => !(x.kid == kid && q x)) } := by
    refine WFd.setHashes h _ (fun x hx => h.oH x (List.mem_filter.1 hx).1) (h.uH.filter _) (h.rH.filter _) ?_
    intro o _
    have := count_remove (·.kid) q db.hashes kid o.id
    simp only [cH]
    omega
  have ho1 : Owner { db with hashes := db.hashes.filter (fun x => !(x.kid == kid && q x)) } kid THash := ho
  exact h1.settle ho1 (by decide) (Int.add_right_neg _) f hf

theorem hashDelete_wf (h : WF db) (k : Bytes) (fs : List Bytes) (now : Int) :
    WF (hashDelete db k fs now).db := by
  unfold hashDelete
  split
  · exact h
  · rename_i r hl
    simp only
    split
    · exact h
    · exact hashRemove_wf h (liveKeyT_owner hl) (fun x => fs.contains x.field) _
        (fun _ _ _ => ⟨rfl, rfl, rfl, rfl⟩)

end Redka.InvP
