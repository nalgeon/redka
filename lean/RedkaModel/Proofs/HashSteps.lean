/-
  `internal/rhash`: every writing method but `Delete` changes the tables only through `tx.set`
  (`Model.hashSetTx`), once, several times or not at all. What every successful `tx.set` keeps,
  these methods keep.
-/
import RedkaModel.Model.Hash

namespace Redka.Model

/-- `d` is what some number of successful `tx.set` calls on the name `k` made of `db` -/
inductive SetSteps (k : Bytes) (now : Int) (db : DB) : DB → Prop
  | refl : SetSteps k now db db
  | step {d d' : DB} (f v : Bytes) : SetSteps k now db d → hashSetTx d k f v now = .ok d' →
      SetSteps k now db d'

variable {k : Bytes} {now : Int} {db : DB}

theorem SetSteps.pres {P : DB → Prop} {d : DB} (h : SetSteps k now db d) (h0 : P db)
    (hstep : ∀ d f v d', P d → hashSetTx d k f v now = .ok d' → P d') : P d := by
  induction h with
  | refl => exact h0
  | step f v _ he ih => exact hstep _ f v _ ih he

theorem SetSteps.one {f v : Bytes} {d : DB} (he : hashSetTx db k f v now = .ok d) : SetSteps k now db d :=
  .step f v .refl he

theorem hashSet_steps (f v : Bytes) : SetSteps k now db (hashSet db k f v now).db := by
  unfold hashSet
  simp only
  split
  · exact .refl
  · exact .one ‹_›

theorem hashSetNotExists_steps (f v : Bytes) : SetSteps k now db (hashSetNotExists db k f v now).db := by
  unfold hashSetNotExists
  split
  · exact .refl
  · split
    · exact .refl
    · exact .one ‹_›

theorem hashIncr_steps (f : Bytes) (n : Int) : SetSteps k now db (hashIncr db k f n now).db := by
  unfold hashIncr
  simp only
  split
  · exact .refl
  · split
    · exact .refl
    · exact .one ‹_›

theorem hashIncrFloat_steps (f : Bytes) (x : Dyadic) : SetSteps k now db (hashIncrFloat db k f x now).db := by
  unfold hashIncrFloat
  simp only
  split
  · exact .refl
  · exact .refl
  · split
    · split <;> exact .refl
    · split
      · exact .refl
      · exact .one ‹_›

theorem hashSetManyLoop_steps (items : List (Bytes × Bytes)) : ∀ {d : DB}, SetSteps k now db d →
    SetSteps k now db (hashSetManyLoop d k now items).2 := by
  induction items with
  | nil => exact fun h => h
  | cons p rest ih =>
    intro d h
    unfold hashSetManyLoop
    split
    · exact h
    · exact ih (.step _ _ h ‹_›)

theorem hashSetMany_steps (items : List (Bytes × Bytes)) :
    SetSteps k now db (hashSetMany db k items now).db := by
  have := hashSetManyLoop_steps (k := k) (now := now) items (.refl (db := db))
  unfold hashSetMany
  simp only
  split <;> (rename_i he; rw [he] at this; exact this)

end Redka.Model
