/-
  Closed facts about the GENERATED grammar table (`RedkaModel/Generated/Grammar.lean`, regenerated
  from the Go source on every run), checked by kernel evaluation, and the lift of the generic
  pipeline lemmas of `WireParser.lean` to `command.Parse`.
 
-/
import RedkaModel.Proofs.WireParser
import RedkaModel.Model.Wire.Cmd.Parse

namespace Redka.WireProofs

open Redka Redka.Wire

/-- the names of the generated grammars that satisfy `f` -/
def grammarsWhere (f : Grammar → Bool) : List String :=
  (Generated.grammars.filter (fun r => f r.2.2)).map (·.1)

/-- the parse functions whose grammar contains `parser.StringsN` -/
def numkeysParsers : List String :=
  ["zset.ParseZInter", "zset.ParseZInterStore", "zset.ParseZUnion", "zset.ParseZUnionStore"]

theorem stringsN_table : grammarsWhere (fun g => hasStringsNL g.parsers) = numkeysParsers := by
  decide +kernel

theorem enum_table : grammarsWhere (fun g => hasEnumL g.parsers) =
    ["key.ParseScan", "list.ParseLInsert", "zset.ParseZInter", "zset.ParseZInterStore",
     "zset.ParseZUnion", "zset.ParseZUnionStore"] := by
  decide +kernel

theorem unknown_table : grammarsWhere (fun g => hasUnknownL g.parsers) = [] := by
  decide +kernel

/-- slot names are pairwise distinct in every generated grammar -/
theorem slots_nodup_table :
    Generated.grammars.all (fun r => decide (slotsOfL r.2.2.parsers).Nodup) = true := by
  decide +kernel

/-- wherever a generated grammar has a slot `key`, it is one of the positional slots -/
theorem key_positional_table :
    Generated.grammars.all (fun r =>
      !(slotsOfL r.2.2.parsers).contains "key" || (slotsOfL (posParsers r.2.2)).contains "key") = true := by
  decide +kernel

def firstIsKey (g : Grammar) : Bool :=
  match g.parsers with
  | .string s :: _ => s == "key"
  | _ => false

/-- … in fact the first one, a `parser.String` -/
theorem key_first_table :
    Generated.grammars.all (fun r => !(slotsOfL r.2.2.parsers).contains "key" || firstIsKey r.2.2) = true := by
  decide +kernel

def isFail (e : PErr) : Step → Bool
  | .fail e' => e == e'
  | _ => false

/-- what a step that consumed its argument stored in a slot -/
def storedBytes (slot : String) : Step → Option Bytes
  | .ret true _ env => some (getBytes env slot)
  | _ => none

def envOf : Outcome → Option Env
  | .ok env => some env
  | _ => none

def isError (e : PErr) : Outcome → Bool
  | .error e' => e == e'
  | _ => false

/-- D11 (repaired): the arguments `-1 k1` of `ZINTER` are refused with `ErrInvalidArgNum` -/
theorem negative_numkeys_is_refused :
    isError .invalidArgNum (runGrammar Generated.grammar_ZInter [asciiBytes "-1", asciiBytes "k1"]) = true := by
  decide +kernel

/-- D13 (repaired): `parser.Enum` folds case — `BEFORE`, `Before` and `before` are all accepted and stored
as `before`; a value that is not allowed is still a syntax error -/
theorem enum_folds_case :
    storedBytes "where" (runP (.enum "where" ["before", "after"]) [asciiBytes "BEFORE"] []) = some (asciiBytes "before") ∧
    storedBytes "where" (runP (.enum "where" ["before", "after"]) [asciiBytes "Before"] []) = some (asciiBytes "before") ∧
    storedBytes "where" (runP (.enum "where" ["before", "after"]) [asciiBytes "before"] []) = some (asciiBytes "before") ∧
    isFail .syntaxError (runP (.enum "where" ["before", "after"]) [asciiBytes "BEFOR"] []) = true := by
  decide +kernel

/-- helpers for closed examples -/
def bs (s : String) : Bytes := asciiBytes s
def pCmd : ParseOut → Option Cmd
  | .ok c => some c.cmd
  | _ => none
def pErr : ParseOut → Option RErr
  | .error e => some e
  | _ => none


theorem all_ascii_caseVariant {a a' : Bytes} (h : CaseVariant a a') :
    a.all (· < 128) = a'.all (· < 128) := by
  have key : ∀ b : Bytes, b.all (· < 128) = (b.map lowerAscii).all (· < 128) := by
    intro b
    induction b with
    | nil => rfl
    | cons c cs ih => simp only [List.all_cons, List.map_cons, ih, lowerAscii_lt_128]
  rw [key a, key a', h]

/-- **Command names are recognised regardless of letter case.** -/
theorem parse_name_caseVariant (a a' : Bytes) (h : CaseVariant a a') (rest : List Bytes) :
    parse (a' :: rest) = parse (a :: rest) := by
  have e : lowerName a' = lowerName a := by
    unfold lowerName
    rw [all_ascii_caseVariant h]
    split
    · exact congrArg some h.symm
    · rfl
  simp only [parse, e]

end Redka.WireProofs
