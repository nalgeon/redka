/-
  C11 — lemma library: how each statement-level primitive of the model transforms the clauses of
  the invariant (`WFd δ`), with `δ` the excess of the cached length over the child-row count.
-/
import RedkaModel.Proofs.InvEquiv

namespace Redka.InvP

open Redka

variable {δ δ' : Int → Int} {db : DB}

theorem LenOk.shift {db db' : DB} {r r' : KeyRow} (h : LenOk δ db r)
    (hty : r'.ty = r.ty) (hlen : r'.ty ≠ TString → r'.len = r.len.map (· + d))
    (hlenS : r'.ty = TString → r'.len = r.len)
    (hm : meas db' r'.id + δ' r'.id = meas db r.id + δ r.id + (if r.ty = TString then 0 else d)) :
    LenOk δ' db' r' := by
  constructor
  · intro hs
    have hs' : r.ty = TString := hty ▸ hs
    have := h.1 hs'
    rw [if_pos hs'] at hm
    exact ⟨(hlenS hs).trans this.1, by omega⟩
  · intro hs
    have hs' : r.ty ≠ TString := hty ▸ hs
    have := h.2 hs'
    rw [if_neg hs'] at hm
    rw [hlen hs, this, Option.map_some]
    congr 1; omega

theorem LenOk.same {db db' : DB} {r : KeyRow} (h : LenOk δ db r)
    (hm : meas db' r.id + δ' r.id = meas db r.id + δ r.id) : LenOk δ' db' r := by
  refine ⟨fun hs => ?_, fun hs => ?_⟩
  · have := h.1 hs; exact ⟨this.1, by omega⟩
  · have := h.2 hs; rw [this]; congr 1; omega

theorem WFd.congr (h : WFd δ db) (hδ : ∀ r ∈ db.keys, δ' r.id = δ r.id) : WFd δ' db :=
  { h with cnt := fun r hr => (h.cnt r hr).same (by rw [hδ r hr]) }

theorem Owner.mono {db db' : DB} {kid ty : Int} (ho : Owner db kid ty)
    (hk : ∀ r ∈ db.keys, ∃ r' ∈ db'.keys, r'.id = r.id ∧ r'.ty = r.ty) : Owner db' kid ty := by
  obtain ⟨r, hr, hid, hty⟩ := ho
  obtain ⟨r', hr', hid', hty'⟩ := hk r hr
  exact ⟨r', hr', hid'.trans hid, hty'.trans hty⟩

theorem Owner.not_string {δ : Int → Int} {db : DB} (h : WFd δ db) {kid ty : Int} (ho : Owner db kid ty)
    (hty : ty ≠ TString) : ∀ r ∈ db.keys, r.id = kid → r.ty ≠ TString :=
  fun _ hr e hs => hty ((ho.ty_eq h.uId hr e).symm.trans hs)

theorem Owner.updKey {db : DB} {kid ty : Int} (ho : Owner db kid ty) (id : Int) (f : KeyRow → KeyRow)
    (hf : ∀ r, (f r).id = r.id ∧ (f r).ty = r.ty) : Owner (db.updKey id f) kid ty := by
  apply ho.mono
  intro r hr
  unfold DB.updKey
  refine ⟨_, List.mem_map.2 ⟨r, hr, rfl⟩, ?_⟩
  split
  · exact hf r
  · exact ⟨rfl, rfl⟩

theorem WFd.meas_fresh (h : WFd δ db) {id : Int} (hid : ∀ o ∈ db.keys, o.id ≠ id) :
    meas db id = 0 := by
  have no : ∀ t, ¬ Owner db id t := fun t ⟨o, ho, e, _⟩ => hid o ho e
  simp only [meas, cS, cL, cT, cH, cZ]
  rw [filter_kid_nil (·.kid) db.strs id (fun x hx e => no _ (e ▸ h.oS x hx)),
      filter_kid_nil (·.kid) db.lists id (fun x hx e => no _ (e ▸ h.oL x hx)),
      filter_kid_nil (·.kid) db.sets id (fun x hx e => no _ (e ▸ h.oT x hx)),
      filter_kid_nil (·.kid) db.hashes id (fun x hx e => no _ (e ▸ h.oH x hx)),
      filter_kid_nil (·.kid) db.zsets id (fun x hx e => no _ (e ▸ h.oZ x hx))]
  rfl

theorem lt_succ_maxD {α} (f : α → Int) (l : List α) : ∀ x ∈ l, f x < maxD 0 (l.map f) + 1 := by
  intro x hx
  have := le_maxD 0 (l.map f) (f x) (List.mem_map.2 ⟨x, hx, rfl⟩)
  omega

theorem id_lt_nextKeyId (db : DB) : ∀ r ∈ db.keys, r.id < db.nextKeyId := by
  unfold DB.nextKeyId; exact lt_succ_maxD (·.id) db.keys

theorem rowid_lt_nextSetRowid (db : DB) : ∀ r ∈ db.sets, r.rowid < db.nextSetRowid := by
  unfold DB.nextSetRowid; exact lt_succ_maxD (·.rowid) db.sets

theorem rowid_lt_nextHashRowid (db : DB) : ∀ r ∈ db.hashes, r.rowid < db.nextHashRowid := by
  unfold DB.nextHashRowid; exact lt_succ_maxD (·.rowid) db.hashes

theorem rowid_lt_nextZRowid (db : DB) : ∀ r ∈ db.zsets, r.rowid < db.nextZRowid := by
  unfold DB.nextZRowid; exact lt_succ_maxD (·.rowid) db.zsets

/-- replacing the key table: every old key id keeps a row of its type, so the owner clauses survive;
the caller owes the clauses about the new key rows -/
theorem WFd.setKeys (h : WFd δ db) (ks : List KeyRow)
    (hkeep : ∀ r ∈ db.keys, ∃ r' ∈ ks, r'.id = r.id ∧ r'.ty = r.ty)
    (hty : ∀ r ∈ ks, 1 ≤ r.ty ∧ r.ty ≤ 5) (hcnt : ∀ r ∈ ks, LenOk δ' db r)
    (hid : ks.Pairwise (fun a b => a.id ≠ b.id)) (hkey : ks.Pairwise (fun a b => a.key ≠ b.key)) :
    WFd δ' { db with keys := ks } :=
  { h with
    ty := hty, cnt := hcnt, uId := hid, uKey := hkey
    oS := fun x hx => (h.oS x hx).mono hkeep, oL := fun x hx => (h.oL x hx).mono hkeep
    oT := fun x hx => (h.oT x hx).mono hkeep, oH := fun x hx => (h.oH x hx).mono hkeep
    oZ := fun x hx => (h.oZ x hx).mono hkeep }

theorem WFd.mapKeys (h : WFd δ db) (g : KeyRow → KeyRow)
    (hid : ∀ r ∈ db.keys, (g r).id = r.id) (hty : ∀ r ∈ db.keys, (g r).ty = r.ty)
    (hkey : (db.keys.map g).Pairwise (fun a b => a.key ≠ b.key))
    (hlen : ∀ r ∈ db.keys, LenOk δ' db (g r)) :
    WFd δ' { db with keys := db.keys.map g } := by
  refine h.setKeys _ (fun r hr => ⟨g r, List.mem_map.2 ⟨r, hr, rfl⟩, hid r hr, hty r hr⟩) ?_ ?_ ?_ hkey
  · intro r' hr'
    obtain ⟨r, hr, rfl⟩ := List.mem_map.1 hr'
    rw [hty r hr]; exact h.ty r hr
  · intro r' hr'
    obtain ⟨r, hr, rfl⟩ := List.mem_map.1 hr'
    exact hlen r hr
  · rw [List.pairwise_map]
    exact h.uId.imp_of_mem (fun ha hb hab => by rw [hid _ ha, hid _ hb]; exact hab)

theorem pairwise_key_map {l : List KeyRow} (h : l.Pairwise (fun a b => a.key ≠ b.key))
    (g : KeyRow → KeyRow) (hkey : ∀ r ∈ l, (g r).key = r.key) :
    (l.map g).Pairwise (fun a b => a.key ≠ b.key) := by
  rw [List.pairwise_map]
  exact h.imp_of_mem (fun ha hb hab => by rw [hkey _ ha, hkey _ hb]; exact hab)

/-- `update rkey set … where id = ?` that keeps id, name and type and moves `len` by `d` -/
theorem WFd.updKey (h : WFd δ db) (id : Int) (f : KeyRow → KeyRow) (d : Int)
    (hf : ∀ r ∈ db.keys, r.id = id →
      (f r).id = r.id ∧ (f r).key = r.key ∧ (f r).ty = r.ty ∧ (f r).len = r.len.map (· + d))
    (hs : ∀ r ∈ db.keys, r.id = id → r.ty = TString → d = 0) :
    WFd (fun i => if i = id then δ i + d else δ i) (db.updKey id f) := by
  unfold DB.updKey
  apply h.mapKeys
  · intro r hr; split
    · rename_i e; exact (hf r hr (by simpa using e)).1
    · rfl
  · intro r hr; split
    · rename_i e; exact (hf r hr (by simpa using e)).2.2.1
    · rfl
  · apply pairwise_key_map h.uKey
    intro r hr; split
    · rename_i e; exact (hf r hr (by simpa using e)).2.1
    · rfl
  · intro r hr
    split
    · rename_i e
      have e : r.id = id := by simpa using e
      obtain ⟨h1, _, h3, h4⟩ := hf r hr e
      refine (h.cnt r hr).shift (d := d) h3 (fun _ => h4) (fun hs => ?_) ?_
      · rw [h4]; have := (h.cnt r hr).1 (h3 ▸ hs); rw [this.1]; rfl
      · rw [h1]; simp only [e, if_true]
        split
        · rename_i hs'; rw [hs r hr e hs']; omega
        · omega
    · rename_i e
      have e : r.id ≠ id := by simpa using e
      exact (h.cnt r hr).same (by simp [e])

/-- An edit of one child table left the excess `c` at the one key `kid`, of a collection type; the statement that
moves that key's `len` by `d = -c` restores the invariant. -/
theorem WFd.settle {c d kid ty : Int} (h : WFd (fun i => if i = kid then c else 0) db)
    (ho : Owner db kid ty) (hty : ty ≠ TString) (hcd : c + d = 0) (f : KeyRow → KeyRow)
    (hf : ∀ r ∈ db.keys, r.id = kid →
      (f r).id = r.id ∧ (f r).key = r.key ∧ (f r).ty = r.ty ∧ (f r).len = r.len.map (· + d)) :
    WF (db.updKey kid f) :=
  (h.updKey kid f d hf (fun r hr e hs => absurd hs (ho.not_string h hty r hr e))).congr fun o _ => by
    show (0 : Int) = if o.id = kid then (if o.id = kid then c else 0) + d else (if o.id = kid then c else 0)
    split <;> omega

/-! ### replacing one child table: the caller owes owners, uniqueness and the count balance -/

theorem WFd.setStrs (h : WFd δ db) (l : List StrRow)
    (ho : ∀ x ∈ l, Owner db x.kid TString)
    (huS : l.Pairwise (fun a b => a.kid ≠ b.kid))
    (hc : ∀ r ∈ db.keys, ((l.filter (fun x => x.kid == r.id)).length : Int) + δ' r.id
        = (cS db r.id : Int) + δ r.id) :
    WFd δ' { db with strs := l } :=
  { h with oS := ho, uS := huS, cnt := fun r hr => (h.cnt r hr).same (by
      have := hc r hr
      simp only [meas, cS, cL, cT, cH, cZ] at this ⊢
      omega) }

theorem WFd.setLists (h : WFd δ db) (l : List ListRow)
    (ho : ∀ x ∈ l, Owner db x.kid TList)
    (huL : l.Pairwise (fun a b => (a.kid, a.pos) ≠ (b.kid, b.pos)))
    (hc : ∀ r ∈ db.keys, ((l.filter (fun x => x.kid == r.id)).length : Int) + δ' r.id
        = (cL db r.id : Int) + δ r.id) :
    WFd δ' { db with lists := l } :=
  { h with oL := ho, uL := huL, cnt := fun r hr => (h.cnt r hr).same (by
      have := hc r hr
      simp only [meas, cS, cL, cT, cH, cZ] at this ⊢
      omega) }

theorem WFd.setSets (h : WFd δ db) (l : List SetRow)
    (ho : ∀ x ∈ l, Owner db x.kid TSet)
    (huT : l.Pairwise (fun a b => (a.kid, a.elem) ≠ (b.kid, b.elem)))
    (hrT : l.Pairwise (fun a b => a.rowid ≠ b.rowid))
    (hc : ∀ r ∈ db.keys, ((l.filter (fun x => x.kid == r.id)).length : Int) + δ' r.id
        = (cT db r.id : Int) + δ r.id) :
    WFd δ' { db with sets := l } :=
  { h with oT := ho, uT := huT, rT := hrT, cnt := fun r hr => (h.cnt r hr).same (by
      have := hc r hr
      simp only [meas, cS, cL, cT, cH, cZ] at this ⊢
      omega) }

theorem WFd.setHashes (h : WFd δ db) (l : List HashRow)
    (ho : ∀ x ∈ l, Owner db x.kid THash)
    (huH : l.Pairwise (fun a b => (a.kid, a.field) ≠ (b.kid, b.field)))
    (hrH : l.Pairwise (fun a b => a.rowid ≠ b.rowid))
    (hc : ∀ r ∈ db.keys, ((l.filter (fun x => x.kid == r.id)).length : Int) + δ' r.id
        = (cH db r.id : Int) + δ r.id) :
    WFd δ' { db with hashes := l } :=
  { h with oH := ho, uH := huH, rH := hrH, cnt := fun r hr => (h.cnt r hr).same (by
      have := hc r hr
      simp only [meas, cS, cL, cT, cH, cZ] at this ⊢
      omega) }

theorem WFd.setZSets (h : WFd δ db) (l : List ZRow)
    (ho : ∀ x ∈ l, Owner db x.kid TZSet)
    (huZ : l.Pairwise (fun a b => (a.kid, a.elem) ≠ (b.kid, b.elem)))
    (hrZ : l.Pairwise (fun a b => a.rowid ≠ b.rowid))
    (hc : ∀ r ∈ db.keys, ((l.filter (fun x => x.kid == r.id)).length : Int) + δ' r.id
        = (cZ db r.id : Int) + δ r.id) :
    WFd δ' { db with zsets := l } :=
  { h with oZ := ho, uZ := huZ, rZ := hrZ, cnt := fun r hr => (h.cnt r hr).same (by
      have := hc r hr
      simp only [meas, cS, cL, cT, cH, cZ] at this ⊢
      omega) }

theorem length_filter_append_one {α} (p : α → Bool) (l : List α) (x : α) :
    ((l ++ [x]).filter p).length = (l.filter p).length + (if p x then 1 else 0) := by
  rw [List.filter_append, List.length_append]
  cases h : p x <;> simp [h]

theorem pairwise_append_one {α} {R : α → α → Prop} {l : List α} (h : l.Pairwise R) (x : α)
    (hx : ∀ y ∈ l, R y x) : (l ++ [x]).Pairwise R := by
  rw [List.pairwise_append]
  exact ⟨h, List.pairwise_singleton _ _, fun a ha b hb => by
    rw [List.mem_singleton] at hb; subst hb; exact hx a ha⟩

theorem length_filter_keep {α} (p keep : α → Bool) (l : List α) :
    (l.filter p).length
      = ((l.filter keep).filter p).length + (l.filter (fun x => p x && !keep x)).length := by
  rw [length_filter_and_not p keep l, List.filter_filter]

theorem length_filter_map_kid {α} (kidf : α → Int) (g : α → α) (hg : ∀ x, kidf (g x) = kidf x)
    (l : List α) (i : Int) :
    ((l.map g).filter (fun x => kidf x == i)).length = (l.filter (fun x => kidf x == i)).length := by
  rw [List.filter_map, List.length_map]
  congr 1
  apply List.filter_congr
  intro x _; simp [hg x]

theorem count_append {α} (kidf : α → Int) (l : List α) (x : α) (i : Int) :
    (((l ++ [x]).filter (fun y => kidf y == i)).length : Int)
      = (l.filter (fun y => kidf y == i)).length + (if i = kidf x then 1 else 0) := by
  rw [length_filter_append_one]
  by_cases e : i = kidf x
  · simp [e]
  · have : (kidf x == i) = false := by simpa using fun e' => e e'.symm
    simp [e, this]

theorem count_remove {α} (kidf : α → Int) (q : α → Bool) (l : List α) (kid i : Int) :
    (((l.filter (fun x => !(kidf x == kid && q x))).filter (fun x => kidf x == i)).length : Int)
      + (if i = kid then ((l.filter (fun x => kidf x == kid && q x)).length : Int) else 0)
      = (l.filter (fun x => kidf x == i)).length := by
  have := length_filter_keep (fun x => kidf x == i) (fun x => !(kidf x == kid && q x)) l
  rw [this]
  by_cases e : i = kid
  · subst e
    have : l.filter (fun x => kidf x == i && !!(kidf x == i && q x))
        = l.filter (fun x => kidf x == i && q x) := by
      apply List.filter_congr; intro x _; cases kidf x == i <;> simp
    rw [this]; simp
  · have : l.filter (fun x => kidf x == i && !!(kidf x == kid && q x)) = [] := by
      rw [List.filter_eq_nil_iff]; intro x _
      by_cases e1 : kidf x = i
      · have : (kidf x == kid) = false := by simpa [e1] using e
        simp [this]
      · simp [e1]
    rw [this]; simp [e]

theorem length_filter_le_one {α} {R : α → α → Prop} {l : List α} (h : l.Pairwise R) (p : α → Bool)
    (hp : ∀ a b, p a = true → p b = true → ¬ R a b) : (l.filter p).length ≤ 1 := by
  have h' := h.filter p
  cases hl : l.filter p with
  | nil => simp
  | cons a t =>
    cases t with
    | nil => simp
    | cons b t =>
      exfalso
      rw [hl] at h'
      have ha : p a = true := (List.mem_filter.1 (hl ▸ List.mem_cons_self)).2
      have hb : p b = true :=
        (List.mem_filter.1 (hl ▸ List.mem_cons_of_mem _ List.mem_cons_self)).2
      exact hp a b ha hb ((List.pairwise_cons.1 h').1 b List.mem_cons_self)

theorem WFd.appendKey (h : WFd δ db) (r : KeyRow) (hid : ∀ o ∈ db.keys, o.id ≠ r.id)
    (hkey : ∀ o ∈ db.keys, o.key ≠ r.key) (hty : 1 ≤ r.ty ∧ r.ty ≤ 5)
    (hlen : LenOk δ' db r) (hδ : ∀ o ∈ db.keys, δ' o.id = δ o.id) :
    WFd δ' { db with keys := db.keys ++ [r] } := by
  refine h.setKeys _ (fun o ho => ⟨o, List.mem_append_left _ ho, rfl, rfl⟩) ?_ ?_
    (pairwise_append_one h.uId r hid) (pairwise_append_one h.uKey r hkey)
  · intro o ho
    rcases List.mem_append.1 ho with ho | ho
    · exact h.ty o ho
    · rw [List.mem_singleton] at ho; subst ho; exact hty
  · intro o ho
    rcases List.mem_append.1 ho with ho | ho
    · exact (h.cnt o ho).same (by rw [hδ o ho])
    · rw [List.mem_singleton] at ho; subst ho; exact hlen

theorem contains_deleted_ids (h : WFd δ db) (p : KeyRow → Bool) {r : KeyRow} (hr : r ∈ db.keys) :
    ((db.keys.filter p).map (·.id)).contains r.id = p r := by
  cases hp : p r
  · cases hc : ((db.keys.filter p).map (·.id)).contains r.id
    · rfl
    · simp only [List.contains_eq_mem, List.mem_map, List.mem_filter, decide_eq_true_eq] at hc
      obtain ⟨o, ⟨ho, hpo⟩, e⟩ := hc
      have : o = r := eq_of_id_eq h.uId ho hr e
      subst this; rw [hp] at hpo; cases hpo
  · simp only [List.contains_eq_mem, List.mem_map, List.mem_filter, decide_eq_true_eq]
    exact ⟨r, ⟨hr, hp⟩, rfl⟩

theorem filter_kid_not_gone {α} (kidf : α → Int) (l : List α) {ids : List Int} {id : Int}
    (h : ids.contains id = false) :
    (l.filter (fun x => !ids.contains (kidf x))).filter (fun x => kidf x == id)
      = l.filter (fun x => kidf x == id) := by
  apply filter_filter_other
  intro x _ e
  rw [eq_of_beq e, h]; rfl

/-- a key row whose id is not among the removed ones is kept, so it still owns what it owned
(no uniqueness of ids needed) -/
theorem Owner.deleteKeysWhere {db db' : DB} {p : KeyRow → Bool} {kid ty : Int} (ho : Owner db kid ty)
    (hk : db'.keys = db.keys.filter (fun r => !p r))
    (hc : ((db.keys.filter p).map (·.id)).contains kid = false) : Owner db' kid ty := by
  obtain ⟨o, ho, e, hty⟩ := ho
  refine ⟨o, hk ▸ List.mem_filter.2 ⟨ho, ?_⟩, e, hty⟩
  cases hp : p o
  · rfl
  · have : ((db.keys.filter p).map (·.id)).contains kid = true := by
      rw [List.contains_iff_mem]
      exact List.mem_map.2 ⟨o, List.mem_filter.2 ⟨ho, hp⟩, e⟩
    rw [hc] at this; cases this

theorem owners_deleteKeysWhere {α} {l : List α} {kidf : α → Int} {ty : Int} {db db' : DB}
    {p : KeyRow → Bool} (hk : db'.keys = db.keys.filter (fun r => !p r))
    (ho : ∀ x ∈ l, Owner db (kidf x) ty) :
    ∀ x ∈ l.filter (fun x => !((db.keys.filter p).map (·.id)).contains (kidf x)),
      Owner db' (kidf x) ty :=
  fun x hx => (ho x (List.mem_filter.1 hx).1).deleteKeysWhere hk
    (by simpa using (List.mem_filter.1 hx).2)

theorem cascade_nil (db : DB) : db.cascade [] = db := by
  unfold DB.cascade
  split
  · cases db; simp
  · rfl

/-- a `delete from rkey where …` that reports 0 rows has changed nothing -/
theorem deleteKeysWhere_zero {db : DB} {p : KeyRow → Bool} (h : (db.deleteKeysWhere p).2 = 0) :
    (db.deleteKeysWhere p).1 = db := by
  unfold DB.deleteKeysWhere at h ⊢
  dsimp only at h ⊢
  have hg : db.keys.filter p = [] := eq_nil_of_length_cast_eq_zero h
  rw [hg, filter_not_of_filter_nil hg]
  exact cascade_nil _

/-- `delete from rkey where …` with `foreign_keys = on`: the children go with their keys -/
theorem WFd.deleteKeysWhere (h : WFd δ db) (hfk : db.fk = true) (p : KeyRow → Bool) :
    WFd δ (db.deleteKeysWhere p).1 := by
  simp only [DB.deleteKeysWhere, DB.cascade, hfk, if_true]
  refine
    { ty := fun r hr => h.ty r (List.mem_filter.1 hr).1
      cnt := ?_
      oS := owners_deleteKeysWhere rfl h.oS, oL := owners_deleteKeysWhere rfl h.oL
      oT := owners_deleteKeysWhere rfl h.oT, oH := owners_deleteKeysWhere rfl h.oH
      oZ := owners_deleteKeysWhere rfl h.oZ
      uId := h.uId.filter _, uKey := h.uKey.filter _, uS := h.uS.filter _, uL := h.uL.filter _
      uT := h.uT.filter _, uH := h.uH.filter _, uZ := h.uZ.filter _
      rT := h.rT.filter _, rH := h.rH.filter _, rZ := h.rZ.filter _ }
  intro r hr
  obtain ⟨hr, hp⟩ := List.mem_filter.1 hr
  -- the kept row's id is not among the removed ones: ids are unique
  have hg : ((db.keys.filter p).map (·.id)).contains r.id = false := by
    rw [contains_deleted_ids h p hr]; simpa using hp
  refine (h.cnt r hr).same ?_
  simp only [meas, cS, cL, cT, cH, cZ]
  rw [filter_kid_not_gone (·.kid) db.strs hg, filter_kid_not_gone (·.kid) db.lists hg,
    filter_kid_not_gone (·.kid) db.sets hg, filter_kid_not_gone (·.kid) db.hashes hg,
    filter_kid_not_gone (·.kid) db.zsets hg]

theorem findKey_some {db : DB} {k : Bytes} {r : KeyRow} (h : db.findKey k = some r) :
    r ∈ db.keys ∧ r.key = k := by
  unfold DB.findKey at h
  exact ⟨List.mem_of_find?_eq_some h, by simpa using List.find?_some h⟩

theorem findKey_none {db : DB} {k : Bytes} (h : db.findKey k = none) :
    ∀ o ∈ db.keys, o.key ≠ k := by
  unfold DB.findKey at h
  intro o ho
  simpa using List.find?_eq_none.1 h o ho

theorem liveKey_some {db : DB} {k : Bytes} {now : Int} {r : KeyRow} (h : db.liveKey k now = some r) :
    r ∈ db.keys ∧ r.key = k ∧ r.live now = true := by
  unfold DB.liveKey at h
  have := List.find?_some h
  simp only [Bool.and_eq_true, beq_iff_eq] at this
  exact ⟨List.mem_of_find?_eq_some h, this.1, this.2⟩

theorem liveKeyT_some {db : DB} {k : Bytes} {ty now : Int} {r : KeyRow}
    (h : db.liveKeyT k ty now = some r) : r ∈ db.keys ∧ r.key = k ∧ r.ty = ty := by
  unfold DB.liveKeyT at h
  have := List.find?_some h
  simp only [Bool.and_eq_true, beq_iff_eq] at this
  exact ⟨List.mem_of_find?_eq_some h, this.1.1, this.1.2⟩

theorem liveKeyT_owner {db : DB} {k : Bytes} {ty now : Int} {r : KeyRow}
    (h : db.liveKeyT k ty now = some r) : Owner db r.id ty :=
  ⟨r, (liveKeyT_some h).1, rfl, (liveKeyT_some h).2.2⟩

theorem keyUpsert_cases {db : DB} {k : Bytes} {ty : Int} {onNew : Int → KeyRow}
    {onOld : KeyRow → KeyRow} {db' : DB} {r : KeyRow}
    (h : keyUpsert db k ty onNew onOld = .ok (db', r)) :
    (db.findKey k = none ∧ r = onNew db.nextKeyId ∧ db' = { db with keys := db.keys ++ [r] }) ∨
    (∃ old, db.findKey k = some old ∧ old.ty = ty ∧ r = onOld old ∧
      db' = db.updKey old.id (fun _ => r)) := by
  unfold keyUpsert at h
  split at h
  · rename_i hf
    simp only [Except.ok.injEq, Prod.mk.injEq] at h
    exact .inl ⟨hf, h.2.symm, by rw [← h.1, h.2]⟩
  · rename_i old hf
    split at h
    · rename_i hty
      simp only [Except.ok.injEq, Prod.mk.injEq] at h
      exact .inr ⟨old, hf, by simpa using hty, h.2.symm, by rw [← h.1, h.2]⟩
    · cases h

theorem keyUpsert_error {db : DB} {k : Bytes} {ty : Int} {onNew : Int → KeyRow}
    {onOld : KeyRow → KeyRow} {e : Err} (h : keyUpsert db k ty onNew onOld = .error e) :
    e = .keyType := by
  unfold keyUpsert at h
  split at h
  · cases h
  · split at h
    · cases h
    · cases h; rfl

/-- the upsert of a collection key: a new row carries `len = dNew` and no children, an existing
row of the same type gets `len + dOld`; either way the excess at the returned id is `dNew`/`dOld`
and zero elsewhere -/
theorem WF.keyUpsert {db : DB} (h : WF db) {k : Bytes} {ty : Int} {onNew : Int → KeyRow}
    {onOld : KeyRow → KeyRow} {db' : DB} {r : KeyRow} (dNew dOld : Int) (lenNew : Option Int)
    (hty : 1 ≤ ty ∧ ty ≤ 5)
    (hln : (ty = TString → lenNew = none ∧ dNew = 1) ∧ (ty ≠ TString → lenNew = some dNew))
    (hdo : ty = TString → dOld = 0)
    (he : keyUpsert db k ty onNew onOld = .ok (db', r))
    (hnew : ∀ id, (onNew id).id = id ∧ (onNew id).key = k ∧ (onNew id).ty = ty ∧
      (onNew id).len = lenNew)
    (hold : ∀ o, (onOld o).id = o.id ∧ (onOld o).key = o.key ∧ (onOld o).ty = o.ty ∧
      (onOld o).len = o.len.map (· + dOld)) :
    ∃ d, (d = dNew ∨ d = dOld) ∧ WFd (fun i => if i = r.id then d else 0) db' ∧
      Owner db' r.id ty ∧ r ∈ db'.keys ∧ r.key = k ∧ r.ty = ty ∧
      db'.strs = db.strs ∧ db'.lists = db.lists ∧ db'.sets = db.sets ∧ db'.hashes = db.hashes ∧
      db'.zsets = db.zsets ∧ db'.fk = db.fk := by
  rcases keyUpsert_cases he with ⟨hf, hr, hdb⟩ | ⟨old, hf, hoty, hr, hdb⟩
  · obtain ⟨n1, n2, n3, n4⟩ := hnew db.nextKeyId
    rw [← hr] at n1 n2 n3 n4
    have fresh : ∀ o ∈ db.keys, o.id ≠ r.id := fun o ho => by
      have := id_lt_nextKeyId db o ho; omega
    have hmem : r ∈ db'.keys := by rw [hdb]; exact List.mem_append_right _ (List.mem_singleton.2 rfl)
    refine ⟨dNew, .inl rfl, ?_, ⟨r, hmem, rfl, n3⟩, hmem, n2, n3, by rw [hdb], by rw [hdb], by rw [hdb],
      by rw [hdb], by rw [hdb], by rw [hdb]⟩
    rw [hdb]
    refine WFd.appendKey h r fresh (fun o ho => n2 ▸ findKey_none hf o ho) (n3 ▸ hty) ?_ ?_
    · refine ⟨fun hs => ?_, fun hs => ?_⟩
      · rw [n4, h.meas_fresh fresh, (hln.1 (n3 ▸ hs)).1, (hln.1 (n3 ▸ hs)).2]; simp
      · rw [n4, h.meas_fresh fresh, hln.2 (n3 ▸ hs)]; simp
    · intro o ho; simp [fresh o ho]
  · obtain ⟨hom, hok⟩ := findKey_some hf
    obtain ⟨o1, o2, o3, o4⟩ := hold old
    rw [← hr] at o1 o2 o3 o4
    have hmem : r ∈ db'.keys := by
      rw [hdb]; unfold DB.updKey
      exact List.mem_map.2 ⟨old, hom, by simp⟩
    refine ⟨dOld, .inr rfl, ?_, ⟨r, hmem, rfl, o3.trans hoty⟩, hmem, o2.trans hok, o3.trans hoty,
      by rw [hdb]; rfl, by rw [hdb]; rfl,
      by rw [hdb]; rfl, by rw [hdb]; rfl, by rw [hdb]; rfl, by rw [hdb]; rfl⟩
    rw [hdb]
    have := WFd.updKey h old.id (fun _ => r) dOld (fun x hx e => by
      have : x = old := eq_of_id_eq h.uId hx hom e
      subst this; exact ⟨o1, o2, o3, o4⟩) (fun x hx e hs => by
      have : x = old := eq_of_id_eq h.uId hx hom e
      subst this; exact hdo (hoty ▸ hs))
    refine this.congr (fun x _ => ?_)
    rw [o1]; simp

/-- the key upsert of `SADD`, `HSET` and `ZADD`: a new row starts with `len = 0`, an existing one keeps its `len`;
no excess arises -/
theorem WF.keyUpsert_plain {db : DB} (h : WF db) {k : Bytes} {ty : Int} {onNew : Int → KeyRow}
    {onOld : KeyRow → KeyRow} {db' : DB} {r : KeyRow} (hty : 2 ≤ ty ∧ ty ≤ 5)
    (he : Redka.keyUpsert db k ty onNew onOld = .ok (db', r))
    (hnew : ∀ id, (onNew id).id = id ∧ (onNew id).key = k ∧ (onNew id).ty = ty ∧
      (onNew id).len = some 0)
    (hold : ∀ o, (onOld o).id = o.id ∧ (onOld o).key = o.key ∧ (onOld o).ty = o.ty ∧
      (onOld o).len = o.len) :
    WF db' ∧ Owner db' r.id ty := by
  have hne : ty ≠ TString := fun e => absurd (e ▸ hty.1) (by decide)
  obtain ⟨d, hd, h1, ho, _⟩ := h.keyUpsert 0 0 (some 0) ⟨by omega, hty.2⟩
    ⟨fun e => absurd e hne, fun _ => rfl⟩ (fun e => absurd e hne) he hnew
    (fun o => by
      obtain ⟨a, b, c, e⟩ := hold o
      exact ⟨a, b, c, by rw [e]; cases o.len <;> simp⟩)
  exact ⟨h1.congr (fun o _ => by rcases hd with rfl | rfl <;> simp), ho⟩

/-- the key upsert of a string write: a new row has no `len` and waits for its value row (excess 1), an existing
one keeps what it has -/
theorem WF.keyUpsert_str {db : DB} (h : WF db) {k : Bytes} {onNew : Int → KeyRow}
    {onOld : KeyRow → KeyRow} {db' : DB} {r : KeyRow}
    (he : Redka.keyUpsert db k TString onNew onOld = .ok (db', r))
    (hnew : ∀ id, (onNew id).id = id ∧ (onNew id).key = k ∧ (onNew id).ty = TString ∧
      (onNew id).len = none)
    (hold : ∀ o, (onOld o).id = o.id ∧ (onOld o).key = o.key ∧ (onOld o).ty = o.ty ∧
      (onOld o).len = o.len) :
    ∃ d, (d = 1 ∨ d = 0) ∧ WFd (fun i => if i = r.id then d else 0) db' ∧ r ∈ db'.keys ∧ r.key = k ∧
      r.ty = TString := by
  obtain ⟨d, hd, h1, _, hr, hk, hty, _⟩ := h.keyUpsert 1 0 none (by decide)
    ⟨fun _ => ⟨rfl, rfl⟩, fun h => absurd rfl h⟩ (fun _ => rfl) he hnew
    (fun o => by
      obtain ⟨a, b, c, e⟩ := hold o
      exact ⟨a, b, c, by rw [e]; cases o.len <;> simp⟩)
  exact ⟨d, hd, h1, hr, hk, hty⟩

end Redka.InvP
