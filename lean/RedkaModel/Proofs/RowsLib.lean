/-
  Facts shared by the repositories of the collection types (sets, hashes, sorted sets; the list
  proofs use those that do not depend on the row shape): they find the key row of a name
  through the type-guarded lookup `liveKeyT` and meet the same four kinds of holder of a name
  (`THolder`, from `Model.kholder`); sets and hashes keep one child row per `(kid, x)` pair.
-/
import RedkaModel.Proofs.KeyRef
import RedkaModel.Proofs.InvEquiv

namespace Redka

theorem DB.liveKeyT_eq_some_iff {db : DB} (hn : (db.keys.map (·.key)).Nodup) {k : Bytes} {ty now : Int}
    {r : KeyRow} :
    db.liveKeyT k ty now = some r ↔ db.findKey k = some r ∧ r.ty = ty ∧ r.live now = true := by
  rw [DB.liveKeyT_eq hn, Option.filter_eq_some_iff, Bool.and_eq_true, beq_iff_eq]

theorem InvP.WF.len_eq {db : DB} (h : InvP.WF db) {r : KeyRow} (hr : r ∈ db.keys) (ht : r.ty ≠ TString) :
    r.len = some (db.childCount r) := by
  rw [(h.cnt r hr).2 ht, (InvP.meas_eq db h.uId h.oS h.oL h.oT h.oH h.oZ hr (h.ty r hr)).2 ht, Int.add_zero]

theorem nodup_of_pair_nodup {α β : Type} (kid : α → Int) (x : α → β) {l : List α}
    (h : (l.map (fun r => (kid r, x r))).Nodup) (id : Int) :
    ((l.filter (fun r => kid r == id)).map x).Nodup := by
  unfold List.Nodup at h ⊢
  rw [List.pairwise_map] at h ⊢
  refine List.Pairwise.imp_of_mem ?_ (List.Pairwise.filter _ h)
  intro a b ha hb hab heq
  have ha := (List.mem_filter.1 ha).2
  have hb := (List.mem_filter.1 hb).2
  simp only [beq_iff_eq] at ha hb
  exact hab (by rw [ha, hb, heq])

/-- The four things a name can be at `now` for a repository that keeps values `mk m` under keys of
type `ty`, each with what its guarded lookup (`… and type = ? and (etime is null or etime > ?)`) and
the abstraction make of it; `view db id` is what the child rows of a key id stand for. -/
inductive THolder {α : Type} (ty : Int) (mk : α → Spec.SVal) (view : DB → Int → α) (now : Int) (db : DB)
    (k : Bytes) : Prop
  | absent (h : db.findKey k = none) (hg : Spec.get (Spec.abs now db) k = none)
      (hl : db.liveKeyT k ty now = none)
  | stale (r : KeyRow) (h : db.findKey k = some r) (hlv : r.live now = false)
      (hg : Spec.get (Spec.abs now db) k = none) (hl : db.liveKeyT k ty now = none)
  | mine (r : KeyRow) (h : db.findKey k = some r) (hlv : r.live now = true) (ht : r.ty = ty)
      (hg : Spec.get (Spec.abs now db) k = some ⟨mk (view db r.id), r.etime⟩)
      (hl : db.liveKeyT k ty now = some r)
  | other (r : KeyRow) (v : Spec.SVal) (h : db.findKey k = some r) (hlv : r.live now = true)
      (ht : r.ty ≠ ty) (hg : Spec.get (Spec.abs now db) k = some ⟨v, r.etime⟩) (hv : ∀ m, v ≠ mk m)
      (hl : db.liveKeyT k ty now = none)

theorem tholder {α : Type} {ty : Int} {mk : α → Spec.SVal} {view : DB → Int → α}
    (hmk : ∀ m, (mk m).ty = ty)
    (hval : ∀ (db : DB) (r : KeyRow), r.ty = ty → Spec.absVal db r = some (mk (view db r.id)))
    {db : DB} (hw : db.WF) (now : Int) (k : Bytes) : THolder ty mk view now db k := by
  have hla := DB.liveKeyT_eq hw.names k ty now
  rcases Model.kholder hw now k with ⟨hf, hg, _⟩ | ⟨r, hf, hl, hg, _⟩ | ⟨r, v, hf, hl, hv, hty, hg, _⟩
  · exact .absent hf hg (by rw [hla, hf]; rfl)
  · exact .stale r hf hl hg (by rw [hla, hf]; simp [Option.filter, hl])
  · by_cases ht : r.ty = ty
    · rw [hval db r ht] at hv
      cases hv
      exact .mine r hf hl ht hg (by rw [hla, hf]; simp [Option.filter, hl, ht])
    · refine .other r v hf hl ht hg ?_ (by rw [hla, hf]; simp [Option.filter, ht])
      rintro m rfl
      exact ht (hty.symm.trans (hmk m))

namespace Spec

theorem put_put {s : State} (hs : Sorted s) (k : Bytes) (e1 e2 : Entry) :
    put (put s k e1) k e2 = put s k e2 := by
  apply sorted_ext ((hs.put k e1).put k e2) (hs.put k e2)
  intro k'
  have h1 := get_put (put s k e1) k e2 k'
  have h2 := get_put s k e1 k'
  have h3 := get_put s k e2 k'
  unfold Spec.get at h1 h2 h3
  rw [h1, h2, h3]
  split <;> rfl

theorem put_self {s : State} (hs : Sorted s) {k : Bytes} {e : Entry} (h : get s k = some e) :
    put s k e = s := by
  apply sorted_ext (hs.put k e) hs
  intro k'
  have h1 := get_put s k e k'
  unfold Spec.get at h1 h
  rw [h1]
  split
  · rename_i hk; rw [← eq_of_beq hk, h]
  · rfl

end Spec

end Redka
