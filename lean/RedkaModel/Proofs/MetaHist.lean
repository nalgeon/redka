/-
  C19 — histories of `DB`-level calls: along any history in which the key row `(i, k)` survives
  (and no call stores into `k`), its version never decreases and strictly grows when its value or
  expiry changed at some step; with non-decreasing clocks its modification time never decreases.
-/
import RedkaModel.Proofs.MetaStep
import RedkaModel.Proofs.InvStep

namespace Redka.MetaProofs

open Redka Redka.Model Redka.Spec Redka.InvP
open Redka.Props.C11 (run dbRun_wf dbRun_fk)

/-- the row with id `i` and name `k` is there before every call and after the last one, and no
call is a store into `k` (a store starts a new history) -/
def Survives (i : Int) (k : Bytes) : List (Op × Int) → DB → Prop
  | [], db => (rowAt db i k).isSome = true
  | p :: ps, db => (rowAt db i k).isSome = true ∧ storeDest p.1 ≠ some k ∧
      Survives i k ps (Model.dbRun p.1 p.2 db).db

/-- at some call of the history the abstract value or the expiry of the row `(i, k)` changed -/
def ChangedIn (i : Int) (k : Bytes) : List (Op × Int) → DB → Prop
  | [], _ => False
  | p :: ps, db =>
    (∃ r r', rowAt db i k = some r ∧ rowAt (Model.dbRun p.1 p.2 db).db i k = some r' ∧
      (absVal db r ≠ absVal (Model.dbRun p.1 p.2 db).db r' ∨ r.etime ≠ r'.etime)) ∨
    ChangedIn i k ps (Model.dbRun p.1 p.2 db).db

/-- every clock of the history is at or after every stored modification time, and the clocks do
not run backwards -/
def Clocked (ops : List (Op × Int)) (db : DB) : Prop :=
  (∀ p ∈ ops, MonoClock p.2 db) ∧ ops.Pairwise (fun p q => p.2 ≤ q.2)

theorem Survives.head {i : Int} {k : Bytes} {ops : List (Op × Int)} {db : DB}
    (h : Survives i k ops db) : (rowAt db i k).isSome = true := by
  cases ops with
  | nil => exact h
  | cons p ps => exact h.1

theorem MonoClock.le {now now' : Int} {db : DB} (h : MonoClock now db) (hle : now ≤ now') :
    MonoClock now' db := fun r hr => by have := h r hr; omega

/-- one induction along the history for both monotonicity results; only the last clause needs the
clocks -/
theorem history_mono (i : Int) (k : Bytes) (ops : List (Op × Int)) :
    ∀ (db : DB), db.Inv → db.fk = true → Survives i k ops db →
    ∀ r r', rowAt db i k = some r → rowAt (run ops db) i k = some r' →
      r.version ≤ r'.version ∧ r.ty = r'.ty ∧ (ChangedIn i k ops db → r.version < r'.version) ∧
      (Clocked ops db → r.mtime ≤ r'.mtime) := by
  induction ops with
  | nil =>
    intro db _ _ _ r r' hr hr'
    cases hr.symm.trans (show rowAt db i k = some r' from hr')
    exact ⟨Int.le_refl _, rfl, False.elim, fun _ => Int.le_refl _⟩
  | cons p ps ih =>
    intro db hinv hfk hsv r r' hr hr'
    obtain ⟨_, hst, hsv'⟩ := hsv
    have hw := dbRun_wf p.1 p.2 db (WF.of_inv hinv) hfk
    obtain ⟨r1, hr1⟩ := Option.isSome_iff_exists.1 hsv'.head
    have hstep := step_cont hinv hst hr hr1
    obtain ⟨h1, h2, h3, h4⟩ := ih _ hw.inv ((dbRun_fk p.1 p.2 db).trans hfk) hsv' r1 r' hr1 hr'
    refine ⟨Int.le_trans hstep.1 h1, hstep.2.2.1.trans h2, fun hch => ?_, fun hck => ?_⟩
    · rcases hch with ⟨x, x', hx, hx', hd⟩ | hch
      · cases hr.symm.trans hx
        cases hr1.symm.trans hx'
        exact Int.lt_of_lt_of_le (hstep.2.2.2.1 hd) h1
      · exact Int.lt_of_le_of_lt hstep.1 (h3 hch)
    · obtain ⟨hmono, hpw⟩ := hck
      rw [List.pairwise_cons] at hpw
      have hm0 : MonoClock p.2 db := hmono p List.mem_cons_self
      have hm1 := db_mono p.1 p.2 db hinv hm0
      exact Int.le_trans (hstep.2.1 hm0) (h4 ⟨fun q hq => hm1.le (hpw.1 q hq), hpw.2⟩)

end Redka.MetaProofs
