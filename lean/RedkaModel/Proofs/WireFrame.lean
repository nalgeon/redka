/-
  Reply framing, the counter: `owed` reads a token list and keeps count of the complete RESP values still expected
  (`*n` opens `n` obligations, every other token closes one), and what each reply writer of `Cmd/Run.lean` produces is
  one complete value.
-/
import RedkaModel.Model.Wire.Cmd.Run

namespace Redka.WireProofs

open Redka Redka.Wire

/-- `owed ts k`: reading the tokens `ts` while `k` complete values are still expected; `some k'`:
all tokens were read and `k'` values are still expected; `none`: a token arrives when nothing is
expected, an array header announces a negative length, or a raw token appears. -/
def owed : List Token → Nat → Option Nat
  | [], k => some k
  | _ :: _, 0 => none
  | t :: ts, k + 1 =>
    match t with
    | .arrayHdr n => if n < 0 then none else owed ts (k + n.toNat)
    | .raw _ => none
    | _ => owed ts k

/-- the token list is exactly `k` complete values -/
def WellFormed (k : Nat) (ts : List Token) : Prop := owed ts k = some 0

/-- the token list is exactly one complete RESP value -/
def wellFormedOne (ts : List Token) : Prop := owed ts 1 = some 0

instance (k : Nat) (ts : List Token) : Decidable (WellFormed k ts) := by
  unfold WellFormed; infer_instance
instance (ts : List Token) : Decidable (wellFormedOne ts) := by
  unfold wellFormedOne; infer_instance

/-- a token that is a complete value on its own -/
def isScalar : Token → Bool
  | .str _ => true
  | .err _ => true
  | .int _ => true
  | .bulk _ => true
  | .null => true
  | _ => false

theorem owed_append (ts us : List Token) (k : Nat) :
    owed (ts ++ us) k = (owed ts k).bind (owed us) := by
  induction ts generalizing k with
  | nil => simp [owed]
  | cons t ts ih =>
    cases k with
    | zero => simp [owed]
    | succ k =>
      cases t <;> simp only [List.cons_append, owed, ih]
      · split <;> simp
      · simp

theorem owed_add (ts : List Token) (k r c : Nat) (h : owed ts k = some r) : owed ts (k + c) = some (r + c) := by
  induction ts generalizing k r with
  | nil => simp only [owed] at h ⊢; cases h; rfl
  | cons t ts ih =>
    cases k with
    | zero => simp [owed] at h
    | succ k =>
      rw [show k + 1 + c = (k + c) + 1 by omega]
      cases t <;> simp only [owed] at h ⊢
      case arrayHdr n =>
        split at h
        · cases h
        · next hn =>
          rw [if_neg hn, show k + c + n.toNat = (k + n.toNat) + c by omega]
          exact ih _ _ h
      all_goals first | exact ih _ _ h | cases h

theorem owed_scalar (t : Token) (ht : isScalar t = true) (ts : List Token) (k : Nat) :
    owed (t :: ts) (k + 1) = owed ts k := by
  cases t <;> first | rfl | cases ht

theorem owed_hdr (n : Nat) (ts : List Token) (k : Nat) :
    owed (.arrayHdr (n : Int) :: ts) (k + 1) = owed ts (k + n) := by
  simp only [owed]
  rw [if_neg (by omega)]
  simp

theorem owed_scalars (ts : List Token) (h : ts.all isScalar = true) (c : Nat) :
    owed ts (ts.length + c) = some c := by
  induction ts with
  | nil => simp [owed]
  | cons t ts ih =>
    simp only [List.all_cons, Bool.and_eq_true] at h
    rw [show (t :: ts).length + c = (ts.length + c) + 1 by simp; omega, owed_scalar t h.1]
    exact ih h.2

theorem wf_scalar (t : Token) (ht : isScalar t = true) : wellFormedOne [t] := by
  unfold wellFormedOne
  rw [owed_scalar t ht]; rfl

theorem wf_array_scalars (n : Nat) (ts : List Token) (hlen : ts.length = n)
    (h : ts.all isScalar = true) : wellFormedOne (.arrayHdr (n : Int) :: ts) := by
  unfold wellFormedOne
  rw [owed_hdr, ← hlen]
  simpa using owed_scalars ts h 0

theorem WellFormed.append {a b : Nat} {ts us : List Token} (h1 : WellFormed a ts) (h2 : WellFormed b us) :
    WellFormed (a + b) (ts ++ us) := by
  unfold WellFormed at *
  rw [owed_append, owed_add ts a 0 b h1]
  simpa using h2


theorem noErr_ok : ∀ (e : Err) (toks : List Token) (f : Bool),
    (fun _ => none : Err → Option (List Token × Bool)) e = some (toks, f) → wellFormedOne toks := by
  intro e toks f h; cases h

theorem onNotFound_ok (t : Token) (ht : isScalar t = true) : ∀ (e : Err) (toks : List Token) (f : Bool),
    onNotFound [t] e = some (toks, f) → wellFormedOne toks := by
  intro e toks f h
  cases e <;> simp only [onNotFound] at h <;> cases h
  exact wf_scalar t ht

theorem asInt_ok : ∀ v toks, asInt v = some toks → wellFormedOne toks := by
  intro v toks h
  cases v <;> simp only [asInt] at h <;> cases h
  exact wf_scalar _ rfl

theorem asBool_ok : ∀ v toks, asBool v = some toks → wellFormedOne toks := by
  intro v toks h
  cases v <;> simp only [asBool] at h <;> cases h
  exact wf_scalar _ rfl

theorem asOK_ok : ∀ v toks, asOK v = some toks → wellFormedOne toks := by
  intro v toks h
  cases h
  exact wf_scalar _ rfl

theorem vBulk_scalar {v : Val} {t : Token} (h : vBulk v = some t) : isScalar t = true := by
  cases v <;> simp only [vBulk] at h <;> cases h <;> rfl

theorem asBulk_ok : ∀ v toks, asBulk v = some toks → wellFormedOne toks := by
  intro v toks h
  obtain ⟨t, ht, rfl⟩ := Option.map_eq_some_iff.mp h
  exact wf_scalar t (vBulk_scalar ht)

theorem floatTok_scalar {s : Score} {t : Token} (h : floatTok s = some t) : isScalar t = true := by
  obtain ⟨b, _, rfl⟩ := Option.map_eq_some_iff.mp h
  rfl

theorem asFloat_ok : ∀ v toks, asFloat v = some toks → wellFormedOne toks := by
  intro v toks h
  cases v <;> try cases h
  obtain ⟨t, ht, rfl⟩ := Option.map_eq_some_iff.mp h
  exact wf_scalar t (floatTok_scalar ht)

theorem const_ok (t : Token) (ht : isScalar t = true) :
    ∀ (v : Val) toks, (fun _ => some [t] : Val → Option (List Token)) v = some toks → wellFormedOne toks := by
  intro v toks h; cases h; exact wf_scalar t ht

theorem vBulks_shape : ∀ (l : List Val) (ts : List Token), vBulks l = some ts →
    ts.length = l.length ∧ ts.all isScalar = true
  | [], ts, h => by cases h; exact ⟨rfl, rfl⟩
  | v :: vs, ts, h => by
    simp only [vBulks] at h
    split at h
    · next t ts' hv hr =>
      cases h
      have := vBulks_shape vs ts' hr
      simp [this.1, this.2, vBulk_scalar hv]
    · cases h

theorem arrayOfBulks_ok : ∀ v toks, arrayOfBulks v = some toks → wellFormedOne toks := by
  intro v toks h
  cases v <;> try cases h
  obtain ⟨ts, hts, rfl⟩ := Option.map_eq_some_iff.mp h
  exact wf_array_scalars _ _ (vBulks_shape _ ts hts).1 (vBulks_shape _ ts hts).2

theorem keyBulks_shape : ∀ (l : List Val) (ts : List Token), keyBulks l = some ts →
    ts.length = l.length ∧ ts.all isScalar = true
  | [], ts, h => by cases h; exact ⟨rfl, rfl⟩
  | v :: vs, ts, h => by
    cases v <;> try cases h
    obtain ⟨ts', hr, rfl⟩ := Option.map_eq_some_iff.mp h
    have := keyBulks_shape vs ts' hr
    simp [this.1, this.2, isScalar]

theorem lookupToks_shape (items : List (Bytes × Bytes)) (names : List Bytes) :
    (lookupToks items names).length = names.length ∧ (lookupToks items names).all isScalar = true := by
  unfold lookupToks
  refine ⟨by simp, ?_⟩
  simp only [List.all_map, List.all_eq_true]
  intro n _
  simp only [Function.comp]
  split <;> rfl

theorem pairToks_shape (ps : List (Bytes × Bytes)) :
    (ps.flatMap (fun p => [Token.bulk p.1, Token.bulk p.2])).length = ps.length * 2 ∧
    (ps.flatMap (fun p => [Token.bulk p.1, Token.bulk p.2])).all isScalar = true := by
  induction ps with
  | nil => simp
  | cons p ps ih =>
    simp only [List.flatMap_cons, List.length_append, ih.1, List.all_append, ih.2]
    simp [isScalar]; omega

theorem itemToks_shape : ∀ (items : List (Bytes × Score)) (ts : List Token),
    itemToksWithScores items = some ts → ts.length = items.length * 2 ∧ ts.all isScalar = true
  | [], ts, h => by cases h; exact ⟨rfl, rfl⟩
  | (e, s) :: r, ts, h => by
    simp only [itemToksWithScores] at h
    split at h
    · next f ts' hf hr =>
      cases h
      have := itemToks_shape r ts' hr
      refine ⟨by simp only [List.length_cons, this.1]; omega, ?_⟩
      simp only [List.all_cons, this.2, floatTok_scalar hf, Bool.and_true]; rfl
    · cases h

theorem writeItems_ok (ws : Bool) : ∀ v toks, writeItems ws v = some toks → wellFormedOne toks := by
  intro v toks h
  unfold writeItems at h
  split at h
  · split at h
    · cases h
    · next items _ =>
      split at h
      · obtain ⟨ts, hts, rfl⟩ := Option.map_eq_some_iff.mp h
        simpa using wf_array_scalars (items.length * 2) ts (itemToks_shape items ts hts).1 (itemToks_shape items ts hts).2
      · cases h
        exact wf_array_scalars items.length _ (by simp) (by simp [List.all_map, isScalar])
  · cases h

/-- `*2`, the cursor, `*n`, then `n` scalar tokens -/
theorem scanReply_ok (items : List Val → Option (Nat × List Token))
    (hitems : ∀ l p, items l = some p → p.2.length = p.1 ∧ p.2.all isScalar = true) :
    ∀ v toks, scanReply v items = some toks → wellFormedOne toks := by
  intro v toks h
  unfold scanReply at h
  split at h
  · next cur l =>
    obtain ⟨p, hp, rfl⟩ := Option.map_eq_some_iff.mp h
    obtain ⟨hl, hs⟩ := hitems l p hp
    show owed (Token.arrayHdr ((2 : Nat) : Int) :: Token.int cur :: Token.arrayHdr ((p.1 : Nat) : Int) :: p.2) (0 + 1) = some 0
    rw [owed_hdr, show 0 + 2 = 1 + 1 by rfl, owed_scalar _ rfl, owed_hdr, ← hl]
    simpa using owed_scalars p.2 hs 0
  · cases h

theorem map_hdr_ok (x : Option (List Token)) (n : Nat) (toks : List Token)
    (hx : ∀ ts, x = some ts → ts.length = n ∧ ts.all isScalar = true)
    (h : Option.map (fun ts => Token.arrayHdr (n : Int) :: ts) x = some toks) : wellFormedOne toks := by
  obtain ⟨ts, hts, rfl⟩ := Option.map_eq_some_iff.mp h
  exact wf_array_scalars n ts (hx ts hts).1 (hx ts hts).2

theorem map_keyBulks_ok (l : List Val) (toks : List Token)
    (h : Option.map (fun ts => Token.arrayHdr (l.length : Int) :: ts) (keyBulks l) = some toks) :
    wellFormedOne toks :=
  map_hdr_ok _ _ _ (fun ts hts => keyBulks_shape l ts hts) h

theorem map_lookup_ok (keys : List Bytes) (l : List Val) (toks : List Token)
    (h : Option.map (fun items => Token.arrayHdr (keys.length : Int) :: lookupToks items keys) (vPairs l) = some toks) :
    wellFormedOne toks := by
  obtain ⟨items, _, rfl⟩ := Option.map_eq_some_iff.mp h
  exact wf_array_scalars _ _ (lookupToks_shape items keys).1 (lookupToks_shape items keys).2

theorem map_pairs_ok (l : List Val) (toks : List Token)
    (h : Option.map (fun ps : List (Bytes × Bytes) => Token.arrayHdr ((ps.length : Int) * 2) ::
      List.flatMap (fun p => [Token.bulk p.fst, Token.bulk p.snd]) ps) (vPairs l) = some toks) :
    wellFormedOne toks := by
  obtain ⟨ps, _, rfl⟩ := Option.map_eq_some_iff.mp h
  simpa using wf_array_scalars (ps.length * 2) _ (pairToks_shape ps).1 (pairToks_shape ps).2

theorem rank_ok (rank : Int) (s : Score) (toks : List Token)
    (h : Option.map (fun f => [Token.arrayHdr 2, Token.int rank, f]) (floatTok s) = some toks) :
    wellFormedOne toks := by
  obtain ⟨f, hf, rfl⟩ := Option.map_eq_some_iff.mp h
  exact wf_array_scalars 2 [Token.int rank, f] rfl (by simp only [List.all_cons, floatTok_scalar hf, List.all_nil]; rfl)

theorem scanKeys_items : ∀ (l : List Val) (p : Nat × List Token),
    (fun l => Option.map (fun ts => (l.length, ts)) (keyBulks l)) l = some p →
      p.2.length = p.1 ∧ p.2.all isScalar = true := by
  intro l p h
  obtain ⟨ts, hts, rfl⟩ := Option.map_eq_some_iff.mp h
  exact keyBulks_shape l ts hts

theorem scanBulks_items : ∀ (l : List Val) (p : Nat × List Token),
    (fun l => Option.map (fun ts => (l.length, ts)) (vBulks l)) l = some p →
      p.2.length = p.1 ∧ p.2.all isScalar = true := by
  intro l p h
  obtain ⟨ts, hts, rfl⟩ := Option.map_eq_some_iff.mp h
  exact vBulks_shape l ts hts

theorem scanPairs_items : ∀ (l : List Val) (p : Nat × List Token),
    (fun l => Option.map (fun ps : List (Bytes × Bytes) =>
      (ps.length * 2, List.flatMap (fun p => [Token.bulk p.fst, Token.bulk p.snd]) ps)) (vPairs l)) l = some p →
      p.2.length = p.1 ∧ p.2.all isScalar = true := by
  intro l p h
  obtain ⟨ps, _, rfl⟩ := Option.map_eq_some_iff.mp h
  exact pairToks_shape ps

theorem scanItems_items : ∀ (l : List Val) (p : Nat × List Token),
    (fun l => match vItems l with
      | none => none
      | some items => (itemToksWithScores items).map (fun ts => (items.length * 2, ts))) l = some p →
      p.2.length = p.1 ∧ p.2.all isScalar = true := by
  intro l p h
  dsimp only at h
  split at h
  · cases h
  · next items _ =>
    obtain ⟨ts, hts, rfl⟩ := Option.map_eq_some_iff.mp h
    exact itemToks_shape items ts hts

macro "ok_leaf" h:ident : tactic => `(tactic| first
  | cases $h:ident; done
  | (cases $h:ident; exact wf_scalar _ rfl)
  | exact asBulk_ok _ _ $h
  | exact map_keyBulks_ok _ _ $h
  | exact map_lookup_ok _ _ _ $h
  | exact map_pairs_ok _ _ $h
  | exact rank_ok _ _ _ $h
  | exact scanReply_ok _ scanKeys_items _ _ $h
  | exact scanReply_ok _ scanBulks_items _ _ $h
  | exact scanReply_ok _ scanPairs_items _ _ $h
  | exact scanReply_ok _ scanItems_items _ _ $h)

end Redka.WireProofs
