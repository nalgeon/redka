/-
  C11 — `WF db ↔ db.invB = true`: the Prop-level invariant is exactly the Bool audit.
-/
import RedkaModel.Proofs.Inv

namespace Redka.InvP

open Redka

theorem ownerOk_iff (db : DB) (kid ty : Int) : db.ownerOk kid ty = true ↔ Owner db kid ty := by
  simp only [DB.ownerOk, Owner, List.any_eq_true, Bool.and_eq_true, beq_iff_eq]

theorem uniqueOk_iff (db : DB) : db.uniqueOk = true ↔
    (db.keys.Pairwise (fun a b => a.id ≠ b.id) ∧ db.keys.Pairwise (fun a b => a.key ≠ b.key) ∧
     db.strs.Pairwise (fun a b => a.kid ≠ b.kid) ∧
     db.lists.Pairwise (fun a b => (a.kid, a.pos) ≠ (b.kid, b.pos)) ∧
     db.sets.Pairwise (fun a b => (a.kid, a.elem) ≠ (b.kid, b.elem)) ∧
     db.hashes.Pairwise (fun a b => (a.kid, a.field) ≠ (b.kid, b.field)) ∧
     db.zsets.Pairwise (fun a b => (a.kid, a.elem) ≠ (b.kid, b.elem)) ∧
     db.sets.Pairwise (fun a b => a.rowid ≠ b.rowid) ∧
     db.hashes.Pairwise (fun a b => a.rowid ≠ b.rowid) ∧
     db.zsets.Pairwise (fun a b => a.rowid ≠ b.rowid)) := by
  simp only [DB.uniqueOk, Bool.and_eq_true, nodupB_map_iff, and_assoc]

theorem ownersOk_iff (db : DB) : db.ownersOk = true ↔
    ((∀ x ∈ db.strs, Owner db x.kid TString) ∧ (∀ x ∈ db.lists, Owner db x.kid TList) ∧
     (∀ x ∈ db.sets, Owner db x.kid TSet) ∧ (∀ x ∈ db.hashes, Owner db x.kid THash) ∧
     (∀ x ∈ db.zsets, Owner db x.kid TZSet)) := by
  simp only [DB.ownersOk, Bool.and_eq_true, List.all_eq_true, ownerOk_iff, and_assoc]

/-- under the owner and id-uniqueness clauses, the per-type count of the audit is `meas` -/
theorem meas_eq (db : DB)
    (hu : db.keys.Pairwise (fun a b => a.id ≠ b.id))
    (oS : ∀ x ∈ db.strs, Owner db x.kid TString) (oL : ∀ x ∈ db.lists, Owner db x.kid TList)
    (oT : ∀ x ∈ db.sets, Owner db x.kid TSet) (oH : ∀ x ∈ db.hashes, Owner db x.kid THash)
    (oZ : ∀ x ∈ db.zsets, Owner db x.kid TZSet) {r : KeyRow} (hr : r ∈ db.keys)
    (hty : 1 ≤ r.ty ∧ r.ty ≤ 5) :
    (r.ty = TString → meas db r.id = ((db.strs.filter (fun s => s.kid == r.id)).length : Nat)) ∧
    (r.ty ≠ TString → meas db r.id = db.childCount r) := by
  have zS := fun h => count_zero_of_ty db (·.kid) db.strs TString hu oS hr h
  have zL := fun h => count_zero_of_ty db (·.kid) db.lists TList hu oL hr h
  have zT := fun h => count_zero_of_ty db (·.kid) db.sets TSet hu oT hr h
  have zH := fun h => count_zero_of_ty db (·.kid) db.hashes THash hu oH hr h
  have zZ := fun h => count_zero_of_ty db (·.kid) db.zsets TZSet hu oZ hr h
  have hcases : r.ty = 1 ∨ r.ty = 2 ∨ r.ty = 3 ∨ r.ty = 4 ∨ r.ty = 5 := by omega
  simp only [meas, cS, cL, cT, cH, cZ, DB.childCount, TString, TList, TSet, THash, TZSet] at *
  rcases hcases with h | h | h | h | h <;> rw [h] at zS zL zT zH zZ ⊢
  · simp [zL (by decide), zT (by decide), zH (by decide), zZ (by decide)]
  · simp [zS (by decide), zT (by decide), zH (by decide), zZ (by decide)]
  · simp [zS (by decide), zL (by decide), zH (by decide), zZ (by decide)]
  · simp [zS (by decide), zL (by decide), zT (by decide), zZ (by decide)]
  · simp [zS (by decide), zL (by decide), zT (by decide), zH (by decide)]

theorem wf_iff_invB (db : DB) : WF db ↔ db.invB = true := by
  simp only [DB.invB, Bool.and_eq_true, uniqueOk_iff, ownersOk_iff]
  constructor
  · intro h
    refine ⟨⟨?_, h.oS, h.oL, h.oT, h.oH, h.oZ⟩, h.uId, h.uKey, h.uS, h.uL, h.uT, h.uH, h.uZ, h.rT, h.rH, h.rZ⟩
    simp only [DB.keysOk, List.all_eq_true, Bool.and_eq_true, decide_eq_true_eq]
    intro r hr
    have hm := meas_eq db h.uId h.oS h.oL h.oT h.oH h.oZ hr (h.ty r hr)
    have hc := h.cnt r hr
    simp only [LenOk, Int.add_zero] at hc
    refine ⟨h.ty r hr, ?_⟩
    by_cases hs : r.ty = TString
    · have := hc.1 hs
      have hm1 := hm.1 hs
      simp only [hs, beq_self_eq_true, if_true, Bool.and_eq_true, this.1, Option.isNone_none,
        beq_iff_eq, true_and]
      have h1 := this.2
      omega
    · have := hc.2 hs
      have hm2 := hm.2 hs
      have hb : (r.ty == TString) = false := by simpa using hs
      simp only [hb, Bool.false_eq_true, if_false, beq_iff_eq, this]
      congr 1
  · rintro ⟨⟨hk, oS, oL, oT, oH, oZ⟩, uId, uKey, uS, uL, uT, uH, uZ, rT, rH, rZ⟩
    simp only [DB.keysOk, List.all_eq_true, Bool.and_eq_true, decide_eq_true_eq] at hk
    refine ⟨fun r hr => (hk r hr).1, ?_, oS, oL, oT, oH, oZ, uId, uKey, uS, uL, uT, uH, uZ, rT, rH, rZ⟩
    intro r hr
    have hm := meas_eq db uId oS oL oT oH oZ hr (hk r hr).1
    have h2 := (hk r hr).2
    simp only [LenOk, Int.add_zero]
    constructor
    · intro hs
      have hm1 := hm.1 hs
      simp only [hs, beq_self_eq_true, if_true, Bool.and_eq_true, Option.isNone_iff_eq_none,
        beq_iff_eq] at h2
      refine ⟨h2.1, ?_⟩
      omega
    · intro hs
      have hm2 := hm.2 hs
      have hb : (r.ty == TString) = false := by simpa using hs
      simp only [hb, Bool.false_eq_true, if_false, beq_iff_eq] at h2
      rw [h2]; congr 1; omega

theorem WF.inv {db : DB} (h : WF db) : db.Inv := (wf_iff_invB db).1 h
theorem WF.of_inv {db : DB} (h : db.Inv) : WF db := (wf_iff_invB db).2 h

