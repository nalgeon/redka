/-
  C19, last clause — "type and expiry as reported by the key lookup match what the operations last
  established": a consequence of refinement (`abs now post = purge now (step …).st`).
-/
import RedkaModel.Spec.Meta
import RedkaModel.Proofs.KeyRef

namespace Redka.MetaProofs

open Redka Redka.Spec

/-- the (name, type, expiry) projection of the abstract keyspace: what `Key().Get` reports -/
def tyEt (s : State) : List (Bytes × Int × Option Int) :=
  s.map (fun e => (e.1, e.2.val.ty, e.2.etime))

theorem truthful_of_abs {inTx : Bool} {op : Op} {now : Int} {pre post : DB} {res : Out}
    (h : abs now post = purge now (step op now (abs now pre)).st) :
    typeEtimeTruthful inTx op now pre post res ≠ some false ∧
    tyEt (abs now post) = tyEt (purge now (step op now (abs now pre)).st) := by
  refine ⟨?_, by rw [h]⟩
  unfold typeEtimeTruthful
  simp only
  split
  · simp
  · split
    · simp
    · split <;> simp [h]

/-- What refinement gives: the driver's judgement `typeEtimeTruthful` never fails, the
(name, type, expiry) projection of the tables after the step is that of the specification's new
state, and `Key().Get` on the post-state reports exactly what the specification's `Get` reports
on its new state. -/
def Truthful (op : Op) (now : Int) (db : DB) : Prop :=
  let r := Model.dbRun op now db
  let s' := Spec.purge now (Spec.step op now (Spec.abs now db)).st
  Spec.typeEtimeTruthful false op now db r.db r.out ≠ some false ∧
  tyEt (Spec.abs now r.db) = tyEt s' ∧
  ∀ k, (Model.dbRun (.keyGet k) now r.db).out.map Model.projV = (Spec.step (.keyGet k) now s').out

end Redka.MetaProofs
