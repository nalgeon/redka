/-
  `internal/rset` against the abstract keyspace: each method of the repository refines the
  specification's set operation (`Spec.setAdd`, …), outside the known deviation classes.
  The lemma library is `RedkaModel/Proofs/SetLib.lean`.
-/
import RedkaModel.Proofs.SetLib

namespace Redka.Model.SetRef

open Redka Redka.Spec Redka.DB Redka.Scan

/-- what a name can be for the set repository (see `THolder`) -/
abbrev SHolder := THolder TSet SVal.set setElems

theorem sholder {db : DB} (hw : db.WF) (now : Int) (k : Bytes) : SHolder now db k :=
  tholder (ty := TSet) (mk := SVal.set) (view := setElems) (fun _ => rfl) (fun _ _ => absVal_set) hw now k

/-- the members the set repository reads under a name: none unless a live set key holds it -/
def mset (db : DB) (k : Bytes) (now : Int) : List Bytes :=
  match db.liveKeyT k TSet now with
  | none => []
  | some r => setElems db r.id

/-- "keys that are missing or hold another type" read as the empty set, on both sides -/
theorem setAt_abs {db : DB} (hw : db.WF) (now : Int) (k : Bytes) :
    setAt (abs now db) k = mset db k now := by
  rcases sholder hw now k with ⟨_, hg, hl⟩ | ⟨_, _, _, hg, hl⟩ | ⟨_, _, _, _, hg, hl⟩ |
    ⟨_, v, _, _, _, hg, hv, hl⟩
  · simp [setAt, mset, hg, hl]
  · simp [setAt, mset, hg, hl]
  · simp [setAt, mset, hg, hl]
  · rw [(setOps_other hg hv).1]; simp [mset, hl]

theorem mem_mset {db : DB} {k : Bytes} {now : Int} {e : Bytes} :
    e ∈ mset db k now ↔ ∃ r, db.liveKeyT k TSet now = some r ∧ e ∈ setElems db r.id := by
  unfold mset
  cases db.liveKeyT k TSet now <;> simp

theorem ssorted_mset {db : DB} (hw : SetWF db) (k : Bytes) (now : Int) : SSorted (mset db k now) := by
  unfold mset
  cases db.liveKeyT k TSet now with
  | none => exact SSorted.nil
  | some r => exact hw.elems_sorted r.id

/-- the verdict on one step, in the strong form that holds for the set family: same result, and
the tables afterwards stand for exactly the specification's keyspace (no set operation assigns an
expiry, so nothing is there to purge) -/
def RefS (now : Int) (m : Res) (s : SRes) : Prop := m.out = s.out ∧ abs now m.db = s.st

theorem RefS.refines {now : Int} {m : Res} {s : SRes} (hn : (m.db.keys.map (·.key)).Nodup)
    (h : RefS now m s) : Refines now m s := by
  refine ⟨h.1, ?_⟩
  rw [← h.2, purge_abs hn]

theorem setItems_eq (db : DB) (k : Bytes) (now : Int) :
    setItems db k now = .ok (.list ((mset db k now).map .bytes)) db := by
  unfold setItems mset
  cases db.liveKeyT k TSet now <;> rfl

theorem setItems_refS {db : DB} (hw : db.WF) (now : Int) (k : Bytes) :
    RefS now (setItems db k now) (Spec.ok (Spec.bytesList (setAt (abs now db) k)) (abs now db)) := by
  rw [setItems_eq, setAt_abs hw]
  exact ⟨rfl, rfl⟩

theorem setExists_eq (db : DB) (k e : Bytes) (now : Int) :
    setExists db k e now = .ok (.bool ((mset db k now).contains e)) db := by
  unfold setExists mset
  cases db.liveKeyT k TSet now with
  | none => rfl
  | some r => simp only [any_eq_mem_setElems]

theorem setExists_refS {db : DB} (hw : db.WF) (now : Int) (k e : Bytes) :
    RefS now (setExists db k e now) (Spec.ok (.bool (smem (setAt (abs now db) k) e)) (abs now db)) := by
  rw [setExists_eq, setAt_abs hw]
  exact ⟨rfl, rfl⟩

theorem setLen_eq {db : DB} (hw : SetWF db) (k : Bytes) (now : Int) :
    setLen db k now = .ok (.int (mset db k now).length) db := by
  unfold setLen mset
  cases hl : db.liveKeyT k TSet now with
  | none => rfl
  | some r =>
    obtain ⟨hf, ht, _⟩ := (liveKeyT_eq_some_iff hw.names).1 hl
    simp only [hw.setLen r (findKey_mem hf).1 ht, length_setElems]

theorem setLen_refS {db : DB} (hw : SetWF db) (now : Int) (k : Bytes) :
    RefS now (setLen db k now) (Spec.ok (.int (setAt (abs now db) k).length) (abs now db)) := by
  rw [setLen_eq hw, setAt_abs hw.wf]
  exact ⟨rfl, rfl⟩

/-- the random choice `o` is judged against the members read -/
theorem setRandom_eq (db : DB) (k : Bytes) (o : Option Bytes) (now : Int) :
    setRandom db k o now
      = match o with
        | none => if (mset db k now).isEmpty then .err .notFound db else .err .outOfDomain db
        | some e => if smem (mset db k now) e then .ok (.bytes e) db else .err .outOfDomain db := by
  unfold setRandom mset
  cases db.liveKeyT k TSet now with
  | none => cases o <;> rfl
  | some r => cases o <;> simp only [any_setRows, isEmpty_setRows]

theorem setRandom_refS {db : DB} (hw : db.WF) (now : Int) (k : Bytes) (o : Option Bytes) :
    RefS now (setRandom db k o now) (Spec.setRandom (abs now db) k o) := by
  unfold Spec.setRandom
  rw [setRandom_eq, setAt_abs hw]
  cases o with
  | none => simp only; cases (mset db k now).isEmpty <;> exact ⟨rfl, rfl⟩
  | some e =>
    simp only
    by_cases hc : smem (mset db k now) e = true
    · rw [if_pos hc, if_pos hc]; exact ⟨rfl, rfl⟩
    · rw [if_neg hc, if_neg hc]; exact ⟨rfl, rfl⟩

/-- What `Add` does, by what is stored under the name (expired rows included: this is also the
description of the deviation D05). -/
theorem setAdd_cases {db : DB} (hw : SetWF db) (k : Bytes) (es : List Bytes) (now : Int) :
    match db.findKey k with
    | none => ∃ db' id,
        setAdd db k es now = .ok (.int (sunion [] es).length) db' ∧ SetWF db' ∧ Frame db db' k ∧
        IsSetRow db' k id none ∧ setElems db' id = sunion [] es
    | some old =>
      if old.ty = TSet then ∃ db',
        setAdd db k es now
          = .ok (.int (((sunion (setElems db old.id) es).length : Int) - (setElems db old.id).length)) db' ∧
        SetWF db' ∧ Frame db db' k ∧ IsSetRow db' k old.id old.etime ∧
        setElems db' old.id = sunion (setElems db old.id) es
      else setAdd db k es now = .err .keyType db := by
  split
  · rename_i hf
    obtain ⟨db1, r, h1, h2, h3, h4, h5⟩ := setAddKey_new hw hf now
    obtain ⟨db', g1, g2, g3, g4, g5⟩ := setAddElems_spec es db1 0 h2 h4
    rw [h5] at g1 g5
    exact ⟨db', r.id, by simp [setAdd, h1, g1], g2, h3.trans g3, g4, g5⟩
  · rename_i old hf
    split
    · rename_i ht
      obtain ⟨db1, r, h1, h2, h3, hid, h4, h5⟩ := setAddKey_old hw hf ht now
      obtain ⟨db', g1, g2, g3, g4, g5⟩ := setAddElems_spec es db1 0 h2 h4
      rw [h5] at g1 g5
      exact ⟨db', by simp [setAdd, h1, hid, g1], g2, h3.trans g3, g4, g5⟩
    · rename_i ht
      simp [setAdd, setAddKey_other hf ht]

theorem setAdd_wf {db : DB} (hw : SetWF db) (k : Bytes) (es : List Bytes) (now : Int) :
    SetWF (setAdd db k es now).db := by
  have hc := setAdd_cases hw k es now
  split at hc
  · obtain ⟨db', _, h, hw', _⟩ := hc; rw [h]; exact hw'
  · split at hc
    · obtain ⟨db', h, hw', _⟩ := hc; rw [h]; exact hw'
    · rw [hc]; exact hw

theorem setAdd_refS {db : DB} (hw : SetWF db) {now : Int} {k : Bytes}
    (hns : staleKey db now k = false) (es : List Bytes) :
    RefS now (setAdd db k es now) (Spec.setAdd (abs now db) k es) := by
  have hc := setAdd_cases hw k es now
  rcases sholder hw.wf now k with ⟨h, hg, _⟩ | ⟨_, h, hl, _, _⟩ | ⟨r, h, hlv, ht, hg, _⟩ |
    ⟨r, v, h, _, ht, hg, hv, _⟩
  · rw [h] at hc
    obtain ⟨db', id, he, hw', hfr, hrow, hel⟩ := hc
    have hv := hrow.view now
    rw [show liveAt now none = true from rfl, if_pos rfl, hel] at hv
    rw [he]
    simp only [Spec.setAdd, hg, sfromList_eq]
    exact ⟨rfl, abs_frame_put hw.names hw'.names hfr hv⟩
  · exact (Holder.not_stale hns h hl).elim
  · rw [h] at hc
    simp only [ht, if_true] at hc
    obtain ⟨db', he, hw', hfr, hrow, hel⟩ := hc
    have hv := hrow.view now
    rw [show liveAt now r.etime = true from hlv, if_pos rfl, hel] at hv
    rw [he]
    simp only [Spec.setAdd, hg]
    exact ⟨rfl, abs_frame_put hw.names hw'.names hfr hv⟩
  · rw [h] at hc
    simp only [ht, if_false] at hc
    rw [hc]
    rw [(setOps_other hg hv).2.1]
    exact ⟨rfl, rfl⟩

/-- `delete from rset where kid = ? and <p elem>` followed by `sqlDelete2` -/
theorem setRemove_spec {db : DB} (hw : SetWF db) {k : Bytes} {now : Int} {r : KeyRow}
    (hl : db.liveKeyT k TSet now = some r) (p : Bytes → Bool) :
    let n : Int := (db.sets.filter (fun x => x.kid == r.id && p x.elem)).length
    let db1 : DB := { db with sets := db.sets.filter (fun x => !(x.kid == r.id && p x.elem)) }
    let db' := setUpdKeyAfterDelete db1 k n now
    SetWF db' ∧ Frame db db' k ∧ IsSetRow db' k r.id r.etime ∧
      setElems db' r.id = (setElems db r.id).filter (fun e => !p e) ∧
      ((setElems db r.id).length : Int) = n + (setElems db' r.id).length := by
  intro n db1 db'
  obtain ⟨hf, ht, _⟩ := (liveKeyT_eq_some_iff hw.names).1 hl
  obtain ⟨hr, _⟩ := findKey_mem hf
  let r' : KeyRow := { r with version := r.version + 1, mtime := now, len := r.len.map (· - n) }
  -- the rows of the key: those deleted and those left
  have hsplit := InvP.length_filter_split (fun x : SetRow => x.kid == r.id) (fun x => p x.elem) db.sets
  have hdb' : db' = modDb db r.id r' (db.sets.filter (fun x => !(x.kid == r.id && p x.elem))) := by
    show setUpdKeyAfterDelete db1 k n now = _
    unfold setUpdKeyAfterDelete
    rw [show db1.liveKeyT k TSet now = some r from hl]
    exact updKey_const (db := db1) hw.ids hr _
  have hlen : r'.len = some (((db.sets.filter (fun x => !(x.kid == r.id && p x.elem))).filter
      (fun x => x.kid == r.id)).length : Int) := by
    show r.len.map (· - n) = _
    rw [hw.setLen r hr ht, hsplit]
    simp only [Option.map_some, Option.some.injEq, n]
    omega
  obtain ⟨h1, h2, h3, h4⟩ := delRows_spec hw hf ht p (r' := r') rfl hlen
  rw [← hdb'] at h1 h2 h3 h4
  refine ⟨h1, h2, h3, h4, ?_⟩
  rw [length_setElems, length_setElems, hsplit, hdb']
  exact Int.natCast_add _ _

theorem setDelete_cases {db : DB} (hw : SetWF db) {k : Bytes} {now : Int} {r : KeyRow}
    (hl : db.liveKeyT k TSet now = some r) (es : List Bytes) :
    ∃ db', setDelete db k es now
        = .ok (.int (((setElems db r.id).length : Int) - (sdiff (setElems db r.id) es).length)) db' ∧
      SetWF db' ∧ Frame db db' k ∧ IsSetRow db' k r.id r.etime ∧
      setElems db' r.id = sdiff (setElems db r.id) es ∧
      ((sdiff (setElems db r.id) es).length = (setElems db r.id).length → db' = db) := by
  obtain ⟨h1, h2, h3, h4, h5⟩ := setRemove_spec hw hl (fun y => es.contains y)
  have h4' : setElems _ r.id = sdiff (setElems db r.id) es := h4
  rw [h4'] at h5
  by_cases hn : (db.sets.filter (fun x => x.kid == r.id && es.contains x.elem)).length = 0
  · -- nothing to delete: no statement runs
    obtain ⟨hf, ht, _⟩ := (liveKeyT_eq_some_iff hw.names).1 hl
    have hsame : sdiff (setElems db r.id) es = setElems db r.id :=
      sdiff_eq_self (by omega)
    refine ⟨db, ?_, hw, Frame.refl _ _, ⟨r, hf, rfl, ht, rfl⟩, hsame.symm, fun _ => rfl⟩
    simp only [setDelete, hl, hn, hsame]
    simp
  · refine ⟨_, ?_, h1, h2, h3, h4', fun h => absurd h (by omega)⟩
    simp only [setDelete, hl]
    rw [if_neg (fun h => hn (Int.natCast_eq_zero.1 (beq_iff_eq.1 h)))]
    congr 3
    omega

theorem setDelete_none {db : DB} {k : Bytes} {now : Int} (hl : db.liveKeyT k TSet now = none)
    (es : List Bytes) : setDelete db k es now = .ok (.int 0) db := by
  simp [setDelete, hl]

theorem setDelete_wf {db : DB} (hw : SetWF db) (k : Bytes) (es : List Bytes) (now : Int) :
    SetWF (setDelete db k es now).db := by
  cases hl : db.liveKeyT k TSet now with
  | none => rw [setDelete_none hl]; exact hw
  | some r => obtain ⟨db', h, hw', _⟩ := setDelete_cases hw hl es; rw [h]; exact hw'

theorem setDelete_refS {db : DB} (hw : SetWF db) (now : Int) (k : Bytes) (es : List Bytes) :
    RefS now (setDelete db k es now) (Spec.setDelete (abs now db) k es) := by
  rcases sholder hw.wf now k with ⟨_, hg, hl⟩ | ⟨_, _, _, hg, hl⟩ | ⟨r, h, hlv, ht, hg, hl⟩ |
    ⟨r, v, h, _, ht, hg, hv, hl⟩
  · rw [setDelete_none hl]; simp only [Spec.setDelete, hg]; exact ⟨rfl, rfl⟩
  · rw [setDelete_none hl]; simp only [Spec.setDelete, hg]; exact ⟨rfl, rfl⟩
  · obtain ⟨db', he, hw', hfr, hrow, hel, _⟩ := setDelete_cases hw hl es
    have hv := hrow.view now
    rw [show liveAt now r.etime = true from hlv, if_pos rfl, hel] at hv
    rw [he]
    simp only [Spec.setDelete, hg]
    refine ⟨rfl, (abs_frame_put hw.names hw'.names hfr hv).trans ?_⟩
    -- the specification leaves the keyspace alone when no member goes: the same entry is put back
    split
    · rename_i hlen
      rw [sdiff_eq_self (beq_iff_eq.1 hlen)]
      exact put_self (sorted_abs hw.names now) hg
    · rfl
  · rw [setDelete_none hl]
    rw [(setOps_other hg hv).2.2.1]
    exact ⟨rfl, rfl⟩

end Redka.Model.SetRef
