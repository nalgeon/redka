/-
  Optional arguments in any order: swapping two adjacent option groups of an argument vector.

  * `EnvEq`: two slot environments that agree on every slot (assignments in a different order give
    different association lists but the same variables); every combinator respects it;
  * `kwMatch`: the head argument folds onto a keyword of the combinator; a keyword-guarded combinator
    that does not match does not fire;
  * `Consumes p g U`: the combinator `p` takes the group `g` off the front of ANY argument vector
    whose next argument is not another keyword of `p` (the look-ahead of `OneOf`), and updates the
    environment by `U`;
  * `swap_adjacent_groups`: the loop of `Pipeline.Run` gives the same outcome on `g1 ++ g2 ++ rest`
    and `g2 ++ g1 ++ rest`.

 
-/
import RedkaModel.Proofs.WireParser

namespace Redka.WireProofs

open Redka Redka.Wire

/-- the two environments hold the same value in every slot -/
def EnvEq (e e' : Env) : Prop := ∀ k, getSlot e k = getSlot e' k

theorem EnvEq.refl (e : Env) : EnvEq e e := fun _ => rfl
theorem EnvEq.symm {e e' : Env} (h : EnvEq e e') : EnvEq e' e := fun k => (h k).symm
theorem EnvEq.trans {a b c : Env} (h : EnvEq a b) (h' : EnvEq b c) : EnvEq a c :=
  fun k => (h k).trans (h' k)

theorem EnvEq.setSlot {e e' : Env} (h : EnvEq e e') (s : String) (v : SlotVal) :
    EnvEq (setSlot e s v) (setSlot e' s v) := by
  intro k; rw [getSlot_setSlot, getSlot_setSlot, h k]

theorem setSlot_comm (e : Env) (s s' : String) (v v' : SlotVal) (h : s ≠ s') :
    EnvEq (setSlot (setSlot e s v) s' v') (setSlot (setSlot e s' v') s v) := by
  intro k
  simp only [getSlot_setSlot]
  by_cases h1 : s' = k <;> by_cases h2 : s = k <;> simp [h1, h2]
  exact absurd (h2.trans h1.symm) h

theorem EnvEq.getInt {e e' : Env} (h : EnvEq e e') (k : String) : getInt e k = getInt e' k := by
  unfold Wire.getInt; rw [h k]
theorem EnvEq.getBytes {e e' : Env} (h : EnvEq e e') (k : String) : getBytes e k = getBytes e' k := by
  unfold Wire.getBytes; rw [h k]
theorem EnvEq.getBool {e e' : Env} (h : EnvEq e e') (k : String) : getBool e k = getBool e' k := by
  unfold Wire.getBool; rw [h k]
theorem EnvEq.getFloat {e e' : Env} (h : EnvEq e e') (k : String) : getFloat e k = getFloat e' k := by
  unfold Wire.getFloat; rw [h k]
theorem EnvEq.getList {e e' : Env} (h : EnvEq e e') (k : String) : getList e k = getList e' k := by
  unfold Wire.getList; rw [h k]

/-- the same step up to `EnvEq` -/
def StepEq : Step → Step → Prop
  | .ret f r e, .ret f' r' e' => f = f' ∧ r = r' ∧ EnvEq e e'
  | .fail a, .fail b => a = b
  | .panic, .panic => True
  | .outOfDomain, .outOfDomain => True
  | .unsupported t, .unsupported t' => t = t'
  | _, _ => False

/-- the same outcome up to `EnvEq` -/
def OutcomeEq : Outcome → Outcome → Prop
  | .ok e, .ok e' => EnvEq e e'
  | .error a, .error b => a = b
  | .panic, .panic => True
  | .outOfDomain, .outOfDomain => True
  | .unsupported t, .unsupported t' => t = t'
  | _, _ => False

theorem StepEq.rfl' (s : Step) : StepEq s s := by
  cases s <;> simp [StepEq, EnvEq.refl]

theorem OutcomeEq.rfl' (o : Outcome) : OutcomeEq o o := by
  cases o <;> simp [OutcomeEq, EnvEq.refl]

theorem OutcomeEq.symm {a b : Outcome} (h : OutcomeEq a b) : OutcomeEq b a := by
  cases a <;> cases b <;> simp_all [OutcomeEq]
  exact EnvEq.symm h

theorem stepEq_ret {f : Bool} {r : List Bytes} {e e' : Env} (h : EnvEq e e') :
    StepEq (.ret f r e) (.ret f r e') := ⟨rfl, rfl, h⟩

theorem LeafSteps.stepEq {S : List String} {args : List Bytes} {e e' : Env} {s s' : Step}
    (hs : LeafSteps S args e e' s s') (h : EnvEq e e') : StepEq s s' := by
  cases hs with
  | unfired => exact stepEq_ret h
  | set v => exact stepEq_ret (h.setSlot _ v)
  | fail | unsupported => exact rfl
  | outOfDomain => trivial

mutual
theorem runP_congr (p : P) (args : List Bytes) (e e' : Env) (h : EnvEq e e') :
    StepEq (runP p args e) (runP p args e') := by
  cases p with
  | named name ps =>
    rw [runP_named, runP_named]
    split
    · exact stepEq_ret h
    · split
      · exact stepEq_ret h
      · exact runNamed_congr ps _ e e' h _ _
  | oneOf ps =>
    rw [runP_oneOf, runP_oneOf]
    exact runOneOf_congr ps args e e' h 0
  | _ => exact (leaf_steps _ rfl args e e' h.getInt).stepEq h
theorem runNamed_congr (ps : List P) (args : List Bytes) (e e' : Env) (h : EnvEq e e') (n t : Nat) :
    StepEq (runNamed ps args e n t) (runNamed ps args e' n t) := by
  cases ps with
  | nil =>
    rw [runNamed_nil, runNamed_nil]
    split
    · simp [StepEq]
    · exact stepEq_ret h
  | cons p ps =>
    rw [runNamed_cons, runNamed_cons]
    have hp := runP_congr p args e e' h
    cases h1 : runP p args e <;> cases h2 : runP p args e' <;> rw [h1, h2] at hp <;>
      simp only [StepEq] at hp <;> try (exact hp.elim)
    · obtain ⟨rfl, rfl, he⟩ := hp
      simp only []
      generalize (if _ = true then n + 1 else n) = m
      split
      · split
        · simp [StepEq]
        · exact stepEq_ret he
      · exact runNamed_congr ps _ _ _ he _ _
    · subst hp; simp [StepEq]
    · simp [StepEq]
    · simp [StepEq]
    · subst hp; simp [StepEq]
theorem runOneOf_congr (ps : List P) (args : List Bytes) (e e' : Env) (h : EnvEq e e') (n : Nat) :
    StepEq (runOneOf ps args e n) (runOneOf ps args e' n) := by
  cases ps with
  | nil =>
    rw [runOneOf_nil, runOneOf_nil]
    split
    · simp [StepEq]
    · exact stepEq_ret h
  | cons p ps =>
    rw [runOneOf_cons, runOneOf_cons]
    have hp := runP_congr p args e e' h
    cases h1 : runP p args e <;> cases h2 : runP p args e' <;> rw [h1, h2] at hp <;>
      simp only [StepEq] at hp <;> try (exact hp.elim)
    · obtain ⟨rfl, rfl, he⟩ := hp
      exact runOneOf_congr ps _ _ _ he _
    · subst hp; simp [StepEq]
    · simp [StepEq]
    · simp [StepEq]
    · subst hp; simp [StepEq]
end

/-- the same result of the inner loop up to `EnvEq` -/
def TryEq : TryRes → TryRes → Prop
  | .fired i r e, .fired i' r' e' => i = i' ∧ r = r' ∧ EnvEq e e'
  | .noneFired, .noneFired => True
  | .stop o, .stop o' => OutcomeEq o o'
  | _, _ => False

theorem tryAll_congr (ps : List P) (i : Nat) (args : List Bytes) (e e' : Env) (h : EnvEq e e') :
    TryEq (tryAll ps i args e) (tryAll ps i args e') := by
  induction ps generalizing i e e' with
  | nil => simp [tryAll, TryEq]
  | cons p ps ih =>
    rw [tryAll_cons, tryAll_cons]
    have hp := runP_congr p args e e' h
    cases h1 : runP p args e <;> cases h2 : runP p args e' <;> rw [h1, h2] at hp <;>
      simp only [StepEq] at hp <;> try (exact hp.elim)
    · obtain ⟨rfl, rfl, he⟩ := hp
      rename_i f _ _ _
      cases f with
      | true => exact ⟨rfl, rfl, he⟩
      | false => exact ih _ _ _ he
    · subst hp; simp [TryEq, OutcomeEq]
    · simp [TryEq, OutcomeEq]
    · simp [TryEq, OutcomeEq]
    · subst hp; simp [TryEq, OutcomeEq]

theorem finish_congr (args : List Bytes) (e e' : Env) (h : EnvEq e e') :
    OutcomeEq (finish args e) (finish args e') := by
  unfold finish; split
  · exact h
  · simp [OutcomeEq]

theorem runLoop_congr (fuel : Nat) (ps : List P) (args : List Bytes) (e e' : Env) (h : EnvEq e e') :
    OutcomeEq (runLoop fuel ps args e) (runLoop fuel ps args e') := by
  induction fuel generalizing ps args e e' with
  | zero => rw [runLoop, runLoop]; exact finish_congr _ _ _ h
  | succ fuel ih =>
    rw [runLoop, runLoop]
    split
    · exact finish_congr _ _ _ h
    · have ht := tryAll_congr ps 0 args e e' h
      cases h1 : tryAll ps 0 args e <;> cases h2 : tryAll ps 0 args e' <;> rw [h1, h2] at ht <;>
        simp only [TryEq] at ht <;> try (exact ht.elim)
      · obtain ⟨rfl, rfl, he⟩ := ht
        exact ih _ _ _ _ he
      · exact finish_congr _ _ _ h
      · exact ht

mutual
/-- the argument folds onto (one of) the keyword(s) that guard the combinator -/
def kwMatch : P → Bytes → Bool
  | .flag n _, a => equalFold a (asciiBytes n)
  | .named n _, a => equalFold a (asciiBytes n)
  | .oneOf ps, a => kwMatchL ps a
  | _, _ => false
def kwMatchL : List P → Bytes → Bool
  | [], _ => false
  | p :: ps, a => kwMatch p a || kwMatchL ps a
end

theorem kwGuardedL_mem {ps : List P} (h : kwGuardedL ps = true) {p : P} (hp : p ∈ ps) :
    kwGuarded p = true := by
  induction ps with
  | nil => cases hp
  | cons q qs ih =>
    simp only [kwGuardedL, Bool.and_eq_true] at h
    rcases List.mem_cons.mp hp with rfl | hq
    · exact h.1
    · exact ih h.2 hq

theorem kwGuardedL_append (A B : List P) : kwGuardedL (A ++ B) = (kwGuardedL A && kwGuardedL B) := by
  induction A with
  | nil => rfl
  | cons q A ih => simp only [List.cons_append, kwGuardedL, ih, Bool.and_assoc]

theorem kwMatchL_false {ps : List P} {a : Bytes} (h : kwMatchL ps a = false) {p : P} (hp : p ∈ ps) :
    kwMatch p a = false := by
  induction ps with
  | nil => cases hp
  | cons q qs ih =>
    simp only [kwMatchL, Bool.or_eq_false_iff] at h
    rcases List.mem_cons.mp hp with rfl | hq
    · exact h.1
    · exact ih h.2 hq

mutual
/-- a keyword-guarded combinator does not fire on nothing -/
theorem kw_nil_unfired (p : P) (hk : kwGuarded p = true) (env : Env) : runP p [] env = .ret false [] env := by
  cases p with
  | flag => rw [runP_flag]
  | named => rw [runP_named]
  | oneOf ps => rw [runP_oneOf]; exact kwL_nil_unfired ps hk env
  | _ => cases hk
theorem kwL_nil_unfired (ps : List P) (hk : kwGuardedL ps = true) (env : Env) :
    runOneOf ps [] env 0 = .ret false [] env := by
  cases ps with
  | nil => rw [runOneOf_nil]; rfl
  | cons p ps =>
    simp only [kwGuardedL, Bool.and_eq_true] at hk
    rw [runOneOf_cons, kw_nil_unfired p hk.1 env]
    exact kwL_nil_unfired ps hk.2 env
end

mutual
/-- a keyword-guarded combinator whose keywords the head argument does not spell does not fire -/
theorem noMatch_unfired (p : P) (hk : kwGuarded p = true) (a : Bytes) (hm : kwMatch p a = false)
    (r : List Bytes) (env : Env) : runP p (a :: r) env = .ret false (a :: r) env := by
  cases p with
  | flag n s => simp only [kwMatch] at hm; rw [flag_step, hm]; rfl
  | named n ps => simp only [kwMatch] at hm; rw [named_step, hm]; rfl
  | oneOf ps =>
    simp only [kwGuarded] at hk
    simp only [kwMatch] at hm
    rw [runP_oneOf]
    exact noMatchL_unfired ps hk a hm r env
  | _ => cases hk
theorem noMatchL_unfired (ps : List P) (hk : kwGuardedL ps = true) (a : Bytes)
    (hm : kwMatchL ps a = false) (r : List Bytes) (env : Env) :
    runOneOf ps (a :: r) env 0 = .ret false (a :: r) env := by
  cases ps with
  | nil => rw [runOneOf_nil]; rfl
  | cons p ps =>
    simp only [kwGuardedL, Bool.and_eq_true] at hk
    simp only [kwMatchL, Bool.or_eq_false_iff] at hm
    rw [runOneOf_cons, noMatch_unfired p hk.1 a hm.1 r env]
    exact noMatchL_unfired ps hk.2 a hm.2 r env
end

/-- … on any remaining arguments whose head (if there is one) is not one of its keywords -/
theorem noMatch_unfired' (p : P) (hk : kwGuarded p = true) (t : List Bytes)
    (hm : ∀ a, t.head? = some a → kwMatch p a = false) (env : Env) :
    runP p t env = .ret false t env := by
  cases t with
  | nil => exact kw_nil_unfired p hk env
  | cons a r => exact noMatch_unfired p hk a (hm a rfl) r env

/-- `p` takes the group `g` off the front of any argument vector whose next argument is not another
keyword of `p`, and updates the environment by `U` -/
def Consumes (p : P) (g : List Bytes) (U : Env → Env) : Prop :=
  ∀ (t : List Bytes) (env : Env), (∀ a, t.head? = some a → kwMatch p a = false) →
    runP p (g ++ t) env = .ret true t (U env)

/-- the inner loop: everything before `p` does not fire, `p` fires -/
theorem tryAll_fire_at (A : List P) (p : P) (B : List P) (k : Nat) (args : List Bytes) (env : Env)
    (rest : List Bytes) (env' : Env) (hA : ∀ q ∈ A, runP q args env = .ret false args env)
    (hp : runP p args env = .ret true rest env') :
    tryAll (A ++ p :: B) k args env = .fired (k + A.length) rest env' := by
  induction A generalizing k with
  | nil => rw [List.nil_append, tryAll_cons, hp]; rfl
  | cons q A ih =>
    rw [List.cons_append, tryAll_cons, hA q (by simp)]
    show tryAll (A ++ p :: B) (k + 1) args env = _
    rw [ih (k + 1) (fun q' hq' => hA q' (by simp [hq']))]
    simp only [List.length_cons]
    congr 1; omega

theorem eraseIdx_mid (A : List P) (p : P) (B : List P) : (A ++ p :: B).eraseIdx (0 + A.length) = A ++ B := by
  induction A with
  | nil => simp
  | cons q A ih => simpa using ih

theorem runLoop_succ_nonempty (fuel : Nat) (ps : List P) (a : Bytes) (r : List Bytes) (env : Env)
    (hps : ps ≠ []) :
    runLoop (fuel + 1) ps (a :: r) env =
      match tryAll ps 0 (a :: r) env with
      | .fired i rest env' => runLoop fuel (ps.eraseIdx i) rest env'
      | .noneFired => finish (a :: r) env
      | .stop o => o := by
  have : ps.isEmpty = false := by cases ps <;> simp_all
  rw [runLoop, if_neg (by simp [this])]
  rfl

/-- one round of the loop on a group consumed by the parser in the middle of `A ++ p :: B` -/
theorem runLoop_group (fuel : Nat) (A : List P) (p : P) (B : List P) (a : Bytes) (v : List Bytes)
    (U : Env → Env) (hc : Consumes p (a :: v) U) (hkA : kwGuardedL A = true)
    (hA : ∀ q ∈ A, kwMatch q a = false) (t : List Bytes)
    (ht : ∀ x, t.head? = some x → kwMatch p x = false) (env : Env) :
    runLoop (fuel + 1) (A ++ p :: B) (a :: v ++ t) env = runLoop fuel (A ++ B) t (U env) := by
  rw [List.cons_append, runLoop_succ_nonempty _ _ _ _ _ (by simp)]
  rw [← List.cons_append, tryAll_fire_at A p B 0 (a :: v ++ t) env t (U env) ?_ (hc t env ht)]
  · simp only []
    rw [eraseIdx_mid]
  · intro q hq
    exact noMatch_unfired q (kwGuardedL_mem hkA hq) a (hA q hq) _ env

/-- **Options in any order.** Let the remaining parsers be `A ++ p₁ :: B ++ p₂ :: C`, all
keyword-guarded; let `p₁` consume the group `a₁ :: v₁` and `p₂` the group `a₂ :: v₂`; let no other
remaining parser know the keywords `a₁`, `a₂`, and let what follows the two groups not start with
another keyword of `p₁` or `p₂`. If the two groups write different slots (`hcomm`), the loop of
`Pipeline.Run` ends the same way — same slot values on success, same error otherwise — whichever
group comes first. -/
theorem swap_adjacent_groups (A B C : List P) (p1 p2 : P)
    (hk : kwGuardedL (A ++ p1 :: B ++ p2 :: C) = true)
    (a1 : Bytes) (v1 : List Bytes) (a2 : Bytes) (v2 : List Bytes) (U1 U2 : Env → Env)
    (h1 : Consumes p1 (a1 :: v1) U1) (h2 : Consumes p2 (a2 :: v2) U2)
    (hd1 : ∀ q ∈ A ++ B ++ p2 :: C, kwMatch q a1 = false)
    (hd2 : ∀ q ∈ A ++ p1 :: B ++ C, kwMatch q a2 = false)
    (rest : List Bytes)
    (hrest : ∀ x, rest.head? = some x → kwMatch p1 x = false ∧ kwMatch p2 x = false)
    (hcomm : ∀ e, EnvEq (U2 (U1 e)) (U1 (U2 e))) (fuel : Nat) (env : Env) :
    OutcomeEq (runLoop (fuel + 2) (A ++ p1 :: B ++ p2 :: C) (a1 :: v1 ++ (a2 :: v2 ++ rest)) env)
      (runLoop (fuel + 2) (A ++ p1 :: B ++ p2 :: C) (a2 :: v2 ++ (a1 :: v1 ++ rest)) env) := by
  simp only [kwGuardedL_append, kwGuardedL, Bool.and_eq_true] at hk
  obtain ⟨⟨hkA, hk1, hkB⟩, -⟩ := hk
  have hkAB : kwGuardedL (A ++ B) = true := by simp [kwGuardedL_append, hkA, hkB]
  have hkApB : kwGuardedL (A ++ p1 :: B) = true := by simp [kwGuardedL_append, kwGuardedL, hkA, hk1, hkB]
  -- order 1: group 1, then group 2
  have o1 : runLoop (fuel + 2) (A ++ p1 :: B ++ p2 :: C) (a1 :: v1 ++ (a2 :: v2 ++ rest)) env
      = runLoop fuel (A ++ B ++ C) rest (U2 (U1 env)) := by
    have e1 := runLoop_group (fuel + 1) A p1 (B ++ p2 :: C) a1 v1 U1 h1 hkA
      (fun q hq => hd1 q (by simp [hq])) (a2 :: v2 ++ rest)
      (fun x hx => by
        simp only [List.cons_append, List.head?_cons, Option.some.injEq] at hx
        subst hx
        exact hd2 p1 (by simp)) env
    rw [show A ++ p1 :: B ++ p2 :: C = A ++ p1 :: (B ++ p2 :: C) by simp, e1]
    have e2 := runLoop_group fuel (A ++ B) p2 C a2 v2 U2 h2 hkAB
      (fun q hq => hd2 q (by
        rcases List.mem_append.mp hq with h | h <;> simp [h])) rest
      (fun x hx => (hrest x hx).2) (U1 env)
    rw [show A ++ (B ++ p2 :: C) = (A ++ B) ++ p2 :: C by simp, e2]
  -- order 2: group 2, then group 1
  have o2 : runLoop (fuel + 2) (A ++ p1 :: B ++ p2 :: C) (a2 :: v2 ++ (a1 :: v1 ++ rest)) env
      = runLoop fuel (A ++ B ++ C) rest (U1 (U2 env)) := by
    have e1 := runLoop_group (fuel + 1) (A ++ p1 :: B) p2 C a2 v2 U2 h2 hkApB
      (fun q hq => hd2 q (by
        simp only [List.mem_append, List.mem_cons] at hq ⊢
        rcases hq with h | h | h <;> simp [h])) (a1 :: v1 ++ rest)
      (fun x hx => by
        simp only [List.cons_append, List.head?_cons, Option.some.injEq] at hx
        subst hx
        exact hd1 p2 (by simp)) env
    rw [e1]
    have e2 := runLoop_group fuel A p1 (B ++ C) a1 v1 U1 h1 hkA
      (fun q hq => hd1 q (by simp [hq])) rest (fun x hx => (hrest x hx).1) (U2 env)
    rw [show A ++ p1 :: B ++ C = A ++ p1 :: (B ++ C) by simp, e2]
    simp
  rw [o1, o2]
  exact runLoop_congr _ _ _ _ _ (hcomm env)

/-- `Flag` consumes its keyword, in any ASCII case -/
theorem consumes_flag (name slot : String) (kw : Bytes) (hkw : equalFold kw (asciiBytes name) = true) :
    Consumes (.flag name slot) [kw] (fun e => setSlot e slot (.bool true)) := by
  intro t env _
  rw [List.singleton_append, flag_step, if_pos hkw]

/-- the loop of `Named` over a body of positional parsers, given as many values -/
theorem runNamed_positional (body : List P) (hpos : ∀ q ∈ body, isPositional q = true)
    (vals : List Bytes) (hlen : vals.length = body.length) (t : List Bytes) (env env' : Env)
    (hb : bindPos body vals env = .ok env') (n : Nat) :
    runNamed body (vals ++ t) env n (n + body.length) = .ret true t env' := by
  induction body generalizing vals env n with
  | nil =>
    cases vals with
    | nil =>
      simp only [bindPos] at hb
      cases hb
      rw [runNamed_nil]
      simp
    | cons _ _ => simp at hlen
  | cons q qs ih =>
    cases vals with
    | nil => simp at hlen
    | cons v vs =>
      simp only [bindPos] at hb
      cases hv : posVal q v with
      | error o => rw [hv] at hb; cases hb
      | ok sx =>
        obtain ⟨s, x⟩ := sx
        rw [hv] at hb
        simp only [] at hb
        rw [runNamed_cons, List.cons_append, positional_step q (hpos q (by simp)) v (vs ++ t) env, hv]
        simp only [if_true]
        have hl : vs.length = qs.length := by simpa using hlen
        by_cases he : (vs ++ t).isEmpty = true
        · rw [if_pos he]
          have hvs : vs = [] := by cases vs <;> simp_all
          have ht : t = [] := by cases t <;> simp_all
          subst hvs ht
          have hqs : qs = [] := by cases qs <;> simp_all
          subst hqs
          simp only [bindPos] at hb
          cases hb
          simp
        · rw [if_neg he]
          have := ih (fun q' hq' => hpos q' (by simp [hq'])) vs hl _ hb (n + 1)
          rw [show n + (q :: qs).length = n + 1 + qs.length by simp; omega]
          exact this

/-- `Named` with a body of positional parsers consumes its keyword and one value per parser;
the values may spell anything -/
theorem consumes_named (name : String) (body : List P) (hpos : ∀ q ∈ body, isPositional q = true)
    (kw : Bytes) (hkw : equalFold kw (asciiBytes name) = true) (vals : List Bytes)
    (hlen : vals.length = body.length) (U : Env → Env)
    (hb : ∀ env, bindPos body vals env = .ok (U env)) :
    Consumes (.named name body) (kw :: vals) U := by
  intro t env _
  rw [List.cons_append, named_step, if_pos hkw]
  have := runNamed_positional body hpos vals hlen t env (U env) (hb env) 0
  simpa using this

/-- `Named` with an `Enum` body consumes its keyword and one of the allowed values in any letter case; the
LOWERED value is what the slot receives -/
theorem consumes_named_enum (name slot : String) (allowed : List String) (kw v l : Bytes)
    (hkw : equalFold kw (asciiBytes name) = true)
    (hl : enumLower allowed v = some l)
    (hv : allowed.any (fun s => asciiBytes s == l) = true) :
    Consumes (.named name [.enum slot allowed]) [kw, v] (fun e => setSlot e slot (.bytes l)) := by
  intro t env _
  show runP _ (kw :: v :: t) env = _
  rw [named_step, if_pos hkw, runNamed_cons]
  simp only [runP, hl, hv, if_true]
  cases t with
  | nil => simp
  | cons x xs => simp [runNamed_nil]

theorem runOneOf_skip (A ps : List P) (args : List Bytes) (env : Env) (n : Nat)
    (hA : ∀ q ∈ A, runP q args env = .ret false args env) :
    runOneOf (A ++ ps) args env n = runOneOf ps args env n := by
  induction A with
  | nil => rfl
  | cons q A ih =>
    rw [List.cons_append, runOneOf_cons, hA q (by simp)]
    exact ih (fun q' hq' => hA q' (by simp [hq']))

theorem kwMatchL_append (A B : List P) (a : Bytes) : kwMatchL (A ++ B) a = (kwMatchL A a || kwMatchL B a) := by
  induction A with
  | nil => simp [kwMatchL]
  | cons q A ih => simp [kwMatchL, ih, Bool.or_assoc]

theorem kwMatchL_false_iff (ps : List P) (a : Bytes) : kwMatchL ps a = false ↔ ∀ q ∈ ps, kwMatch q a = false := by
  induction ps with
  | nil => simp [kwMatchL]
  | cons q qs ih => simp [kwMatchL, ih]

/-- `OneOf` consumes what one of its alternatives consumes, provided the group's keyword is not also
a keyword of another alternative -/
theorem consumes_oneOf (A : List P) (p : P) (B : List P) (hk : kwGuardedL (A ++ B) = true)
    (a : Bytes) (v : List Bytes) (U : Env → Env) (hc : Consumes p (a :: v) U)
    (hd : ∀ q ∈ A ++ B, kwMatch q a = false) :
    Consumes (.oneOf (A ++ p :: B)) (a :: v) U := by
  intro t env ht
  have ht' : ∀ x, t.head? = some x → ∀ q ∈ A ++ p :: B, kwMatch q x = false := by
    intro x hx
    have := ht x hx
    simp only [kwMatch] at this
    exact (kwMatchL_false_iff _ _).mp this
  rw [runP_oneOf, runOneOf_skip A _ _ _ _ ?_, runOneOf_cons,
    hc t env (fun x hx => ht' x hx p (by simp))]
  · simp only [if_true]
    have hB : ∀ q ∈ B, runP q t (U env) = .ret false t (U env) := by
      intro q hq
      exact noMatch_unfired' q (kwGuardedL_mem hk (by simp [hq])) t
        (fun x hx => ht' x hx q (by simp [hq])) _
    have := runOneOf_skip B [] t (U env) (0 + 1) hB
    rw [List.append_nil] at this
    rw [this, runOneOf_nil]
    simp
  · intro q hq
    exact noMatch_unfired q (kwGuardedL_mem hk (by simp [hq])) a (hd q (by simp [hq])) _ env

/-- **Options in any order**, for a grammar `positional values ++ options`. -/
theorem runGrammar_swap (g : Grammar) (A B C : List P) (p1 p2 : P)
    (ht : optTail g = A ++ p1 :: B ++ p2 :: C) (hk : kwGuardedL (optTail g) = true)
    (a1 : Bytes) (v1 : List Bytes) (a2 : Bytes) (v2 : List Bytes) (U1 U2 : Env → Env)
    (h1 : Consumes p1 (a1 :: v1) U1) (h2 : Consumes p2 (a2 :: v2) U2)
    (hd1 : ∀ q ∈ A ++ B ++ p2 :: C, kwMatch q a1 = false)
    (hd2 : ∀ q ∈ A ++ p1 :: B ++ C, kwMatch q a2 = false)
    (rest : List Bytes)
    (hrest : ∀ x, rest.head? = some x → kwMatch p1 x = false ∧ kwMatch p2 x = false)
    (hcomm : ∀ e, EnvEq (U2 (U1 e)) (U1 (U2 e)))
    (vals : List Bytes) (hv : vals.length = positionalPrefix g) :
    OutcomeEq (runGrammar g (vals ++ (a1 :: v1 ++ (a2 :: v2 ++ rest))))
      (runGrammar g (vals ++ (a2 :: v2 ++ (a1 :: v1 ++ rest)))) := by
  have hlen : (vals ++ (a2 :: v2 ++ (a1 :: v1 ++ rest))).length
      = (vals ++ (a1 :: v1 ++ (a2 :: v2 ++ rest))).length := by
    simp only [List.length_append, List.length_cons]; omega
  by_cases hreq : g.required ≤ (vals ++ (a1 :: v1 ++ (a2 :: v2 ++ rest))).length
  · rw [runGrammar_positional g _ (by simp [hv]) hreq,
      runGrammar_positional g _ (by simp [hv]) (by rw [hlen]; exact hreq)]
    simp only [← hv, List.take_left', List.drop_left']
    cases bindPos (posParsers g) vals [] with
    | error o => exact OutcomeEq.rfl' o
    | ok env =>
      simp only []
      rw [ht] at hk ⊢
      have hf : (A ++ p1 :: B ++ p2 :: C).length = (A.length + B.length + C.length) + 2 := by
        simp only [List.length_append, List.length_cons]; omega
      rw [hf]
      exact swap_adjacent_groups A B C p1 p2 hk a1 v1 a2 v2 U1 U2 h1 h2 hd1 hd2 rest hrest hcomm _ env
  · unfold runGrammar
    rw [if_pos (by omega), if_pos (by omega)]
    exact OutcomeEq.rfl' _

end Redka.WireProofs
