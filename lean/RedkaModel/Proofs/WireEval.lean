/-
  Closed statements about the wire model (the witnesses of C13–C15) are proved by kernel evaluation.
  The kernel shares evaluation only inside one declaration, and evaluating `parse` on a closed request
  is mostly the dispatch: decoding the names of `Generated.dispatch` up to the row, then the string
  `match` of `parseBy`. The rows the witnesses go through are therefore resolved in one declaration
  (`witnessRows_ok`); a witness first rewrites `parse` (or `handle`) into `parseVia witnessRows`, which
  finds the parse function in that short table, and evaluates only the grammar and the command.
-/
import RedkaModel.Proofs.Multi

namespace Redka.WireProofs

open Redka Redka.Wire Redka.MultiProofs

/-- `∃ a, o = some a ∧ P a` is decided by looking at `o`: the witness is computed, not guessed. -/
instance decExistsSome {α : Type} (o : Option α) (P : α → Prop) [DecidablePred P] :
    Decidable (∃ a, o = some a ∧ P a) :=
  match o with
  | none => isFalse fun ⟨_, h, _⟩ => nomatch h
  | some a => decidable_of_iff (P a) ⟨fun h => ⟨a, rfl, h⟩, fun ⟨_, h, hp⟩ => Option.some.inj h ▸ hp⟩

/-- an injective code of a token, built from types whose equality tests are written by hand -/
def tokenCode : Token → Nat × Bytes × Int
  | .str s => (0, s, 0) | .err s => (1, s, 0) | .int i => (2, [], i) | .bulk s => (3, s, 0)
  | .null => (4, [], 0) | .arrayHdr n => (5, [], n) | .raw s => (6, s, 0)

theorem tokenCode_inj {a b : Token} (h : tokenCode a = tokenCode b) : a = b := by
  cases a <;> cases b <;> simp_all [tokenCode]

namespace TokenEq

/-- Equality of tokens through their codes. The derived `DecidableEq Token` answers `h ▸ isTrue _` with
`h` the equality of the payloads; to reduce that `Eq.rec` the kernel compares the two payloads a second
time, as unevaluated terms. A witness opens this namespace for its evaluation only. -/
scoped instance (priority := high) tokenDecEq : DecidableEq Token := fun a b =>
  decidable_of_iff (tokenCode a = tokenCode b) ⟨tokenCode_inj, congrArg _⟩

end TokenEq

/-- `command.Parse` once the name is lowered: the `switch`, `default:` included -/
def parseNamed (n : Bytes) (rest : List Bytes) : ParseOut :=
  match lookupDispatch n with
  | some (fn, extra) => parseBy fn extra ⟨n, rest⟩
  | none => parseBy Generated.dispatchDefault [] ⟨n, rest⟩

/-- `command.Parse`, looking the lowered name up in a table `rows` of resolved names first
(`parse_witness`: with `witnessRows` it is `parse`) -/
def parseVia (rows : List (String × (Base → ParseOut))) (a : Bytes) (rest : List Bytes) : ParseOut :=
  match lowerName a with
  | none => .outOfDomain
  | some n =>
    match rows.find? (fun r => asciiBytes r.1 == n) with
    | some r => r.2 ⟨n, rest⟩
    | none => parseNamed n rest

/-- the command names the witnesses use, with the parse function `command.Parse` selects (`find?` stops at
the row, so the frequent names stand first); `MULTI`, `EXEC`, `DISCARD` and `FOO` have no row: `default:` -/
def witnessRows : List (String × (Base → ParseOut)) :=
  [("set", parseSet), ("incr", (parseIncr · 1)), ("exec", parseUnknown), ("multi", parseUnknown),
   ("get", parseGet), ("zinter", parseZInter), ("linsert", parseLInsert), ("lrange", parseLRange),
   ("config", parseConfig), ("hscan", parseHScan), ("discard", parseUnknown), ("zrange", parseZRange),
   ("llen", parseLLen), ("zrank", parseZRank), ("zunionstore", parseZUnionStore), ("foo", parseUnknown)]

/-- All rows in one declaration: the kernel shares evaluation only inside a declaration, so the names of
`Generated.dispatch` and the strings `parseBy` matches on are decoded once. -/
theorem witnessRows_ok :
    ∀ r ∈ witnessRows, ∀ rest, parseNamed (asciiBytes r.1) rest = r.2 ⟨asciiBytes r.1, rest⟩ := by
  simp only [witnessRows, List.forall_mem_cons, List.not_mem_nil, false_imp_iff, implies_true, and_true]
  exact ⟨fun _ => rfl, fun _ => rfl, fun _ => rfl, fun _ => rfl, fun _ => rfl, fun _ => rfl, fun _ => rfl,
    fun _ => rfl, fun _ => rfl, fun _ => rfl, fun _ => rfl, fun _ => rfl, fun _ => rfl, fun _ => rfl,
    fun _ => rfl, fun _ => rfl⟩

theorem parse_witness (a : Bytes) (rest : List Bytes) : parse (a :: rest) = parseVia witnessRows a rest := by
  have hp : parse (a :: rest) = match lowerName a with | none => .outOfDomain | some n => parseNamed n rest := rfl
  rw [hp]
  unfold parseVia
  cases lowerName a with
  | none => rfl
  | some n =>
    dsimp only
    cases hr : witnessRows.find? (fun r => asciiBytes r.1 == n) with
    | none => rfl
    | some r =>
      have h := witnessRows_ok r (List.mem_of_find?_eq_some hr) rest
      have hn : (asciiBytes r.1 == n) = true := (List.find?_eq_some_iff_append.mp hr).1
      rwa [eq_of_beq hn] at h

/-- the handler chain by cases of what `command.Parse` returns -/
theorem handle_witness (st : ConnState) (db : DB) (now : Int) (a : Bytes) (rest : List Bytes) :
    handle st db now (a :: rest) = match parseVia witnessRows a rest with
      | .ok pc => stage st db now pc
      | .error e => (st, db, [.err (errorText (asciiBytes e.text) [])])
      | _ => (st, db, []) := by
  rw [← parse_witness]
  unfold handle handleX stage
  cases parse (a :: rest) <;> rfl

end Redka.WireProofs
