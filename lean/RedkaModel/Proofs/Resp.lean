/-
  The strict RESP decoder of `Model/Wire/Resp.lean` reads back what the encoder wrote: `decode (encode r ++ rest)
  = some (r, rest)` for a reply whose status and error lines hold no CR or LF, and likewise for a stream of replies.
  Core Lean only.
-/
import RedkaModel.Model.Wire.Resp
import RedkaModel.Proofs.Num

namespace Redka.Resp

open Redka

theorem stripNewlines_of_clean {s : Bytes} (h13 : s.contains 13 = false) (h10 : s.contains 10 = false) :
    stripNewlines s = s := by
  induction s with
  | nil => rfl
  | cons c cs ih =>
    simp only [List.contains_cons, Bool.or_eq_false_iff, beq_eq_false_iff_ne, ne_eq] at h13 h10
    have h1 : c ≠ 13 := fun h => h13.1 h.symm
    have h2 : c ≠ 10 := fun h => h10.1 h.symm
    have := ih h13.2 h10.2
    simp only [stripNewlines] at this ⊢
    simp [h1, h2, this]

theorem readLine_append {s : Bytes} (h13 : s.contains 13 = false) (h10 : s.contains 10 = false)
    (rest : Bytes) : readLine (s ++ 13 :: 10 :: rest) = some (s, rest) := by
  induction s with
  | nil => simp [readLine]
  | cons c cs ih =>
    simp only [List.contains_cons, Bool.or_eq_false_iff, beq_eq_false_iff_ne, ne_eq] at h13 h10
    have h1 : c ≠ 13 := fun h => h13.1 h.symm
    have h2 : c ≠ 10 := fun h => h10.1 h.symm
    simp [readLine, h1, h2, ih h13.2 h10.2]

theorem contains_false_of_digits {ds : Bytes} {c : UInt8} (hall : ds.all isDigit = true)
    (hc : isDigit c = false) : ds.contains c = false := by
  apply Bool.eq_false_iff.mpr
  intro h
  have := List.all_eq_true.mp hall c (by simpa using h)
  simp [hc] at this

theorem itoa_contains_false (i : Int) {c : UInt8} (hc : isDigit c = false) (h45 : c ≠ 45) :
    (itoa i).contains c = false := by
  have hd := contains_false_of_digits (natDigits_all_digit i.natAbs) hc
  unfold itoa
  split
  · simp only [List.contains_cons, hd, Bool.or_false, beq_eq_false_iff_ne, ne_eq]
    exact h45
  · exact hd

theorem readLine_itoa (i : Int) (rest : Bytes) :
    readLine (itoa i ++ 13 :: 10 :: rest) = some (itoa i, rest) :=
  readLine_append (itoa_contains_false i (by decide) (by decide))
    (itoa_contains_false i (by decide) (by decide)) rest

theorem readLine_natDigits (n : Nat) (rest : Bytes) :
    readLine (natDigits n ++ 13 :: 10 :: rest) = some (natDigits n, rest) := by
  have := readLine_itoa (n : Int) rest
  rwa [itoa_natCast] at this

theorem parseNat_natDigits (n : Nat) : parseNat (natDigits n) = some n := by
  have hemp : (natDigits n).isEmpty = false := by
    have := natDigits_ne_nil n
    cases h : natDigits n with
    | nil => exact absurd h this
    | cons _ _ => rfl
  simp [parseNat, hemp, natDigits_all_digit, digitsVal_natDigits]

theorem parseInt_itoa (i : Int) : parseInt (itoa i) = some i := by
  by_cases hi : i < 0
  · rw [itoa_neg hi]
    simp only [parseInt, if_true, parseNat_natDigits]
    congr 2; omega
  · rw [itoa_nonneg (by omega)]
    cases h : natDigits i.natAbs with
    | nil => exact absurd h (natDigits_ne_nil _)
    | cons c ds =>
      have hc : c ≠ 45 := by
        intro hc; subst hc
        exact natDigits_head_ne (by decide) h
      simp only [parseInt, if_neg hc]
      rw [← h, parseNat_natDigits]
      simp only []
      congr 2; omega

theorem readBulk_append (b rest : Bytes) :
    readBulk b.length (b ++ 13 :: 10 :: rest) = some (b, rest) := by
  simp [readBulk]

theorem encodeList_eq_flatMap (l : List Reply) : encodeList l = l.flatMap encode := by
  induction l with
  | nil => simp [encodeList]
  | cons r rs ih => simp [encodeList, ih]

theorem isCleanList_iff (l : List Reply) : isCleanList l = true ↔ ∀ r ∈ l, Clean r := by
  induction l with
  | nil => simp [isCleanList]
  | cons r rs ih => simp [isCleanList, ih]

mutual
/-- array nesting depth, counting a leaf as 1: the fuel `decodeF` needs -/
def depth : Reply → Nat
  | .array l => depthList l + 1
  | _ => 1
def depthList : List Reply → Nat
  | [] => 0
  | r :: rs => max (depth r) (depthList rs)
end

theorem depth_pos (r : Reply) : 1 ≤ depth r := by
  cases r <;> simp [depth]

mutual
theorem decodeF_encode (r : Reply) (hc : Clean r) (f : Nat) (hf : depth r ≤ f) (rest : Bytes) :
    decodeF f (encode r ++ rest) = some (r, rest) := by
  obtain ⟨f, rfl⟩ : ∃ g, f = g + 1 := ⟨f - 1, by have := depth_pos r; omega⟩
  cases r with
  | simple s =>
    simp only [Clean, isClean, Bool.and_eq_true, Bool.not_eq_true'] at hc
    simp [encode, crlf, decodeF, stripNewlines_of_clean hc.1 hc.2, readLine_append hc.1 hc.2]
  | err s =>
    simp only [Clean, isClean, Bool.and_eq_true, Bool.not_eq_true'] at hc
    simp [encode, crlf, decodeF, stripNewlines_of_clean hc.1 hc.2, readLine_append hc.1 hc.2]
  | int i =>
    simp [encode, appendPrefix, crlf, decodeF, readLine_itoa, parseInt_itoa]
  | bulk b =>
    have hne : natDigits b.length ≠ [45, 49] := natDigits_head_ne (by decide)
    simp [encode, appendPrefix, crlf, decodeF, readLine_natDigits, itoa_natCast, hne,
      parseNat_natDigits, readBulk_append]
  | null =>
    simp [encode, decodeF, readLine]
  | array l =>
    have hne : natDigits l.length ≠ [45, 49] := natDigits_head_ne (by decide)
    have hl : isCleanList l = true := by simpa [Clean, isClean] using hc
    have hd : depthList l ≤ f := by simp [depth] at hf; exact hf
    simp [encode, appendPrefix, crlf, decodeF, readLine_natDigits, itoa_natCast,
      parseNat_natDigits, decodeMany_encodeList l hl f hd rest]
theorem decodeMany_encodeList (l : List Reply) (hc : isCleanList l = true) (f : Nat)
    (hf : depthList l ≤ f) (rest : Bytes) :
    decodeMany (decodeF f) l.length (encodeList l ++ rest) = some (l, rest) := by
  cases l with
  | nil => simp [decodeMany, encodeList]
  | cons r rs =>
    simp only [isCleanList, Bool.and_eq_true] at hc
    simp only [depthList] at hf
    have h1 := decodeF_encode r hc.1 f (by omega) (encodeList rs ++ rest)
    have h2 := decodeMany_encodeList rs hc.2 f (by omega) rest
    simp [decodeMany, encodeList, h1, h2]
end

mutual
theorem depth_le_length (r : Reply) : depth r ≤ (encode r).length := by
  cases r with
  | array l =>
    have := depthList_le_length l
    simp [depth, encode, appendPrefix]
    omega
  | simple s => simp [depth, encode]
  | err s => simp [depth, encode]
  | int i => simp [depth, encode, appendPrefix]
  | bulk b => simp [depth, encode, appendPrefix]
  | null => simp [depth, encode]
theorem depthList_le_length (l : List Reply) : depthList l ≤ (encodeList l).length := by
  cases l with
  | nil => simp [depthList]
  | cons r rs =>
    have h1 := depth_le_length r
    have h2 := depthList_le_length rs
    simp [depthList, encodeList]
    omega
end

theorem decode_encode_append (r : Reply) (hc : Clean r) (rest : Bytes) :
    decode (encode r ++ rest) = some (r, rest) := by
  unfold decode
  apply decodeF_encode r hc
  have := depth_le_length r
  simp only [List.length_append]
  omega

theorem encode_ne_nil (r : Reply) : encode r ≠ [] := by
  intro h
  have h1 := depth_le_length r
  have h2 := depth_pos r
  simp [h] at h1
  omega

theorem decodeAllF_succ (f : Nat) (input : Bytes) (h : input ≠ []) :
    decodeAllF (f + 1) input =
      match decode input with
      | none => none
      | some (r, rest) =>
        match decodeAllF f rest with
        | none => none
        | some rs => some (r :: rs) := by
  cases input with
  | nil => exact absurd rfl h
  | cons c cs => rfl

theorem decodeAllF_flatMap (rs : List Reply) (hc : ∀ r ∈ rs, Clean r) (f : Nat)
    (hf : rs.length ≤ f) : decodeAllF f (rs.flatMap encode) = some rs := by
  induction rs generalizing f with
  | nil => cases f <;> simp [decodeAllF]
  | cons r rs ih =>
    obtain ⟨f, rfl⟩ : ∃ g, f = g + 1 := ⟨f - 1, by simp at hf; omega⟩
    have hne : (r :: rs).flatMap encode ≠ [] := by
      simp only [List.flatMap_cons, ne_eq, List.append_eq_nil_iff, not_and]
      intro h; exact absurd h (encode_ne_nil r)
    rw [decodeAllF_succ _ _ hne, List.flatMap_cons,
      decode_encode_append r (hc r (by simp))]
    simp only
    rw [ih (fun x hx => hc x (by simp [hx])) f (by simp at hf; omega)]

theorem length_le_flatMap_encode (rs : List Reply) : rs.length ≤ (rs.flatMap encode).length := by
  induction rs with
  | nil => simp
  | cons r rs ih =>
    have h1 := depth_le_length r
    have h2 := depth_pos r
    simp only [List.length_cons, List.flatMap_cons, List.length_append]
    omega

theorem decodeAll_flatMap (rs : List Reply) (hc : ∀ r ∈ rs, Clean r) :
    decodeAll (rs.flatMap encode) = some rs :=
  decodeAllF_flatMap rs hc _ (length_le_flatMap_encode rs)

end Redka.Resp
