/-
  Lemmas for C10 ("an expired key does not exist, for any operation"): the database after the
  unlimited cleaner ran at `now` (`cleaned now db`), and what it shares with the database it was
  made from — the abstract keyspace, the structural invariant, every guarded lookup
  (`liveKey`, `liveKeyT`), the child rows of every live key and therefore every raw read the
  deviation classifiers of the families consult (`strGetRaw`, `hashGetRaw`, `liveListLen`).
  It holds no expired row, so the class D05 (`Spec.staleKey`) and the class D06
  (`keys.any (!live)`) are empty on it.

  Property theorems are in `Props/C10.lean`.
-/
import RedkaModel.Proofs.Clean
import RedkaModel.Proofs.Abs
import RedkaModel.Proofs.ListRef

namespace Redka.ExpiryProofs

open Redka Redka.Model Redka.Clean

/-- the database after the background cleaner ran (without a limit) at `now`:
`delete from rkey where etime <= now`, children by `ON DELETE CASCADE` -/
def cleaned (now : Int) (db : DB) : DB := (Model.keyDeleteExpired db 0 now).db

/-! ### what `cleaned` is -/

theorem cleaned_keys {db : DB} (hu : KeyIdsUnique db) (now : Int) :
    (cleaned now db).keys = db.keys.filter (fun r => r.live now) := by
  unfold cleaned
  rw [keyDeleteExpired_keys]
  apply List.filter_congr
  intro x hx
  rw [sel_eq_expired hu (Int.le_refl 0) hx, live_eq_not_expired]

theorem cleaned_fk (now : Int) (db : DB) : (cleaned now db).fk = db.fk :=
  keyDeleteExpired_fk db 0 now

theorem abs_cleaned {db : DB} (hu : KeyIdsUnique db) (now : Int) :
    Spec.abs now (cleaned now db) = Spec.abs now db :=
  abs_keyDeleteExpired hu 0 (Int.le_refl now)

theorem abs_cleaned_from {db : DB} (hu : KeyIdsUnique db) {now now' : Int} (hle : now ≤ now') :
    Spec.abs now' (cleaned now db) = Spec.abs now' db :=
  abs_keyDeleteExpired hu 0 hle

theorem inv_cleaned {db : DB} (hinv : db.Inv) (hfk : db.fk = true) (now : Int) :
    (cleaned now db).Inv := by
  unfold cleaned
  rw [keyDeleteExpired_db]
  exact inv_dkw hinv hfk _

theorem keyIdsUnique_cleaned {db : DB} (hu : KeyIdsUnique db) (now : Int) :
    KeyIdsUnique (cleaned now db) := by
  unfold cleaned
  rw [keyDeleteExpired_db]
  exact keyIdsUnique_dkw hu _

/-- no hypothesis at all: every row the unlimited cleaner leaves is live -/
theorem cleaned_all_live (now : Int) (db : DB) : ∀ r ∈ (cleaned now db).keys, r.live now = true :=
  fun _ hr => live_of_mem_keyDeleteExpired (Int.le_refl 0) hr

/-- the live rows, in order, are what they were -/
theorem liveRows_cleaned {db : DB} (hu : KeyIdsUnique db) (now : Int) :
    (cleaned now db).keys.filter (fun r => r.live now) = db.keys.filter (fun r => r.live now) :=
  liveRows_keyDeleteExpired hu 0 (Int.le_refl now)

/-! ### the staleness classes are empty on `cleaned` -/

/-- D05 cannot arise: no name is held by a stored-but-expired row -/
theorem staleKey_cleaned (now : Int) (db : DB) (k : Bytes) :
    Spec.staleKey (cleaned now db) now k = false := by
  unfold Spec.staleKey
  cases h : (cleaned now db).findKey k with
  | none => rfl
  | some r =>
    have hl := cleaned_all_live now db r (DB.findKey_mem h).1
    simp [hl]

theorem stale_any_cleaned (now : Int) (db : DB) (ks : List Bytes) :
    ks.any (Spec.staleKey (cleaned now db) now) = false := by
  rw [List.any_eq_false]
  intro k _
  rw [staleKey_cleaned]
  exact Bool.false_ne_true

/-- D06 cannot arise: no stored row is expired -/
theorem no_expired_cleaned (now : Int) (db : DB) :
    (cleaned now db).keys.any (fun r => !r.live now) = false := by
  rw [List.any_eq_false]
  intro r hr
  rw [cleaned_all_live now db r hr]
  exact Bool.false_ne_true

/-! ### guarded lookups are unchanged -/

theorem liveKeyT_live (db : DB) (k : Bytes) (ty now : Int) :
    db.liveKeyT k ty now
      = (db.keys.filter (fun r => r.live now)).find? (fun r => r.key == k && r.ty == ty) := by
  unfold DB.liveKeyT
  rw [find?_filter_and]

theorem liveKey_cleaned {db : DB} (hu : KeyIdsUnique db) (now : Int) (k : Bytes) :
    (cleaned now db).liveKey k now = db.liveKey k now := by
  rw [liveKey_live, liveKey_live, liveRows_cleaned hu]

theorem liveKeyT_cleaned {db : DB} (hu : KeyIdsUnique db) (now : Int) (k : Bytes) (ty : Int) :
    (cleaned now db).liveKeyT k ty now = db.liveKeyT k ty now := by
  rw [liveKeyT_live, liveKeyT_live, liveRows_cleaned hu]

theorem liveKeyT_mem {db : DB} {k : Bytes} {ty now : Int} {r : KeyRow}
    (h : db.liveKeyT k ty now = some r) : r ∈ db.keys ∧ r.live now = true := by
  unfold DB.liveKeyT at h
  have hp := List.find?_some h
  simp only [Bool.and_eq_true] at hp
  exact ⟨List.mem_of_find?_eq_some h, hp.2⟩

/-! ### the child rows of a live key are unchanged -/

theorem live_id_not_gone {db : DB} (hu : KeyIdsUnique db) {now : Int} {r : KeyRow}
    (hr : r ∈ db.keys) (hl : r.live now = true) :
    (goneIds db (sel db 0 now)).contains r.id = false :=
  survivor_id_not_gone hu _ hr (sel_live_false hu (Int.le_refl now) hr hl)

theorem strs_find_cleaned {db : DB} (hu : KeyIdsUnique db) {now : Int} {r : KeyRow}
    (hr : r ∈ db.keys) (hl : r.live now = true) :
    (cleaned now db).strs.find? (fun s => s.kid == r.id) = db.strs.find? (fun s => s.kid == r.id) := by
  unfold cleaned
  rw [keyDeleteExpired_db]
  exact dkw_strs_find_of (live_id_not_gone hu hr hl)

theorem lists_filter_cleaned {db : DB} (hu : KeyIdsUnique db) {now : Int} {r : KeyRow}
    (hr : r ∈ db.keys) (hl : r.live now = true) :
    (cleaned now db).lists.filter (fun x => x.kid == r.id) = db.lists.filter (fun x => x.kid == r.id) := by
  unfold cleaned
  rw [keyDeleteExpired_db]
  exact dkw_lists_of (live_id_not_gone hu hr hl)

theorem hashes_filter_cleaned {db : DB} (hu : KeyIdsUnique db) {now : Int} {r : KeyRow}
    (hr : r ∈ db.keys) (hl : r.live now = true) :
    (cleaned now db).hashes.filter (fun x => x.kid == r.id)
      = db.hashes.filter (fun x => x.kid == r.id) := by
  unfold cleaned
  rw [keyDeleteExpired_db]
  exact dkw_hashes_of (live_id_not_gone hu hr hl)

theorem listRows_cleaned {db : DB} (hu : KeyIdsUnique db) {now : Int} {r : KeyRow}
    (hr : r ∈ db.keys) (hl : r.live now = true) :
    Model.listRows (cleaned now db) r.id = Model.listRows db r.id := by
  unfold Model.listRows
  rw [lists_filter_cleaned hu hr hl]

/-! ### the raw reads the classifiers consult are unchanged -/

/-- what D17 (strings) looks at -/
theorem strGetRaw_cleaned {db : DB} (hu : KeyIdsUnique db) (now : Int) (k : Bytes) :
    Model.strGetRaw (cleaned now db) k now = Model.strGetRaw db k now := by
  unfold Model.strGetRaw
  rw [liveKeyT_cleaned hu]
  cases h : db.liveKeyT k TString now with
  | none => rfl
  | some r =>
    obtain ⟨hr, hl⟩ := liveKeyT_mem h
    simp only []
    rw [strs_find_cleaned hu hr hl]

/-- what D17 (hashes) looks at -/
theorem hashGetRaw_cleaned {db : DB} (hu : KeyIdsUnique db) (now : Int) (k f : Bytes) :
    Model.hashGetRaw (cleaned now db) k f now = Model.hashGetRaw db k f now := by
  unfold Model.hashGetRaw
  rw [liveKeyT_cleaned hu]
  cases h : db.liveKeyT k THash now with
  | none => rfl
  | some r =>
    obtain ⟨hr, hl⟩ := liveKeyT_mem h
    simp only []
    have e : ∀ L : List HashRow, L.find? (fun x => x.kid == r.id && x.field == f)
        = (L.filter (fun x => x.kid == r.id)).find? (fun x => x.field == f) := by
      intro L
      rw [find?_filter_and]
      congr 1
      funext x
      exact Bool.and_comm _ _
    rw [e, e, hashes_filter_cleaned hu hr hl]

/-- what D01 / D02 look at -/
theorem liveListLen_cleaned {db : DB} (hu : KeyIdsUnique db) (now : Int) (k : Bytes) :
    Spec.liveListLen (cleaned now db) now k = Spec.liveListLen db now k := by
  unfold Spec.liveListLen
  rw [liveKeyT_cleaned hu]
  cases h : db.liveKeyT k TList now with
  | none => rfl
  | some r =>
    obtain ⟨hr, hl⟩ := liveKeyT_mem h
    simp only [Option.map_some]
    rw [listRows_cleaned hu hr hl]

/-! ### room for a pushed list position (`C02.Spacious`) is the same with and without the expired rows

`pushSpacious` is judged on the tables `sqlPush` leaves: the key row found BY NAME WITHOUT GUARD
(so a stale row would matter — excluded by `staleKey = false`) or a fresh id, and the `rlist` rows
of that id. -/

/-- `B` is `A` without the key rows that are expired at `now`, as far as a push can tell -/
structure Pruned (now : Int) (A B : DB) : Prop where
  names : (A.keys.map (·.key)).Nodup
  keys : B.keys = A.keys.filter (fun r => r.live now)
  lists : ∀ r ∈ A.keys, r.live now = true →
    B.lists.filter (fun x => x.kid == r.id) = A.lists.filter (fun x => x.kid == r.id)
  freshA : A.lists.filter (fun x => x.kid == A.nextKeyId) = []
  freshB : B.lists.filter (fun x => x.kid == B.nextKeyId) = []

theorem pruned_cleaned {db : DB} (hinv : db.Inv) (hfk : db.fk = true) (now : Int) :
    Pruned now db (cleaned now db) where
  names := (DB.Inv.wf hinv).names
  keys := cleaned_keys (keyIdsUnique_of_inv hinv) now
  lists := fun _ hr hl => lists_filter_cleaned (keyIdsUnique_of_inv hinv) hr hl
  freshA := (DB.Inv.lwf hinv).no_rows_fresh
  freshB := (DB.Inv.lwf (inv_cleaned hinv hfk now)).no_rows_fresh

theorem pushSpacious_eq (X : DB) (k : Bytes) (front : Bool) (now : Int) :
    pushSpacious X k front now = (match X.findKey k with
      | none => pushRoom X.lists X.nextKeyId front
      | some old => if old.ty == TList then pushRoom X.lists old.id front else true) := by
  unfold pushSpacious listPushKey keyUpsert
  cases h : X.findKey k with
  | none => rfl
  | some old =>
    cases ht : (old.ty == TList) with
    | true => simp only [ht, if_true]; rfl
    | false => simp only [ht, Bool.false_eq_true, if_false]

theorem pushRoom_congr {L L' : List ListRow} {i i' : Int} (front : Bool)
    (h : L.filter (fun x => x.kid == i) = L'.filter (fun x => x.kid == i')) :
    pushRoom L i front = pushRoom L' i' front := by
  unfold pushRoom pushPos
  simp only []
  rw [h]

theorem Pruned.findKey_eq {now : Int} {A B : DB} (h : Pruned now A B) (k : Bytes) :
    B.findKey k = (A.findKey k).filter (fun r => r.live now) := by
  rw [← DB.liveKey_eq h.names]
  unfold DB.findKey DB.liveKey
  rw [h.keys, find?_filter_and]

theorem Pruned.pushSpacious {now : Int} {A B : DB} (h : Pruned now A B) {d : Bytes}
    (hns : Spec.staleKey A now d = false) (front : Bool) :
    pushSpacious B d front now = pushSpacious A d front now := by
  rw [pushSpacious_eq, pushSpacious_eq, h.findKey_eq]
  cases hf : A.findKey d with
  | none =>
    simp only [Option.filter_none]
    exact pushRoom_congr front (h.freshB.trans h.freshA.symm)
  | some old =>
    have hl : old.live now = true := by simpa [Spec.staleKey, hf] using hns
    simp only [Option.filter_some, hl, if_true]
    split
    · exact pushRoom_congr front (h.lists old (DB.findKey_mem hf).1 hl)
    · rfl

/-- update some key rows in place (name, id, expiry kept) and delete some `rlist` rows -/
def touch (X : DB) (g : KeyRow → KeyRow) (q : ListRow → Bool) : DB :=
  { X with keys := X.keys.map g, lists := X.lists.filter q }

theorem filter_comm {α : Type} (a q : α → Bool) (l : List α) :
    (l.filter q).filter a = (l.filter a).filter q := by
  rw [List.filter_filter, List.filter_filter]
  apply List.filter_congr
  intro x _
  exact Bool.and_comm _ _

theorem touch_nextKeyId (X : DB) (g : KeyRow → KeyRow) (q : ListRow → Bool)
    (hi : ∀ r, (g r).id = r.id) : (touch X g q).nextKeyId = X.nextKeyId := by
  unfold DB.nextKeyId touch
  simp only [List.map_map]
  have : ((fun r : KeyRow => r.id) ∘ g) = (fun r : KeyRow => r.id) := funext hi
  rw [this]

theorem Pruned.touch {now : Int} {A B : DB} (h : Pruned now A B) (g : KeyRow → KeyRow)
    (q : ListRow → Bool) (hk : ∀ r, (g r).key = r.key) (hi : ∀ r, (g r).id = r.id)
    (he : ∀ r, (g r).etime = r.etime) : Pruned now (touch A g q) (touch B g q) := by
  have hlive : ∀ r : KeyRow, (g r).live now = r.live now := by
    intro r; unfold KeyRow.live; rw [he]
  refine ⟨?_, ?_, ?_, ?_, ?_⟩
  · show ((A.keys.map g).map (·.key)).Nodup
    rw [List.map_map]
    have : ((fun r : KeyRow => r.key) ∘ g) = (fun r : KeyRow => r.key) := funext hk
    rw [this]; exact h.names
  · show B.keys.map g = (A.keys.map g).filter (fun r => r.live now)
    rw [h.keys, List.filter_map]
    congr 1
    apply List.filter_congr
    intro x _
    exact (hlive x).symm
  · intro r' hr' hl'
    obtain ⟨r, hr, rfl⟩ := List.mem_map.1 (show r' ∈ A.keys.map g from hr')
    rw [hlive] at hl'
    show (B.lists.filter q).filter (fun x => x.kid == (g r).id)
      = (A.lists.filter q).filter (fun x => x.kid == (g r).id)
    rw [hi, filter_comm, filter_comm _ q A.lists, h.lists r hr hl']
  · rw [touch_nextKeyId A g q hi]
    show (A.lists.filter q).filter (fun x => x.kid == A.nextKeyId) = []
    rw [filter_comm, h.freshA]; rfl
  · rw [touch_nextKeyId B g q hi]
    show (B.lists.filter q).filter (fun x => x.kid == B.nextKeyId) = []
    rw [filter_comm, h.freshB]; rfl

theorem staleKey_touch (X : DB) (g : KeyRow → KeyRow) (q : ListRow → Bool)
    (hk : ∀ r, (g r).key = r.key) (he : ∀ r, (g r).etime = r.etime) (now : Int) (d : Bytes) :
    Spec.staleKey (touch X g q) now d = Spec.staleKey X now d := by
  unfold Spec.staleKey DB.findKey touch
  simp only [List.find?_map]
  have : ((fun r : KeyRow => r.key == d) ∘ g) = (fun r : KeyRow => r.key == d) := by
    funext r; simp only [Function.comp, hk]
  rw [this]
  cases X.keys.find? (fun r => r.key == d) with
  | none => rfl
  | some r => simp only [Option.map_some, KeyRow.live, he]

theorem listDeleteRows_touch (X : DB) (kid : Int) (V : List Dyadic) (now : Int) :
    listDeleteRows X kid V now
      = touch X (fun r => if r.id == kid then delN now V.length r else r)
          (fun r => !(r.kid == kid && V.contains r.pos)) := by
  rw [listDeleteRows_eq]; rfl

theorem Pruned.deleteRows {now : Int} {A B : DB} (h : Pruned now A B) (kid : Int) (V : List Dyadic) :
    Pruned now (listDeleteRows A kid V now) (listDeleteRows B kid V now) := by
  rw [listDeleteRows_touch, listDeleteRows_touch]
  apply h.touch
  · intro r; split
    · exact delN_key _ _ _
    · rfl
  · intro r; split
    · exact delN_id _ _ _
    · rfl
  · intro r; split
    · exact delN_etime _ _ _
    · rfl

theorem staleKey_deleteRows (X : DB) (kid : Int) (V : List Dyadic) (now : Int) (d : Bytes) :
    Spec.staleKey (listDeleteRows X kid V now) now d = Spec.staleKey X now d := by
  rw [listDeleteRows_touch]
  apply staleKey_touch
  · intro r; split
    · exact delN_key _ _ _
    · rfl
  · intro r; split
    · exact delN_etime _ _ _
    · rfl

/-- `Spacious` of a push -/
theorem pushSpacious_cleaned {db : DB} (hinv : db.Inv) (hfk : db.fk = true) {now : Int} {k : Bytes}
    (hns : Spec.staleKey db now k = false) (front : Bool) :
    pushSpacious (cleaned now db) k front now = pushSpacious db k front now :=
  (pruned_cleaned hinv hfk now).pushSpacious hns front

/-- `Spacious` of an insert -/
theorem insertRoom_cleaned {db : DB} (hu : KeyIdsUnique db) (now : Int) (k p : Bytes) (after : Bool) :
    (match (cleaned now db).liveKeyT k TList now with
      | some r => insertRoom (listRows (cleaned now db) r.id) p after
      | none => true)
    = (match db.liveKeyT k TList now with
      | some r => insertRoom (listRows db r.id) p after
      | none => true) := by
  rw [liveKeyT_cleaned hu]
  cases h : db.liveKeyT k TList now with
  | none => rfl
  | some r =>
    obtain ⟨hr, hl⟩ := liveKeyT_mem h
    simp only []
    rw [listRows_cleaned hu hr hl]

/-- `Spacious` of pop-and-push: the pop answers the same and leaves tables that are again
"with / without the expired rows" of each other -/
theorem popPushSpacious_cleaned {db : DB} (hinv : db.Inv) (hfk : db.fk = true) {now : Int}
    (s : Bytes) {d : Bytes} (hns : Spec.staleKey db now d = false) :
    (match (listPop (cleaned now db) s false now).out with
      | .ok _ => pushSpacious (listPop (cleaned now db) s false now).db d true now
      | .error _ => true)
    = (match (listPop db s false now).out with
      | .ok _ => pushSpacious (listPop db s false now).db d true now
      | .error _ => true) := by
  have hu := keyIdsUnique_of_inv hinv
  unfold listPop
  rw [liveKeyT_cleaned hu]
  cases h : db.liveKeyT s TList now with
  | none => rfl
  | some r =>
    obtain ⟨hr, hl⟩ := liveKeyT_mem h
    simp only [Bool.false_eq_true, if_false]
    rw [listRows_cleaned hu hr hl]
    cases hg : (listRows db r.id).getLast? with
    | none => rfl
    | some row =>
      simp only [Res.ok]
      exact ((pruned_cleaned hinv hfk now).deleteRows r.id [row.pos]).pushSpacious
        (by rw [staleKey_deleteRows]; exact hns) true

/-! ### the boundary: a row is visible strictly before its expiry and never from it on -/

/-- under the invariant every live stored row has a typed value -/
theorem absVal_isSome {db : DB} (hw : db.WF) {r : KeyRow} (hr : r ∈ db.keys) :
    ∃ v, Spec.absVal db r = some v :=
  absVal_some hw hr

/-- the entry a stored row stands for, pointwise -/
theorem get_abs_of_mem {db : DB} (hw : db.WF) (now : Int) {r : KeyRow} (hr : r ∈ db.keys) :
    Spec.get (Spec.abs now db) r.key = Spec.rowEntry now db r := by
  rw [Spec.get_abs hw.names, DB.findKey_of_mem hw.names hr]
  rfl

end Redka.ExpiryProofs
