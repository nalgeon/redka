/-
  `internal/rlist` against the abstract keyspace: the refinement of each list operation, and with it
  that the operation keeps `DB.LWF`. Every write is one of three steps on the tables — rows deleted
  (`deleteRows_step`), a row added (`appendRow_step`, `pushNew_step`), an element overwritten
  (`setElem_step`) — each giving `LWF` and what the name stands for afterwards (`Stored`).
-/
import RedkaModel.Proofs.ListRows
import RedkaModel.Proofs.KeyRef
import RedkaModel.Proofs.RowsLib
import RedkaModel.Proofs.MetaEff
import RedkaModel.Props.C02idx

namespace Redka.Model

open Redka Redka.Spec Redka.DB Redka.ListOrd Redka.Scan Redka.Proofs.Index

/-- the elements of the list with key id `kid`, in order -/
def elems (db : DB) (kid : Int) : List Bytes := (listRows db kid).map (·.elem)

theorem length_elems (db : DB) (kid : Int) : (elems db kid).length = (listRows db kid).length :=
  List.length_map _

/-! ### what is stored under a name, as the list repository sees it -/

theorem listAt_of_get_list {s : State} {k : Bytes} {l : List Bytes} {et : Option Int}
    (h : get s k = some ⟨.list l, et⟩) : listAt s k = l := by
  simp [listAt, h]

/-- no list is visible at `k`: the name is missing, expired, or holds another type -/
def NoList (s : State) (k : Bytes) : Prop := ∀ l et, get s k ≠ some ⟨.list l, et⟩

/-- What the typed lookup of the list statements (`… where key = ? and type = 2 and (etime is null or
etime > ?)`) and the abstraction make of a name: a visible list, or nothing either can see. -/
theorem lview {db : DB} (hw : db.WF) (now : Int) (k : Bytes) :
    (∃ r, db.findKey k = some r ∧ r.live now = true ∧ r.ty = TList ∧
      get (abs now db) k = some ⟨.list (elems db r.id), r.etime⟩ ∧ db.liveKeyT k TList now = some r) ∨
    (db.liveKeyT k TList now = none ∧ NoList (abs now db) k) := by
  have hka := liveKeyT_eq hw.names k TList now
  rcases kholder hw now k with ⟨hf, hg, _⟩ | ⟨r, hf, hl, hg, _⟩ | ⟨r, v, hf, hl, hv, hty, hg, _⟩
  · exact .inr ⟨by rw [hka, hf]; rfl, fun l et h => by rw [hg] at h; cases h⟩
  · exact .inr ⟨by rw [hka, hf]; simp [Option.filter, hl], fun l et h => by rw [hg] at h; cases h⟩
  · by_cases ht : r.ty = TList
    · rw [absVal_list ht] at hv
      cases hv
      exact .inl ⟨r, hf, hl, ht, hg, by rw [hka, hf]; simp [Option.filter, hl, ht]⟩
    · refine .inr ⟨by rw [hka, hf]; simp [Option.filter, ht], fun l et h => ?_⟩
      rw [hg] at h
      cases h
      exact ht hty.symm

/-! ### the slice operations where no list is visible -/

section noList
variable {s : State} {k : Bytes} (h : NoList s k)
include h

theorem listAt_noList : listAt s k = [] := by
  unfold listAt; split
  · exact absurd ‹_› (h _ _)
  · rfl

theorem spec_listDeleteAll_noList (e : Bytes) : Spec.listDeleteAll s k e = ok (.int 0) s := by
  unfold Spec.listDeleteAll; split
  · exact absurd ‹_› (h _ _)
  · rfl

theorem spec_listDeleteN_noList (e : Bytes) (n : Int) (back : Bool) :
    Spec.listDeleteN s k e n back = ok (.int 0) s := by
  unfold Spec.listDeleteN; split
  · rfl
  · split
    · exact absurd ‹_› (h _ _)
    · rfl

theorem spec_listSet_noList (i : Int) (e : Bytes) : Spec.listSet s k i e = er .notFound s := by
  unfold Spec.listSet; split
  · exact absurd ‹_› (h _ _)
  · rfl

theorem spec_listInsert_noList (p e : Bytes) (after : Bool) :
    Spec.listInsert s k p e after = er .notFound s := by
  unfold Spec.listInsert; split
  · exact absurd ‹_› (h _ _)
  · rfl

theorem spec_listTrim_noList (a b : Int) : Spec.listTrim s k a b = ok (.int 0) s := by
  unfold Spec.listTrim; split
  · exact absurd ‹_› (h _ _)
  · rfl

end noList

/-! ### the reads -/

theorem listLen_refines {db : DB} (hw : db.LWF) (now : Int) (k : Bytes) :
    Refines now (listLen db k now) (Spec.listLen (abs now db) k) := by
  rcases lview hw.wf now k with ⟨r, h, _, ht, hg, hk⟩ | ⟨hk, hg⟩
  · simp only [listLen, hk, hw.len_eq (findKey_mem h).1 ht, Spec.listLen, listAt_of_get_list hg,
      length_elems]
    exact Refines.same hw.wf now _
  · simp only [listLen, hk, Spec.listLen, listAt_noList hg]
    exact Refines.same hw.wf now _

theorem listGet_refines {db : DB} (hw : db.LWF) (now : Int) (k : Bytes) (i : Int) :
    Refines now (listGet db k i now) (Spec.listGet (abs now db) k i) := by
  rcases lview hw.wf now k with ⟨r, h, _, ht, hg, hk⟩ | ⟨hk, hg⟩
  · have hidx : Spec.lindex (elems db r.id) i = (listRowAt db r.id i).map (·.elem) := by
      rw [listRowAt_eq, Redka.Props.C02.index_refines, elems, lindex_map]
    simp only [listGet, Spec.listGet, hk, listAt_of_get_list hg, hidx]
    cases listRowAt db r.id i <;> exact Refines.same hw.wf now _
  · simp only [listGet, hk, Spec.listGet, listAt_noList hg, lindex_nil]
    exact Refines.same hw.wf now _

/-- D02 (repaired): on a missing key the window is defined (the missing length counts as 0) and empty -/
theorem listRange_missing {db : DB} {now : Int} {k : Bytes} {a b : Int}
    (hk : db.liveKeyT k TList now = none) :
    listRange db k a b now = .ok (.list []) db := by
  unfold listRange
  split
  · rfl
  · simp only [hk, Option.bind_none]
    rw [Redka.Proofs.Index.rangeWindow_nil]
    rfl

theorem listRange_refines {db : DB} (hw : db.LWF) (now : Int) (k : Bytes) (a b : Int) :
    Refines now (listRange db k a b now) (Spec.listRange (abs now db) k a b) := by
  rcases lview hw.wf now k with ⟨r, h, _, ht, hg, hk⟩ | ⟨hk, hg⟩
  · have hm : listRange db k a b now
        = .ok (.list ((modelRange (listRows db r.id) a b).map (fun r => .bytes r.elem))) db := by
      unfold listRange modelRange
      split
      · rfl
      · simp only [hk, Option.bind_some, hw.len_eq (findKey_mem h).1 ht]
        rw [rangeWindow_some]
    rw [hm, Redka.Props.C02.range_refines]
    simp only [Spec.listRange, listAt_of_get_list hg, elems, lrange_map, Spec.bytesList, List.map_map,
      Res.ok]
    exact Refines.same hw.wf now _
  · simp only [listRange_missing hk, Spec.listRange, listAt_noList hg, lrange_nil, Spec.bytesList,
      List.map_nil, Res.ok]
    exact Refines.same hw.wf now _

/-! ### the generic write: an existing or a fresh list key gets a new table of rows -/

/-- The tables after a list write: among the key rows `K'` the name `k` has the list row `r2`, the rows
with another id are the old ones, and `rlist` differs from the old table only in the rows of `r2`. -/
theorem listStore {db : DB} (hw : db.LWF) {k : Bytes} {r2 : KeyRow} (hty : r2.ty = TList)
    {K' : List KeyRow} (L' : List ListRow) (hwf : ({ db with keys := K' } : DB).WF)
    (hmem : ∀ x ∈ K', x = r2 ∨ (x ∈ db.keys ∧ x.id ≠ r2.id)) (hr2 : r2 ∈ K')
    (hkeep : ∀ x ∈ db.keys, x.id ≠ r2.id → x ∈ K')
    (hids : ∀ x ∈ db.keys, x.key ≠ k → x.id ≠ r2.id)
    (hfind : ∀ k', ({ db with keys := K' } : DB).findKey k' = if k == k' then some r2 else db.findKey k')
    (hoth : ∀ id', id' ≠ r2.id →
      L'.filter (fun x => x.kid == id') = db.lists.filter (fun x => x.kid == id'))
    (hpos : PosNodup L')
    (hlen : r2.len = some (((L'.filter (fun x => x.kid == r2.id)).length : Nat) : Int)) :
    ({ db with keys := K', lists := L' } : DB).LWF ∧
    Stored db { db with keys := K', lists := L' } k r2 (.list ((rowsOf L' r2.id).map (·.elem))) := by
  refine ⟨⟨⟨hwf.names, hwf.ids, hwf.tyOk, hwf.strRow, hwf.strKids⟩, ?_, hpos, ?_⟩, ⟨hfind, ?_, ?_⟩⟩
  · intro x hx hxt
    rcases hmem x hx with rfl | ⟨hx, hne⟩
    · exact hlen
    · show x.len = some (((L'.filter (fun y => y.kid == x.id)).length : Nat) : Int)
      rw [hoth x.id hne]
      exact hw.listLen x hx hxt
  · intro x hx
    by_cases hxk : x.kid = r2.id
    · exact ⟨r2, hr2, hxk.symm⟩
    · have hx' : x ∈ L'.filter (fun y => y.kid == x.kid) := List.mem_filter.2 ⟨hx, by simp⟩
      rw [hoth x.kid hxk] at hx'
      obtain ⟨r', hr', hrid⟩ := hw.listOwner x (List.mem_filter.1 hx').1
      exact ⟨r', hkeep r' hr' (hrid ▸ hxk), hrid⟩
  · rw [absVal_list hty]; rfl
  · intro r' hr' hne
    apply absVal_congr <;> try rfl
    exact hoth r'.id (hids r' hr' hne)

/-- An existing list key is rewritten: its key row becomes `r2` (same id and name). -/
theorem listStore_old {db : DB} (hw : db.LWF) {k : Bytes} {r : KeyRow} (hf : db.findKey k = some r)
    (ht : r.ty = TList) (r2 : KeyRow) (hid : r2.id = r.id) (hkey : r2.key = r.key) (hty : r2.ty = TList)
    (L' : List ListRow)
    (hoth : ∀ id', id' ≠ r.id →
      L'.filter (fun x => x.kid == id') = db.lists.filter (fun x => x.kid == id'))
    (hpos : PosNodup L')
    (hlen : r2.len = some (((L'.filter (fun x => x.kid == r.id)).length : Nat) : Int)) :
    ({ db.updKey r.id (fun _ => r2) with lists := L' } : DB).LWF ∧
    Stored db { db.updKey r.id (fun _ => r2) with lists := L' } k r2
      (.list ((rowsOf L' r.id).map (·.elem))) := by
  obtain ⟨ho, hok⟩ := findKey_mem hf
  have hi := hw.wf.ids
  have hne_id : ∀ x ∈ db.keys, x ≠ r → x.id ≠ r2.id :=
    fun x hx hne he => hne (id_inj hi hx ho (he.trans hid))
  have hin : ∀ x ∈ db.keys, (if x = r then r2 else x) ∈ (db.updKey r.id (fun _ => r2)).keys := by
    intro x hx; rw [updKey_keys hi ho]; exact List.mem_map.2 ⟨x, hx, rfl⟩
  rw [← hid] at hoth hlen
  rw [show rowsOf L' r.id = rowsOf L' r2.id by rw [hid]]
  refine listStore hw hty L' (hwf := retime_wf hw.wf ho hid hkey (hty.trans ht.symm))
    (hmem := ?hmem) (hr2 := ?hr2) (hkeep := ?hkeep) (hids := ?hids) (hfind := ?hfind)
    (hoth := hoth) (hpos := hpos) (hlen := hlen)
  case hmem =>
    intro x hx
    rcases mem_updKey hi ho hx with hx | ⟨hx, hne⟩
    · exact .inl hx
    · exact .inr ⟨hx, hne_id x hx hne⟩
  case hr2 =>
    have := hin r ho
    rwa [if_pos rfl] at this
  case hkeep =>
    intro x hx hne
    have := hin x hx
    rwa [if_neg (fun he : x = r => hne (he ▸ hid.symm))] at this
  case hids =>
    intro x hx hne
    exact hne_id x hx (fun he : x = r => hne (he ▸ hok))
  case hfind =>
    intro k'
    rw [← hok]; exact findKey_updKey hw.wf.names hi ho hkey k'

/-! ### deleting rows: `listDeleteRows` in closed form -/

/-- trigger `rlist_on_delete`, fired once -/
def delKey (now : Int) (o : KeyRow) : KeyRow :=
  { o with version := o.version + 1, mtime := now, len := o.len.map (· - 1) }

/-- … fired `n` times -/
def delN (now : Int) : Nat → KeyRow → KeyRow
  | 0, o => o
  | n + 1, o => delN now n (delKey now o)

theorem delN_id (now : Int) : ∀ (n : Nat) (o : KeyRow), (delN now n o).id = o.id
  | 0, _ => rfl
  | n + 1, o => by rw [delN, delN_id now n]; rfl

theorem delN_key (now : Int) : ∀ (n : Nat) (o : KeyRow), (delN now n o).key = o.key
  | 0, _ => rfl
  | n + 1, o => by rw [delN, delN_key now n]; rfl

theorem delN_ty (now : Int) : ∀ (n : Nat) (o : KeyRow), (delN now n o).ty = o.ty
  | 0, _ => rfl
  | n + 1, o => by rw [delN, delN_ty now n]; rfl

theorem delN_etime (now : Int) : ∀ (n : Nat) (o : KeyRow), (delN now n o).etime = o.etime
  | 0, _ => rfl
  | n + 1, o => by rw [delN, delN_etime now n]; rfl

theorem delN_len (now : Int) : ∀ (n : Nat) (o : KeyRow),
    (delN now n o).len = o.len.map (· - (n : Int))
  | 0, o => by cases h : o.len <;> simp [delN, h]
  | n + 1, o => by
    rw [delN, delN_len now n]
    cases h : o.len <;> simp [delKey, h]
    omega

theorem foldl_onDelete (kid now : Int) : ∀ (V : List Dyadic) (db : DB),
    V.foldl (fun d _ => listOnDelete d kid now) db = db.updKey kid (delN now V.length)
  | [], db => by
    show db = db.updKey kid (fun o => o)
    simp [updKey]
  | _ :: V, db => by
    rw [List.foldl_cons, foldl_onDelete kid now V]
    show (db.updKey kid (delKey now)).updKey kid (delN now V.length) = _
    exact MetaProofs.updKey_updKey db kid (delKey now) (delN now V.length) (fun _ => rfl)

theorem listDeleteRows_eq (db : DB) (kid : Int) (V : List Dyadic) (now : Int) :
    listDeleteRows db kid V now
      = { db.updKey kid (delN now V.length) with
          lists := db.lists.filter (fun r => !(r.kid == kid && V.contains r.pos)) } := by
  unfold listDeleteRows
  dsimp only
  rw [foldl_onDelete]
  rfl

theorem filter_pos_victims {rows S : List ListRow} (hs : PosSorted rows) (hsub : ∀ x ∈ S, x ∈ rows) :
    rows.filter (fun x => !(S.map (·.pos)).contains x.pos) = rows.filter (fun x => !S.contains x) := by
  apply List.filter_congr
  intro x hx
  congr 1
  rw [Bool.eq_iff_iff]
  simp only [List.contains_eq_mem, decide_eq_true_eq, List.mem_map]
  constructor
  · rintro ⟨y, hy, hp⟩
    rw [← hs.pos_inj y (hsub y hy) x hx hp]; exact hy
  · intro h; exact ⟨x, h, rfl⟩

/-- Deleting the rows `S` of the list stored at `k`: the tables stay well-formed and the name
stands for the list without those rows. -/
theorem deleteRows_step {db : DB} (hw : db.LWF) {k : Bytes} {r : KeyRow} (hf : db.findKey k = some r)
    (ht : r.ty = TList) (S : List ListRow) (hnd : S.Nodup) (hsub : ∀ x ∈ S, x ∈ listRows db r.id)
    (now : Int) :
    (listDeleteRows db r.id (S.map (·.pos)) now).LWF ∧
    Stored db (listDeleteRows db r.id (S.map (·.pos)) now) k (delN now S.length r)
      (.list (((listRows db r.id).filter (fun x => !S.contains x)).map (·.elem))) := by
  obtain ⟨ho, _⟩ := findKey_mem hf
  have hsorted := hw.rows_sorted r.id
  have hrows : rowsOf (db.lists.filter (fun x => !(x.kid == r.id && (S.map (·.pos)).contains x.pos))) r.id
      = (listRows db r.id).filter (fun x => !S.contains x) := by
    rw [rowsOf_delete hw.listPos, ← listRows_eq_rowsOf, filter_pos_victims hsorted hsub]
  rw [listDeleteRows_eq, List.length_map, updKey_const hw.wf.ids ho, ← hrows]
  apply listStore_old hw hf ht _ (delN_id _ _ _) (delN_key _ _ _) (by rw [delN_ty, ht])
  · intro id' hne; exact filter_other_delete _ hne _
  · exact hw.listPos.filter _
  · rw [delN_len, hw.len_eq ho ht, ← length_rowsOf, hrows]
    have := length_filter_not_mem hsorted.nodup hnd hsub
    simp only [Option.map_some, Option.some.injEq]
    omega


/-! ### pop -/

/-- One pop finds nothing to pop (no visible list, or an empty one), or finds the end row. -/
theorem listPop_cases {db : DB} (hw : db.LWF) (now : Int) (k : Bytes) (front : Bool) :
    (listPop db k front now = ⟨.error .notFound, db⟩ ∧
      (∀ l et, get (abs now db) k = some ⟨.list l, et⟩ → l = [])) ∨
    (∃ (r : KeyRow) (pre : List ListRow) (row : ListRow) (post : List ListRow),
      db.findKey k = some r ∧ r.live now = true ∧ r.ty = TList ∧
      get (abs now db) k = some ⟨.list (elems db r.id), r.etime⟩ ∧
      listRows db r.id = pre ++ row :: post ∧ (if front then pre = [] else post = []) ∧
      listPop db k front now = ⟨.ok (.bytes row.elem), listDeleteRows db r.id [row.pos] now⟩) := by
  rcases lview hw.wf now k with ⟨r, h, hl, ht, hg, hk⟩ | ⟨hk, hg⟩
  · cases hend : (if front then (listRows db r.id).head? else (listRows db r.id).getLast?) with
    | none =>
      have hrows : listRows db r.id = [] := by
        cases front
        · exact List.getLast?_eq_none_iff.1 hend
        · exact List.head?_eq_none_iff.1 hend
      refine Or.inl ⟨by simp only [listPop, hk, hend]; rfl, fun l et hl' => ?_⟩
      rw [hg] at hl'; cases hl'
      simp [elems, hrows]
    | some row =>
      have hsplit : ∃ pre post, listRows db r.id = pre ++ row :: post ∧
          (if front then pre = [] else post = []) := by
        cases front
        · obtain ⟨ys, hys⟩ := List.getLast?_eq_some_iff.1 hend
          exact ⟨ys, [], hys, rfl⟩
        · obtain ⟨xs, hxs⟩ := List.head?_eq_some_iff.1 hend
          exact ⟨[], xs, hxs, rfl⟩
      obtain ⟨pre, post, hrows, hpp⟩ := hsplit
      exact Or.inr ⟨r, pre, row, post, h, hl, ht, hg, hrows, hpp, by simp only [listPop, hk, hend]; rfl⟩
  · exact Or.inl ⟨by simp only [listPop, hk]; rfl, fun l et hl' => absurd hl' (hg l et)⟩

/-- the pop's delete: afterwards the name stands for the list without that row -/
theorem pop_step {db : DB} (hw : db.LWF) {k : Bytes} {r : KeyRow} (hf : db.findKey k = some r)
    (ht : r.ty = TList) {pre post : List ListRow} {row : ListRow}
    (hrows : listRows db r.id = pre ++ row :: post) (now : Int) :
    (listDeleteRows db r.id [row.pos] now).LWF ∧
    Stored db (listDeleteRows db r.id [row.pos] now) k (delN now 1 r)
      (.list ((pre ++ post).map (·.elem))) := by
  have h := deleteRows_step hw hf ht [row] (by simp)
    (by intro x hx; rw [hrows, List.mem_singleton.1 hx]; simp) now
  rw [hrows, filter_not_single (hrows ▸ (hw.rows_sorted r.id).nodup)] at h
  exact h

theorem spec_listPop_nil {s : State} {k : Bytes}
    (h : ∀ l et, get s k = some ⟨.list l, et⟩ → l = []) (front : Bool) :
    Spec.listPop s k front = er .notFound s := by
  unfold Spec.listPop
  split
  · rename_i l et hg
    rw [h l et hg]
    cases front <;> rfl
  · rfl

theorem spec_listPop_split {s : State} {k : Bytes} {et : Option Int} {pre post : List ListRow}
    {row : ListRow} (hg : get s k = some ⟨.list ((pre ++ row :: post).map (·.elem)), et⟩) {front : Bool}
    (hpp : if front then pre = [] else post = []) :
    Spec.listPop s k front
      = ok (.bytes row.elem) (put s k ⟨.list ((pre ++ post).map (·.elem)), et⟩) := by
  cases front
  · have hpp : post = [] := hpp
    subst hpp
    simp [Spec.listPop, hg]
  · have hpp : pre = [] := hpp
    subst hpp
    simp [Spec.listPop, hg]

theorem listPop_refines {db : DB} (hw : db.LWF) (now : Int) (k : Bytes) (front : Bool) :
    Refines now (update (fun d => listPop d k front now) db) (Spec.listPop (abs now db) k front) ∧
    (listPop db k front now).db.LWF := by
  rcases listPop_cases hw now k front with ⟨hm, hnil⟩ | ⟨r, pre, row, post, h, _, ht, hg, hrows, hpp, hm⟩
  · rw [spec_listPop_nil hnil]
    simp only [update, hm]
    exact ⟨Refines.same hw.wf now _, hw⟩
  · obtain ⟨hw2, hst⟩ := pop_step hw h ht hrows now
    have ha := hst.abs hw hw2 now
    rw [delN_etime] at ha
    rw [elems, hrows] at hg
    rw [spec_listPop_split hg hpp]
    simp only [update, hm]
    exact ⟨⟨rfl, ha⟩, hw2⟩

/-! ### removing occurrences and trimming: one core lemma -/

/-- Deleting the rows `S` of the visible list at `k` against a specification step that shortens
the list to `l'` and reports the difference in length. -/
theorem delete_core {db : DB} (hw : db.LWF) {now : Int} {k : Bytes} {r : KeyRow}
    (h : db.findKey k = some r) (ht : r.ty = TList)
    (hg : get (abs now db) k = some ⟨.list (elems db r.id), r.etime⟩)
    (S : List ListRow) (hnd : S.Nodup) (hsub : ∀ x ∈ S, x ∈ listRows db r.id) (l' : List Bytes)
    (hl' : ((listRows db r.id).filter (fun x => !S.contains x)).map (·.elem) = l') :
    Refines now ⟨.ok (.int S.length), listDeleteRows db r.id (S.map (·.pos)) now⟩
      (Spec.ok (.int (((elems db r.id).length : Int) - l'.length))
        (if l'.length == (elems db r.id).length then abs now db
         else put (abs now db) k ⟨.list l', r.etime⟩)) ∧
    (listDeleteRows db r.id (S.map (·.pos)) now).LWF := by
  obtain ⟨hw2, hst⟩ := deleteRows_step hw h ht S hnd hsub now
  have ha := hst.abs hw hw2 now
  rw [hl', delN_etime] at ha
  have hcount := length_filter_not_mem (hw.rows_sorted r.id).nodup hnd hsub
  have hlen' : l'.length + S.length = (elems db r.id).length := by
    rw [← hl', List.length_map, length_elems]; exact hcount
  refine ⟨⟨?_, ?_⟩, hw2⟩
  · simp only [Spec.ok]
    congr 2
    omega
  · simp only [Spec.ok]
    rw [ha]
    split
    · rename_i heq
      have heq : l'.length = (elems db r.id).length := by simpa using heq
      have hall : (listRows db r.id).filter (fun x => !S.contains x) = listRows db r.id := by
        apply List.filter_eq_self.2
        apply List.length_filter_eq_length_iff.1
        have := congrArg List.length hl'
        rw [List.length_map] at this
        rw [this, heq, length_elems]
      have hl'e : l' = elems db r.id := by rw [← hl', hall]; rfl
      rw [hl'e, put_self (sorted_abs hw.wf.names now) hg]
    · rfl

theorem mem_rows_of_filter {rows : List ListRow} {q : ListRow → Bool} :
    ∀ x ∈ rows.filter q, x ∈ rows := fun _ hx => (List.mem_filter.1 hx).1

theorem listDelete_refines {db : DB} (hw : db.LWF) (now : Int) (k e : Bytes) :
    Refines now (update (fun d => listDelete d k e now) db) (Spec.listDeleteAll (abs now db) k e) ∧
    (listDelete db k e now).db.LWF := by
  rcases lview hw.wf now k with ⟨r, h, _, ht, hg, hk⟩ | ⟨hk, hg⟩
  · have hcore := delete_core hw h ht hg ((listRows db r.id).filter (fun x => x.elem == e))
      ((hw.rows_sorted r.id).nodup.sublist List.filter_sublist) mem_rows_of_filter
      ((elems db r.id).filter (fun x => !(x == e)))
      (by rw [filter_not_filter, elems, List.filter_map]; rfl)
    simp only [update, listDelete, hk, Res.ok, Spec.listDeleteAll, hg, List.length_map]
    exact hcore
  · simp only [update, listDelete, hk, Res.ok, spec_listDeleteAll_noList hg]
    exact ⟨Refines.same hw.wf now _, hw⟩

theorem sqlLimit_zero_pos {α : Type} {n : Int} (hn : ¬ n ≤ 0) (l : List α) :
    sqlLimit 0 n l = l.take n.toNat := by
  rw [sqlLimit, if_neg (by omega)]; rfl

theorem listDeleteN_refines {db : DB} (hw : db.LWF) (now : Int) (k e : Bytes) (n : Int) (back : Bool) :
    Refines now (update (fun d => listDeleteN d k e n back now) db)
      (Spec.listDeleteN (abs now db) k e n back) ∧
    (listDeleteN db k e n back now).db.LWF := by
  by_cases hn : n ≤ 0
  · simp only [update, listDeleteN, hn, if_true, Res.ok, Spec.listDeleteN]
    exact ⟨Refines.same hw.wf now _, hw⟩
  rcases lview hw.wf now k with ⟨r, h, _, ht, hg, hk⟩ | ⟨hk, hg⟩
  · have hsorted := hw.rows_sorted r.id
    have hfn : ((listRows db r.id).filter (fun x => x.elem == e)).Nodup :=
      hsorted.nodup.sublist List.filter_sublist
    cases back with
    | false =>
      have hcore := delete_core hw h ht hg (((listRows db r.id).filter (fun x => x.elem == e)).take n.toNat)
        (hfn.sublist (List.take_sublist _ _))
        (fun x hx => mem_rows_of_filter x (List.mem_of_mem_take hx))
        (Spec.removeFirstN e n.toNat (elems db r.id))
        (removeFirstN_rows (·.elem) e _ _ hsorted.nodup)
      simp only [update, listDeleteN, hn, if_false, hk, Res.ok, Spec.listDeleteN, hg,
        Bool.false_eq_true, sqlLimit_zero_pos hn, List.length_map]
      exact hcore
    | true =>
      have hcore := delete_core hw h ht hg
        (((listRows db r.id).filter (fun x => x.elem == e)).reverse.take n.toNat)
        ((nodup_reverse hfn).sublist (List.take_sublist _ _))
        (fun x hx => mem_rows_of_filter x (List.mem_reverse.1 (List.mem_of_mem_take hx)))
        (Spec.removeLastN e n.toNat (elems db r.id))
        (removeLastN_rows (·.elem) e _ _ hsorted.nodup)
      simp only [update, listDeleteN, hn, if_false, hk, Res.ok, Spec.listDeleteN, hg,
        if_true, sqlLimit_zero_pos hn, List.length_map]
      exact hcore
  · simp only [update, listDeleteN, hn, if_false, hk, Res.ok, spec_listDeleteN_noList hg]
    exact ⟨Refines.same hw.wf now _, hw⟩

/-! ### trim -/

theorem modelTrimKeep_sublist {α : Type} (l : List α) (a b : Int) : (modelTrimKeep l a b).Sublist l := by
  rw [modelTrimKeep_eq]; exact sqlLimit_sublist _ _ _

theorem modelTrimKeep_map {α β : Type} (f : α → β) (l : List α) (a b : Int) :
    modelTrimKeep (l.map f) a b = (modelTrimKeep l a b).map f := by
  rw [modelTrimKeep_eq, modelTrimKeep_eq, List.length_map, sqlLimit_map]

theorem listTrim_refines_lwf {db : DB} (hw : db.LWF) (now : Int) (k : Bytes) (a b : Int) :
    Refines now (update (fun d => listTrim d k a b now) db) (Spec.listTrim (abs now db) k a b) ∧
    (listTrim db k a b now).db.LWF := by
  rcases lview hw.wf now k with ⟨r, h, _, ht, hg, hk⟩ | ⟨hk, hg⟩
  · have hsorted := hw.rows_sorted r.id
    cases hrows : listRows db r.id with
    | nil =>
      have hel : elems db r.id = [] := by rw [elems, hrows]; rfl
      simp only [update, listTrim, hk, hrows, List.isEmpty_nil, if_true, Res.ok, Spec.listTrim, hg, hel,
        Spec.ltrim, lrange_nil, List.length_nil, beq_self_eq_true, Int.sub_self]
      exact ⟨Refines.same hw.wf now _, hw⟩
    | cons row xs =>
      have hkeep_sub := modelTrimKeep_sublist (listRows db r.id) a b
      have hwin : rangeWindow r.len a b (listRows db r.id) = some (modelTrimKeep (listRows db r.id) a b) := by
        rw [hw.len_eq (findKey_mem h).1 ht, rangeWindow_some, modelTrimKeep_eq]
      have hcore := delete_core hw h ht hg
        ((listRows db r.id).filter (fun x => !(modelTrimKeep (listRows db r.id) a b).contains x))
        (hsorted.nodup.sublist List.filter_sublist) mem_rows_of_filter
        (Spec.ltrim (elems db r.id) a b)
        (by
          rw [filter_not_filter]
          simp only [Bool.not_not]
          rw [filter_mem_sublist hkeep_sub hsorted.nodup, ← modelTrimKeep_map,
            Redka.Props.C02.trim_refines _ a b]
          rfl)
      have hne : (listRows db r.id).isEmpty = false := by rw [hrows]; rfl
      simp only [update, listTrim, hk, hne, Bool.false_eq_true, if_false, hwin,
        filter_pos_victims hsorted (fun x hx => hkeep_sub.subset hx), Res.ok, Spec.listTrim, hg,
        List.length_map]
      exact hcore
  · simp only [update, listTrim, hk, Res.ok, spec_listTrim_noList hg]
    exact ⟨Refines.same hw.wf now _, hw⟩

theorem listTrim_refines {db : DB} (hw : db.LWF) (now : Int) (k : Bytes) (a b : Int) :
    Refines now (update (fun d => listTrim d k a b now) db) (Spec.listTrim (abs now db) k a b) :=
  (listTrim_refines_lwf hw now k a b).1

/-! ### set by index -/

/-- trigger `rlist_on_update` -/
def updRow (now : Int) (o : KeyRow) : KeyRow := { o with version := o.version + 1, mtime := now }

theorem map_setElem_eq_set (e : Bytes) (row : ListRow) : ∀ (rows : List ListRow) (j : Nat),
    rows[j]? = some row → PosSorted rows →
    (rows.map (fun x => if x.pos == row.pos then { x with elem := e } else x)).map (·.elem)
      = (rows.map (·.elem)).set j e
  | [], _, h, _ => by simp at h
  | x :: xs, 0, h, hs => by
    have hx : x = row := by simpa using h
    subst hx
    have hs' := List.pairwise_cons.1 hs
    simp only [List.map_cons, List.set_cons_zero, beq_self_eq_true, if_true]
    congr 1
    rw [List.map_map]
    apply List.map_congr_left
    intro y hy
    have : ¬ y.pos = x.pos := fun he => dy_lt_irrefl _ (he ▸ of_decide_eq_true (hs'.1 y hy))
    simp [this]
  | x :: xs, j + 1, h, hs => by
    have hs' := List.pairwise_cons.1 hs
    have h' : xs[j]? = some row := by simpa using h
    have hmem : row ∈ xs := List.mem_of_getElem? h'
    have : ¬ x.pos = row.pos := dy_ne_of_lt (of_decide_eq_true (hs'.1 row hmem))
    have hb : (x.pos == row.pos) = false := by simpa using this
    simp only [List.map_cons, List.set_cons_succ, hb, Bool.false_eq_true, if_false]
    rw [map_setElem_eq_set e row xs j h' hs'.2]

theorem lindexPos_lt {n : Nat} {i : Int} {j : Nat} (h : Spec.lindexPos n i = some j) : j < n := by
  unfold Spec.lindexPos at h
  dsimp only at h
  split at h
  · cases h
  · rename_i hc
    simp only [Option.some.injEq] at h
    omega


/-- Overwriting the element of the row at position `p` of the list stored at `k`. -/
theorem setElem_step {db : DB} (hw : db.LWF) {k : Bytes} {r : KeyRow} (hf : db.findKey k = some r)
    (ht : r.ty = TList) (p : Dyadic) (e : Bytes) (now : Int) :
    ({ listOnUpdate db r.id now with
        lists := (listOnUpdate db r.id now).lists.map (fun x =>
          if x.kid == r.id && x.pos == p then { x with elem := e } else x) } : DB).LWF ∧
    Stored db { listOnUpdate db r.id now with
        lists := (listOnUpdate db r.id now).lists.map (fun x =>
          if x.kid == r.id && x.pos == p then { x with elem := e } else x) } k (updRow now r)
      (.list (((listRows db r.id).map (fun x => if x.pos == p then { x with elem := e } else x)).map
        (·.elem))) := by
  obtain ⟨ho, _⟩ := findKey_mem hf
  have hdb : ({ listOnUpdate db r.id now with
        lists := (listOnUpdate db r.id now).lists.map (fun x =>
          if x.kid == r.id && x.pos == p then { x with elem := e } else x) } : DB)
      = { db.updKey r.id (fun _ => updRow now r) with lists := db.lists.map (setElemRow r.id p e) } := by
    rw [← updKey_const hw.wf.ids ho (updRow now)]; rfl
  rw [hdb, listRows_eq_rowsOf, ← rowsOf_setElem]
  exact listStore_old hw hf ht (updRow now r) rfl rfl ht _
    (fun id' hne => filter_other_setElem _ hne _ _) (hw.listPos.setElem _ _ _)
    (by rw [filter_setElem]; exact hw.listLen r ho ht)

theorem listSet_refines {db : DB} (hw : db.LWF) (now : Int) (k : Bytes) (i : Int) (e : Bytes) :
    Refines now (update (fun d => listSet d k i e now) db) (Spec.listSet (abs now db) k i e) ∧
    (listSet db k i e now).db.LWF := by
  rcases lview hw.wf now k with ⟨r, h, _, ht, hg, hk⟩ | ⟨hk, hg⟩
  · have hrow : listRowAt db r.id i
        = (Spec.lindexPos (listRows db r.id).length i).bind (fun j => (listRows db r.id)[j]?) := by
      rw [listRowAt_eq, modelIndex_eq_pos, modelIndexPos_eq]
    have hspec : Spec.lset (elems db r.id) i e
        = (Spec.lindexPos (listRows db r.id).length i).map (fun j => (elems db r.id).set j e) := by
      rw [lset_eq_map, length_elems]
    cases hp : Spec.lindexPos (listRows db r.id).length i with
    | none =>
      simp only [update, listSet, hk, hrow, hp, Option.bind_none, Res.err, Spec.listSet, hg, hspec,
        Option.map_none]
      exact ⟨Refines.same hw.wf now _, hw⟩
    | some j =>
      have hj := lindexPos_lt hp
      have hget := List.getElem?_eq_getElem hj
      obtain ⟨hw2, hst⟩ := setElem_step hw h ht (listRows db r.id)[j].pos e now
      have ha := hst.abs hw hw2 now
      rw [map_setElem_eq_set e _ _ j hget (hw.rows_sorted r.id)] at ha
      simp only [update, listSet, hk, hrow, hp, Option.bind_some, hget, Res.ok, Spec.listSet, hg, hspec,
        Option.map_some]
      exact ⟨⟨rfl, ha⟩, hw2⟩
  · simp only [update, listSet, hk, Res.err, spec_listSet_noList hg]
    exact ⟨Refines.same hw.wf now _, hw⟩

/-! ### adding a row: push, and insert next to a pivot -/

/-- the position `sqlPushBack` / `sqlPushFront` computes for a new element of list `kid` -/
def pushPos (L : List ListRow) (kid : Int) (front : Bool) : Dyadic :=
  let ps := (L.filter (fun x => x.kid == kid)).map (·.pos)
  if front then (match dyMin ps with | none => 0 | some m => round53 (m - 1))
  else (match dyMax ps with | none => 0 | some m => round53 (m + 1))

def pushNew (k : Bytes) (now : Int) (id : Int) : KeyRow :=
  { id := id, key := k, ty := TList, version := 1, etime := none, mtime := now, len := some 1 }

def pushOld (now : Int) (o : KeyRow) : KeyRow :=
  { o with version := o.version + 1, mtime := now, len := o.len.map (· + 1) }

theorem pushNew_id (k : Bytes) (now id : Int) : (pushNew k now id).id = id := rfl
theorem pushNew_len (k : Bytes) (now id : Int) : (pushNew k now id).len = some 1 := rfl
theorem pushOld_id (now : Int) (o : KeyRow) : (pushOld now o).id = o.id := rfl

theorem updKey_lists (db : DB) (id : Int) (f : KeyRow → KeyRow) : (db.updKey id f).lists = db.lists := rfl

theorem listPushKey_eq (db : DB) (k : Bytes) (now : Int) :
    listPushKey db k now = keyUpsert db k TList (pushNew k now) (pushOld now) := rfl

theorem listPush_eq (db : DB) (k e : Bytes) (front : Bool) (now : Int) :
    listPush db k e front now =
      match listPushKey db k now with
      | .error er => .err er db
      | .ok (db1, r) =>
        if ((db1.lists.filter (fun x => x.kid == r.id)).map (·.pos)).contains
            (pushPos db1.lists r.id front) then .err .sqlUnique db1
        else
          .ok (match r.len with | some n => .int n | none => .nil)
            { db1 with lists := db1.lists ++
                [{ kid := r.id, pos := pushPos db1.lists r.id front, elem := e }] } := rfl

/-- the new position is beyond the end it is pushed to: greater than every position of the list
for a push to the back, smaller for a push to the front -/
def pushRoom (L : List ListRow) (kid : Int) (front : Bool) : Bool :=
  (L.filter (fun x => x.kid == kid)).all (fun x =>
    if front then decide (pushPos L kid front < x.pos) else decide (x.pos < pushPos L kid front))

/-- `Spacious` for a push, judged on the tables as `sqlPush` leaves them -/
def pushSpacious (db : DB) (k : Bytes) (front : Bool) (now : Int) : Bool :=
  match listPushKey db k now with
  | .error _ => true
  | .ok (db1, r) => pushRoom db1.lists r.id front


theorem rowsOf_nil_of_filter {L : List ListRow} {kid : Int}
    (h : L.filter (fun x => x.kid == kid) = []) : rowsOf L kid = [] := by
  unfold rowsOf; rw [h]; rfl

/-- A fresh list key is created holding one row. -/
theorem pushNew_step {db : DB} (hw : db.LWF) {k : Bytes} (hf : db.findKey k = none) (p : Dyadic)
    (e : Bytes) (now : Int) :
    ({ db with keys := db.keys ++ [pushNew k now db.nextKeyId],
               lists := db.lists ++ [ListRow.mk db.nextKeyId p e] } : DB).LWF ∧
    Stored db { db with keys := db.keys ++ [pushNew k now db.nextKeyId],
                        lists := db.lists ++ [ListRow.mk db.nextKeyId p e] } k
      (pushNew k now db.nextKeyId) (.list [e]) := by
  have hnil := hw.no_rows_fresh
  have hpn : PosNodup (db.lists ++ [ListRow.mk db.nextKeyId p e]) := hw.listPos.append e (by
    intro x hx hk
    have : x ∈ db.lists.filter (fun y => y.kid == db.nextKeyId) :=
      List.mem_filter.2 ⟨hx, by simpa using hk⟩
    rw [hnil] at this; cases this)
  have hrows : rowsOf (db.lists ++ [ListRow.mk db.nextKeyId p e]) db.nextKeyId
      = [] ++ ListRow.mk db.nextKeyId p e :: [] :=
    rowsOf_insert hpn (rowsOf_nil_of_filter hnil) List.Pairwise.nil (by intro x hx; cases hx)
      (by intro x hx; cases hx)
  have hwf := hw.wf
  have hnone : db.findKey (pushNew k now db.nextKeyId).key = none := hf
  have hne_id : ∀ x ∈ db.keys, x.id ≠ db.nextKeyId := nextKeyId_fresh db
  have hstore := listStore hw (r2 := pushNew k now db.nextKeyId) (hty := rfl)
    (db.lists ++ [ListRow.mk db.nextKeyId p e])
    (hwf := ⟨names_append hwf.names hnone, ids_append hwf.ids rfl, ?tyOk, ?strRow, hwf.strKids⟩)
    (hmem := ?hmem) (hr2 := by simp) (hkeep := fun x hx _ => List.mem_append_left _ hx)
    (hids := fun x hx _ => hne_id x hx) (hfind := fun k' => findKey_append hnone k')
    (hoth := fun id' hne => filter_other_append _ hne _ _) (hpos := hpn)
    (hlen := by
      show some (1 : Int) = some ((((db.lists ++ [ListRow.mk db.nextKeyId p e]).filter
        (fun x => x.kid == db.nextKeyId)).length : Nat) : Int)
      rw [filter_self_append_length, hnil]; rfl)
  · rw [show (pushNew k now db.nextKeyId).id = db.nextKeyId from rfl, hrows] at hstore
    exact hstore
  case tyOk =>
    intro x hx
    rcases List.mem_append.1 hx with hx | hx
    · exact hwf.tyOk x hx
    · rw [List.mem_singleton.1 hx]
      show 1 ≤ TList ∧ TList ≤ 5
      decide
  case strRow =>
    intro x hx hxt
    rcases List.mem_append.1 hx with hx | hx
    · exact hwf.strRow x hx hxt
    · rw [List.mem_singleton.1 hx] at hxt; cases hxt
  case hmem =>
    intro x hx
    rcases List.mem_append.1 hx with hx | hx
    · exact .inr ⟨hx, hne_id x hx⟩
    · exact .inl (List.mem_singleton.1 hx)

/-- A row at a position the list does not use yet is added to the list stored at `k` and the key row
bumped, as `sqlPush` and `sqlInsert` do it. -/
theorem appendRow_step {db : DB} (hw : db.LWF) {k : Bytes} {r : KeyRow} (hf : db.findKey k = some r)
    (ht : r.ty = TList) {p : Dyadic} (hfresh : ∀ x ∈ db.lists, x.kid = r.id → x.pos ≠ p) (e : Bytes)
    (now : Int) :
    ({ db.updKey r.id (fun _ => pushOld now r) with lists := db.lists ++ [ListRow.mk r.id p e] } : DB).LWF ∧
    Stored db { db.updKey r.id (fun _ => pushOld now r) with lists := db.lists ++ [ListRow.mk r.id p e] }
      k (pushOld now r) (.list ((rowsOf (db.lists ++ [ListRow.mk r.id p e]) r.id).map (·.elem))) :=
  listStore_old hw hf ht (pushOld now r) rfl rfl ht _ (fun id' hne => filter_other_append _ hne _ _)
    (hw.listPos.append e hfresh)
    (by
      rw [filter_self_append_length]
      show r.len.map (· + 1) = _
      rw [hw.listLen r (findKey_mem hf).1 ht]; rfl)

theorem mem_filter_kid {L : List ListRow} {kid : Int} (x : ListRow) :
    x ∈ L.filter (fun x => x.kid == kid) ↔ x ∈ L ∧ x.kid = kid := by simp

/-- The test of the statements that add a row — is `p` among the positions of the rows `rows` of list
`kid` (`sqlPush`: the rows filtered from the table; `sqlInsert`: the ordered rows) — fails exactly when
the position is free in that list. -/
theorem pos_fresh_iff {L rows : List ListRow} {kid : Int} (hm : ∀ x, x ∈ rows ↔ x ∈ L ∧ x.kid = kid)
    {p : Dyadic} :
    (rows.map (·.pos)).contains p = false ↔ ∀ x ∈ L, x.kid = kid → x.pos ≠ p := by
  rw [List.contains_eq_mem, decide_eq_false_iff_not, List.mem_map]
  constructor
  · intro h x hx hk he
    exact h ⟨x, (hm x).2 ⟨hx, hk⟩, he⟩
  · rintro h ⟨x, hx, he⟩
    exact h x ((hm x).1 hx).1 ((hm x).1 hx).2 he

/-- a position strictly between two parts of the ordered rows is free -/
theorem fresh_of_split {db : DB} {kid : Int} {lo hi : List ListRow} (hrows : listRows db kid = lo ++ hi)
    {p : Dyadic} (hlo : ∀ y ∈ lo, y.pos < p) (hhi : ∀ y ∈ hi, p < y.pos) :
    ∀ x ∈ db.lists, x.kid = kid → x.pos ≠ p := by
  intro x hx hk he
  have hmem : x ∈ lo ++ hi := hrows ▸ mem_rowsOf.2 ⟨hx, hk⟩
  rcases List.mem_append.1 hmem with hm | hm
  · exact dy_lt_irrefl _ (he ▸ hlo x hm)
  · exact dy_lt_irrefl _ (he ▸ hhi x hm)

/-- Adding a row at a position between `lo` and `hi`, against a specification step that makes the
list `l'` and reports its length. -/
theorem insert_core {db : DB} (hw : db.LWF) {now : Int} {k : Bytes} {r : KeyRow}
    (h : db.findKey k = some r) (ht : r.ty = TList)
    {lo hi : List ListRow} (hrows : listRows db r.id = lo ++ hi) {p : Dyadic}
    (hlo : ∀ y ∈ lo, y.pos < p) (hhi : ∀ y ∈ hi, p < y.pos) (e : Bytes) :
    Refines now
      ⟨.ok (.int ((listRows db r.id).length + 1)),
        { db.updKey r.id (fun _ => pushOld now r) with lists := db.lists ++ [ListRow.mk r.id p e] }⟩
      (Spec.ok (.int (lo.map (·.elem) ++ e :: hi.map (·.elem)).length)
        (put (abs now db) k ⟨.list (lo.map (·.elem) ++ e :: hi.map (·.elem)), r.etime⟩)) := by
  have hfresh := fresh_of_split hrows hlo hhi
  obtain ⟨hw2, hst⟩ := appendRow_step hw h ht hfresh e now
  have ha := hst.abs hw hw2 now
  rw [rowsOf_insert (hw.listPos.append e hfresh) hrows (hrows ▸ hw.rows_sorted r.id) hlo hhi,
    List.map_append, List.map_cons] at ha
  refine ⟨?_, ha⟩
  simp only [Spec.ok, hrows, List.length_append, List.length_map, List.length_cons]
  congr 2

/-! ### push -/

theorem listPush_new {db : DB} {k : Bytes} (hf : db.findKey k = none) (e : Bytes) (front : Bool)
    (now : Int) :
    listPush db k e front now =
      if ((db.lists.filter (fun x => x.kid == db.nextKeyId)).map (·.pos)).contains
          (pushPos db.lists db.nextKeyId front) then
        .err .sqlUnique { db with keys := db.keys ++ [pushNew k now db.nextKeyId] }
      else .ok (.int 1) { db with
        keys := db.keys ++ [pushNew k now db.nextKeyId],
        lists := db.lists ++ [ListRow.mk db.nextKeyId (pushPos db.lists db.nextKeyId front) e] } := by
  rw [listPush_eq, listPushKey_eq,
    keyUpsert_new (ty := TList) (onNew := pushNew k now) (onOld := pushOld now) hf]
  rfl

theorem listPush_old {db : DB} {k : Bytes} {r : KeyRow} (hf : db.findKey k = some r) (ht : r.ty = TList)
    (e : Bytes) (front : Bool) (now : Int) :
    listPush db k e front now =
      if ((db.lists.filter (fun x => x.kid == r.id)).map (·.pos)).contains
          (pushPos db.lists r.id front) then
        .err .sqlUnique (db.updKey r.id (fun _ => pushOld now r))
      else .ok (match r.len.map (· + 1) with | some n => .int n | none => .nil)
        { db.updKey r.id (fun _ => pushOld now r) with
          lists := db.lists ++ [ListRow.mk r.id (pushPos db.lists r.id front) e] } := by
  rw [listPush_eq, listPushKey_eq,
    keyUpsert_old (onNew := pushNew k now) (onOld := pushOld now) hf ht]
  rfl

theorem listPush_other {db : DB} {k : Bytes} {r : KeyRow} (hf : db.findKey k = some r) (ht : r.ty ≠ TList)
    (e : Bytes) (front : Bool) (now : Int) :
    listPush db k e front now = .err .keyType db := by
  rw [listPush_eq, listPushKey_eq,
    keyUpsert_other (onNew := pushNew k now) (onOld := pushOld now) hf ht]


theorem listPush_refines {db : DB} (hw : db.LWF) {now : Int} {k : Bytes}
    (hns : staleKey db now k = false) (e : Bytes) (front : Bool)
    (hsp : pushSpacious db k front now = true) :
    Refines now (update (fun d => listPush d k e front now) db)
      (Spec.listPush (abs now db) k e front) := by
  rcases kholder hw.wf now k with ⟨h, hg, _⟩ | ⟨_, h, hl, _, _⟩ | ⟨r, v, h, _, hv, hty, hg, _⟩
  · -- a fresh key owns no rows, so whatever position is computed is free
    obtain ⟨hw2, hst⟩ := pushNew_step hw h (pushPos db.lists db.nextKeyId front) e now
    simp only [update, listPush_new h, hw.no_rows_fresh, List.map_nil, List.contains_nil,
      Bool.false_eq_true, if_false, Res.ok, Spec.listPush, hg, Spec.ok]
    exact ⟨rfl, hst.abs hw hw2 now⟩
  · exact (Holder.not_stale hns h hl).elim
  by_cases ht : r.ty = TList
  · -- an existing list: the new row goes before or behind all the others
    rw [absVal_list ht] at hv
    cases hv
    have hroom : pushRoom db.lists r.id front = true := by
      have := hsp
      simp only [pushSpacious, listPushKey_eq, keyUpsert_old h ht] at this
      exact this
    have hm := listPush_old h ht e front now
    unfold pushRoom at hroom
    generalize pushPos db.lists r.id front = p at hroom hm
    have hroom' : ∀ x ∈ listRows db r.id, if front then p < x.pos else x.pos < p := by
      intro x hx
      have hx' := mem_rowsOf.1 hx
      have := List.all_eq_true.1 hroom x (List.mem_filter.2 ⟨hx'.1, by simpa using hx'.2⟩)
      cases front <;> simpa using this
    have hfresh : ∀ x ∈ db.lists, x.kid = r.id → x.pos ≠ p := by
      intro x hx hk he
      have := hroom' x (mem_rowsOf.2 ⟨hx, hk⟩)
      cases front <;> simp [he] at this <;> exact dy_lt_irrefl _ this
    rw [(pos_fresh_iff mem_filter_kid).2 hfresh, hw.len_eq (findKey_mem h).1 ht] at hm
    simp only [update, hm, Bool.false_eq_true, if_false, Option.map_some, Res.ok, Spec.listPush, hg]
    cases front with
    | false =>
      exact insert_core hw h ht (lo := listRows db r.id) (hi := []) (List.append_nil _).symm
        (fun x hx => by simpa using hroom' x hx) (by intro x hx; cases hx) e
    | true =>
      exact insert_core hw h ht (lo := []) (hi := listRows db r.id) rfl
        (by intro x hx; cases hx) (fun x hx => by simpa using hroom' x hx) e
  · simp only [update, listPush_other h ht, Res.err]
    have : Spec.listPush (abs now db) k e front = er .keyType (abs now db) := by
      unfold Spec.listPush
      rw [hg]
      cases v <;> first | exact absurd hty.symm ht | rfl
    rw [this]
    exact Refines.same hw.wf now _

/-! ### insert next to a pivot -/

/-- the position of the first row holding `p` (the pivot `sqlInsertAfter` / `sqlInsertBefore`
pick with `min(pos)`) -/
def pivotPos (rows : List ListRow) (p : Bytes) : Option Dyadic :=
  dyMin ((rows.filter (fun x => x.elem == p)).map (·.pos))

/-- the position the insert statement computes for the new row; `none` without a pivot -/
def insertPos (rows : List ListRow) (p : Bytes) (after : Bool) : Option Dyadic :=
  match pivotPos rows p with
  | none => none
  | some pv =>
    some (if after then
        (match dyMin ((rows.filter (fun x => decide (pv < x.pos))).map (·.pos)) with
         | none => round53 (pv + 1)
         | some nx => mid53 pv nx)
      else
        (match dyMax ((rows.filter (fun x => decide (x.pos < pv))).map (·.pos)) with
         | none => round53 (pv - 1)
         | some pr => mid53 pr pv))


theorem listInsert_eq (db : DB) (k p e : Bytes) (after : Bool) (now : Int) :
    listInsert db k p e after now =
      match db.liveKeyT k TList now with
      | none => .err .notFound db
      | some r0 =>
        match insertPos (listRows db r0.id) p after with
        | none => .err .pivotNotFound db
        | some np =>
          if ((listRows db r0.id).map (·.pos)).contains np then .err .sqlUnique db
          else .ok (match r0.len with | some n => .int (n + 1) | none => .nil)
            (({ db with lists := db.lists ++ [{ kid := r0.id, pos := np, elem := e }] } : DB).updKey
              r0.id (pushOld now)) := by
  unfold listInsert insertPos pivotPos
  cases db.liveKeyT k TList now with
  | none => rfl
  | some r0 =>
    dsimp only
    cases dyMin (((listRows db r0.id).filter (fun x => x.elem == p)).map (·.pos)) <;> rfl

/-- `sqlInsert` bumps the key row after the row has been added; the order does not matter -/
theorem updKey_append_lists {db : DB} (hi : (db.keys.map (·.id)).Nodup) {r : KeyRow} (ho : r ∈ db.keys)
    (f : KeyRow → KeyRow) (row : ListRow) :
    ({ db with lists := db.lists ++ [row] } : DB).updKey r.id f
      = { db.updKey r.id (fun _ => f r) with lists := db.lists ++ [row] } := by
  rw [← updKey_const hi ho f]; rfl

/-- the new position splits the rows exactly where the pivot does: after the pivot and before
everything behind it (insert after), or before the pivot and after everything in front of it -/
def insertRoom (rows : List ListRow) (p : Bytes) (after : Bool) : Bool :=
  match pivotPos rows p, insertPos rows p after with
  | some pv, some np =>
    rows.all (fun x =>
      if after then (if decide (pv < x.pos) then decide (np < x.pos) else decide (x.pos < np))
      else (if decide (x.pos < pv) then decide (x.pos < np) else decide (np < x.pos)))
  | _, _ => true

theorem pivotPos_none {rows : List ListRow} {p : Bytes} (h : ∀ y ∈ rows, (y.elem == p) = false) :
    pivotPos rows p = none := by
  unfold pivotPos
  rw [List.filter_eq_nil_iff.2 (by intro a ha; simp [h a ha])]
  rfl

theorem pivotPos_split {pre post : List ListRow} {x : ListRow} {p : Bytes}
    (hs : PosSorted (pre ++ x :: post)) (hx : (x.elem == p) = true)
    (hpre : ∀ y ∈ pre, (y.elem == p) = false) : pivotPos (pre ++ x :: post) p = some x.pos := by
  unfold pivotPos
  have hs' := List.pairwise_append.1 hs
  have hxs := List.pairwise_cons.1 hs'.2.1
  rw [List.filter_append, List.filter_eq_nil_iff.2 (by intro a ha; simp [hpre a ha]),
    List.filter_cons, if_pos hx, List.nil_append, List.map_cons]
  apply dyMin_eq_of (by simp)
  intro y hy
  rcases List.mem_cons.1 hy with rfl | hy
  · exact Dyadic.le_refl _
  · obtain ⟨z, hz, rfl⟩ := List.mem_map.1 hy
    exact dy_le_of_lt (of_decide_eq_true (hxs.1 z (List.mem_filter.1 hz).1))


/-- With room, the new position splits the rows where the slice operation puts the new element:
behind the pivot `x` (insert after) or in front of it. -/
theorem insertRoom_split {pre post : List ListRow} {x : ListRow} {p : Bytes}
    (hs : PosSorted (pre ++ x :: post)) (hx : (x.elem == p) = true)
    (hpre : ∀ y ∈ pre, (y.elem == p) = false) {after : Bool} {np : Dyadic}
    (hnp : insertPos (pre ++ x :: post) p after = some np)
    (hroom : insertRoom (pre ++ x :: post) p after = true) (e : Bytes) :
    ∃ lo hi, pre ++ x :: post = lo ++ hi ∧ (∀ y ∈ lo, y.pos < np) ∧ (∀ y ∈ hi, np < y.pos) ∧
      Spec.insertAt p e after ((pre ++ x :: post).map (·.elem))
        = some (lo.map (·.elem) ++ e :: hi.map (·.elem)) := by
  simp only [insertRoom, pivotPos_split hs hx hpre, hnp, List.all_eq_true, List.mem_append,
    List.mem_cons] at hroom
  have hs' := List.pairwise_append.1 hs
  have hpre_lt : ∀ y ∈ pre, y.pos < x.pos := fun y hy => of_decide_eq_true (hs'.2.2 y hy x (by simp))
  have hpost_gt : ∀ y ∈ post, x.pos < y.pos :=
    fun y hy => of_decide_eq_true ((List.pairwise_cons.1 hs'.2.1).1 y hy)
  have hspec := insertAt_split p e after x.elem hx (post.map (·.elem)) (pre.map (·.elem)) (by
    intro y hy
    obtain ⟨z, hz, rfl⟩ := List.mem_map.1 hy
    exact hpre z hz)
  rw [List.map_append, List.map_cons, hspec]
  cases after with
  | true =>
    refine ⟨pre ++ [x], post, by simp, ?_, ?_, by simp⟩
    · intro y hy
      rcases List.mem_append.1 hy with hy | hy
      · simpa [dy_lt_asymm (hpre_lt y hy)] using hroom y (Or.inl hy)
      · rw [List.mem_singleton.1 hy]
        simpa [dy_lt_irrefl] using hroom x (Or.inr (Or.inl rfl))
    · intro y hy
      simpa [hpost_gt y hy] using hroom y (Or.inr (Or.inr hy))
  | false =>
    refine ⟨pre, x :: post, rfl, ?_, ?_, by simp⟩
    · intro y hy
      simpa [hpre_lt y hy] using hroom y (Or.inl hy)
    · intro y hy
      rcases List.mem_cons.1 hy with hy | hy
      · rw [hy]
        simpa [dy_lt_irrefl] using hroom x (Or.inr (Or.inl rfl))
      · simpa [dy_lt_asymm (hpost_gt y hy)] using hroom y (Or.inr (Or.inr hy))

theorem listInsert_refines {db : DB} (hw : db.LWF) (now : Int) (k p e : Bytes) (after : Bool)
    (hsp : ∀ r, db.liveKeyT k TList now = some r → insertRoom (listRows db r.id) p after = true) :
    Refines now (update (fun d => listInsert d k p e after now) db)
      (Spec.listInsert (abs now db) k p e after) := by
  rcases lview hw.wf now k with ⟨r, h, _, ht, hg, hk⟩ | ⟨hk, hg⟩
  · have hsorted := hw.rows_sorted r.id
    have hroom := hsp r hk
    rcases split_first (fun x : ListRow => x.elem == p) (listRows db r.id) with
      ⟨pre, x, post, hrows, hx, hpre⟩ | hall
    · -- the pivot is `x`
      rw [hrows] at hsorted hroom
      cases hnp : insertPos (listRows db r.id) p after with
      | none => simp [insertPos, hrows, pivotPos_split hsorted hx hpre] at hnp
      | some np =>
        obtain ⟨lo, hi, hsplit, hlo, hhi, hspec⟩ :=
          insertRoom_split hsorted hx hpre (hrows ▸ hnp) hroom e
        rw [← hrows] at hsplit hspec
        have hnc : ((listRows db r.id).map (·.pos)).contains np = false :=
          (pos_fresh_iff (fun _ => mem_rowsOf)).2 (fresh_of_split hsplit hlo hhi)
        simp only [update, listInsert_eq, hk, hnp, hnc, Bool.false_eq_true, if_false, Res.ok,
          hw.len_eq (findKey_mem h).1 ht, updKey_append_lists hw.wf.ids (findKey_mem h).1,
          Spec.listInsert, hg, elems, hspec]
        exact insert_core hw h ht hsplit hlo hhi e
    · -- no pivot
      have hnp : insertPos (listRows db r.id) p after = none := by
        simp only [insertPos, pivotPos_none hall]
      have hspec : Spec.insertAt p e after (elems db r.id) = none := by
        apply insertAt_none
        intro y hy
        obtain ⟨z, hz, rfl⟩ := List.mem_map.1 hy
        exact hall z hz
      simp only [update, listInsert_eq, hk, hnp, Res.err, Spec.listInsert, hg, hspec]
      exact Refines.same hw.wf now _
  · simp only [update, listInsert_eq, hk, Res.err, spec_listInsert_noList hg]
    exact Refines.same hw.wf now _

/-! ### pop from one list, push to another -/

/-- the specification of pop-and-push in terms of the specification of the push that follows the
pop -/
theorem spec_popPush {S : State} {s d : Bytes} {l : List Bytes} {et : Option Int} {x : Bytes}
    (hg : get S s = some ⟨.list l, et⟩) (hx : l.getLast? = some x) :
    (∀ v, (Spec.listPush (put S s ⟨.list l.dropLast, et⟩) d x true).out = .ok v →
      Spec.listPopBackPushFront S s d
        = ⟨.ok (.bytes x), (Spec.listPush (put S s ⟨.list l.dropLast, et⟩) d x true).st⟩) ∧
    (∀ e, (Spec.listPush (put S s ⟨.list l.dropLast, et⟩) d x true).out = .error e →
      Spec.listPopBackPushFront S s d = ⟨.error e, S⟩) := by
  have hpop : Spec.listPop S s false = Spec.ok (.bytes x) (put S s ⟨.list l.dropLast, et⟩) := by
    simp [Spec.listPop, hg, hx]
  have hgd := get_put S s ⟨.list l.dropLast, et⟩ d
  by_cases hsd : s = d
  · subst hsd
    simp only [beq_self_eq_true, if_true] at hgd
    refine ⟨?_, ?_⟩
    · intro v _
      simp [Spec.listPopBackPushFront, hg, hx, hpop, Spec.ok]
    · intro e he
      simp [Spec.listPush, hgd, Spec.ok] at he
  · have hb : (s == d) = false := by simpa using hsd
    simp only [hb, Bool.false_eq_true, if_false] at hgd
    cases hd : get S d with
    | none =>
      rw [hd] at hgd
      refine ⟨?_, ?_⟩
      · intro v _
        simp [Spec.listPopBackPushFront, hg, hx, hd, hpop, Spec.ok]
      · intro e he
        simp [Spec.listPush, hgd, Spec.ok] at he
    | some en =>
      rw [hd] at hgd
      obtain ⟨v, etd⟩ := en
      cases v with
      | list ld =>
        refine ⟨?_, ?_⟩
        · intro v _
          simp [Spec.listPopBackPushFront, hg, hx, hd, hpop, Spec.ok]
        · intro e he
          simp [Spec.listPush, hgd, Spec.ok] at he
      | _ =>
        refine ⟨?_, ?_⟩
        · intro v hv
          simp [Spec.listPush, hgd, Spec.er] at hv
        · intro e he
          simp only [Spec.listPush, hgd, Spec.er] at he
          cases he
          simp [Spec.listPopBackPushFront, hg, hx, hd, Spec.er]


theorem spec_listPopBackPushFront_nil {s : State} {k : Bytes}
    (h : ∀ l et, get s k = some ⟨.list l, et⟩ → l = []) (d : Bytes) :
    Spec.listPopBackPushFront s k d = er .notFound s := by
  unfold Spec.listPopBackPushFront
  split
  · rename_i l et hg
    rw [h l et hg]; rfl
  · rfl

theorem listPopBackPushFront_refines {db : DB} (hw : db.LWF) {now : Int} {s d : Bytes}
    (hns : staleKey db now d = false)
    (hsp : ∀ v, (listPop db s false now).out = .ok v →
      pushSpacious (listPop db s false now).db d true now = true) :
    Refines now (update (fun y => listPopBackPushFront y s d now) db)
      (Spec.listPopBackPushFront (abs now db) s d) := by
  rcases listPop_cases hw now s false with ⟨hm, hnil⟩ |
    ⟨r, pre, row, post, hf, hl, ht, hg, hrows, hpp, hm⟩
  · rw [spec_listPopBackPushFront_nil hnil]
    simp only [update, listPopBackPushFront, hm, Res.err]
    exact Refines.same hw.wf now _
  · have hpp : post = [] := hpp
    subst hpp
    obtain ⟨hw2, hst⟩ := pop_step hw hf ht hrows now
    generalize listDeleteRows db r.id [row.pos] now = db1 at hm hw2 hst
    have hel : elems db r.id = pre.map (·.elem) ++ [row.elem] := by simp [elems, hrows]
    rw [hel] at hg
    have hlive : liveAt now r.etime = true := hl
    have ha1 : abs now db1 = put (abs now db) s ⟨.list (pre.map (·.elem)), r.etime⟩ := by
      have := hst.abs hw hw2 now
      rw [delN_etime, List.append_nil] at this
      rw [this]
      exact purge_put_live (sorted_abs hw.wf.names now) (purge_abs hw.wf.names now) s hlive
    have hns1 : staleKey db1 now d = false := by
      unfold staleKey at hns ⊢
      rw [hst.find]
      by_cases hsd : s = d
      · simp [hsd, KeyRow.live, delN_etime, hlive]
      · have hb : (s == d) = false := by simpa using hsd
        simpa [hb] using hns
    have hsp := hsp (.bytes row.elem) (by rw [hm])
    rw [hm] at hsp
    have hR2 := listPush_refines hw2 hns1 row.elem true hsp
    unfold Refines at hR2
    rw [Dispatch.update_out, ha1] at hR2
    obtain ⟨hspecOk, hspecErr⟩ := spec_popPush (d := d) (x := row.elem) hg (by simp)
    rw [List.dropLast_concat] at hspecOk hspecErr
    cases hpo : (listPush db1 d row.elem true now).out with
    | ok v =>
      have hmodel : listPopBackPushFront db s d now
          = .ok (.bytes row.elem) (listPush db1 d row.elem true now).db := by
        simp [listPopBackPushFront, hm, hpo]
      rw [hpo] at hR2
      rw [Dispatch.update_ok (f := fun y => listPush y d row.elem true now) hpo] at hR2
      rw [hspecOk v hR2.1.symm]
      simp only [Refines, update, hmodel, Res.ok]
      exact ⟨trivial, hR2.2⟩
    | error e =>
      have hmodel : listPopBackPushFront db s d now
          = .err e (listPush db1 d row.elem true now).db := by
        simp [listPopBackPushFront, hm, hpo]
      rw [hpo] at hR2
      rw [hspecErr e hR2.1.symm]
      simp only [update, hmodel, Res.err]
      exact Refines.same hw.wf now _

/-! ### push, insert and pop-and-push keep `DB.LWF` without their side conditions (deviation classes
included); for the other operations it comes with the refinement -/

theorem listPush_lwf {db : DB} (hw : db.LWF) (k e : Bytes) (front : Bool) (now : Int) {v : Val}
    (hok : (listPush db k e front now).out = .ok v) : (listPush db k e front now).db.LWF := by
  cases hf : db.findKey k with
  | none =>
    rw [listPush_new hf] at hok ⊢
    split at hok
    · cases hok
    · rw [if_neg ‹_›]
      exact (pushNew_step hw hf _ e now).1
  | some r =>
    by_cases ht : r.ty = TList
    · rw [listPush_old hf ht] at hok ⊢
      split at hok
      · cases hok
      · rename_i hc
        rw [if_neg hc]
        exact (appendRow_step hw hf ht ((pos_fresh_iff mem_filter_kid).1 (by simpa using hc)) e now).1
    · rw [listPush_other hf ht] at hok
      cases hok

theorem listInsert_lwf {db : DB} (hw : db.LWF) (k p e : Bytes) (after : Bool) (now : Int) :
    (listInsert db k p e after now).db.LWF := by
  rw [listInsert_eq]
  cases hk : db.liveKeyT k TList now with
  | none => exact hw
  | some r =>
    obtain ⟨hf, ht, _⟩ := (liveKeyT_eq_some_iff hw.wf.names).1 hk
    dsimp only
    cases insertPos (listRows db r.id) p after with
    | none => exact hw
    | some np =>
      dsimp only
      split
      · exact hw
      · rename_i hc
        have hfresh : ∀ y ∈ db.lists, y.kid = r.id → y.pos ≠ np :=
          (pos_fresh_iff (rows := listRows db r.id) (fun _ => mem_rowsOf)).1 (Bool.eq_false_iff.2 hc)
        simp only [Res.ok]
        rw [updKey_append_lists hw.wf.ids (findKey_mem hf).1]
        exact (appendRow_step hw hf ht hfresh e now).1

theorem listPopBackPushFront_lwf {db : DB} (hw : db.LWF) (s d : Bytes) (now : Int) {v : Val}
    (hok : (listPopBackPushFront db s d now).out = .ok v) :
    (listPopBackPushFront db s d now).db.LWF := by
  have hw1 := (listPop_refines hw now s false).2
  unfold listPopBackPushFront at hok ⊢
  dsimp only at hok ⊢
  split
  · exact hw1
  · rename_i el _
    cases hpo : (listPush (listPop db s false now).db d el true now).out with
    | ok v' => simp only [Res.ok]; exact listPush_lwf hw1 d el true now hpo
    | error e =>
      rename_i heq
      simp [heq, hpo, Res.err] at hok
  · exact hw1

end Redka.Model
