/-
  C19 — the string repository: every `Tx` method is an `Eff` step.
-/
import RedkaModel.Proofs.MetaEff
import RedkaModel.Proofs.InvStr

namespace Redka.MetaProofs

open Redka Redka.Model Redka.InvP

variable {db : DB}

/-- `sqlSet2` on a key row that is there: a child-level edit of that key -/
theorem strSet2_touch {δ : Int → Int} {db : DB} (h : WFd δ db) {r : KeyRow} (hr : r ∈ db.keys)
    (v : Bytes) : ∃ db2, strSet2 db r.key v = .ok db2 ∧ Touch r.id db db2 := by
  unfold strSet2
  rw [findKey_of_mem h hr]
  simp only
  split
  · refine ⟨_, rfl, Touch.setStrs _ _ _ (fun i hi => ?_)⟩
    refine (filter_kid_map_other (·.kid) _ db.strs i (fun x _ hx => ?_) (fun x _ => ?_)).symm
    · have : (x.kid == r.id) = false := by simpa [hx] using hi
      simp [this]
    · show (if x.kid == r.id then _ else x).kid = x.kid
      split <;> rfl
  · refine ⟨_, rfl, Touch.setStrs _ _ _ (fun i hi => ?_)⟩
    exact (filter_kid_append_other (·.kid) db.strs ({ kid := r.id, value := v } : StrRow) (i := i)
      (fun (e : r.id = i) => hi e.symm)).symm

theorem strUpsertSet_eff {now : Int} (h : WF db) (k v : Bytes) (onNew : Int → KeyRow)
    (onOld : KeyRow → KeyRow)
    (hnew : ∀ id, (onNew id).id = id ∧ (onNew id).key = k ∧ (onNew id).ty = TString ∧
      (onNew id).len = none ∧ (onNew id).version = 1 ∧ (onNew id).mtime = now)
    (hold : ∀ o, (onOld o).id = o.id ∧ (onOld o).key = o.key ∧ (onOld o).ty = o.ty ∧
      (onOld o).len = o.len ∧ o.version < (onOld o).version ∧ (onOld o).mtime = now) :
    let p := strWrite db k v onNew onOld
    Eff now db p.2 ∧ Keep db p.2 := by
  unfold strWrite
  cases he : keyUpsert db k TString onNew onOld with
  | error e => exact ⟨Eff.refl _ _, Keep.refl _⟩
  | ok p =>
    obtain ⟨db1, r⟩ := p
    obtain ⟨d, _, h1, hr, hk, _⟩ := h.keyUpsert_str he
      (fun id => ⟨(hnew id).1, (hnew id).2.1, (hnew id).2.2.1, (hnew id).2.2.2.1⟩)
      (fun o => ⟨(hold o).1, (hold o).2.1, (hold o).2.2.1, (hold o).2.2.2.1⟩)
    obtain ⟨db2, h2, ht⟩ := strSet2_touch h1 hr v
    rw [hk] at h2
    simp only [h2]
    exact eff_upsert_touch he (fun id => ⟨(hnew id).1, (hnew id).2.2.2.2.1, (hnew id).2.2.2.2.2⟩)
      (fun o => ⟨(hold o).1, (hold o).2.2.1, (hold o).2.2.2.2.1, (hold o).2.2.2.2.2⟩) ht

theorem strSetTx_eff (h : WF db) (k v : Bytes) (et : Option Int) (now : Int) :
    Eff now db (strSetTx db k v et now).2 ∧ Keep db (strSetTx db k v et now).2 :=
  strUpsertSet_eff h k v _ _ (fun _ => ⟨rfl, rfl, rfl, rfl, rfl, rfl⟩)
    (fun o => ⟨rfl, rfl, rfl, rfl, by show o.version < o.version + 1; omega, rfl⟩)

theorem strUpdateTx_eff (h : WF db) (k v : Bytes) (now : Int) :
    Eff now db (strUpdateTx db k v now).2 ∧ Keep db (strUpdateTx db k v now).2 :=
  strUpsertSet_eff h k v _ _ (fun _ => ⟨rfl, rfl, rfl, rfl, rfl, rfl⟩)
    (fun o => ⟨rfl, rfl, rfl, rfl, by show o.version < o.version + 1; omega, rfl⟩)

/-- along the writes of a method started on `db` the tables stay an `Eff` step from `db`; the
invariant and the key rows of `db` are carried along because `Eff.trans` asks for them -/
theorem _root_.Redka.Model.StrSteps.eff {now : Int} {d : DB} (hs : StrSteps now db d) (h : WF db) :
    Eff now db d :=
  (hs.pres (P := fun d => WF d ∧ Eff now db d ∧ Keep db d) ⟨h, Eff.refl _ _, Keep.refl _⟩
    (fun _ k v et ⟨hw, he, hk⟩ =>
      have h := strSetTx_eff hw k v et now
      ⟨strSetTx_wf hw k v et now, he.trans hk h.1, hk.trans h.2⟩)
    (fun _ k v ⟨hw, he, hk⟩ =>
      have h := strUpdateTx_eff hw k v now
      ⟨strUpdateTx_wf hw k v now, he.trans hk h.1, hk.trans h.2⟩)).2.1

theorem strSet_eff (h : WF db) (k v : Bytes) (et : Option Int) (now : Int) :
    Eff now db (strSet db k v et now).db :=
  (strSet_steps k v et).eff h

theorem strIncr_eff (h : WF db) (k : Bytes) (d now : Int) : Eff now db (strIncr db k d now).db :=
  (strIncr_steps k d).eff h

theorem strIncrFloat_eff (h : WF db) (k : Bytes) (d : Dyadic) (now : Int) :
    Eff now db (strIncrFloat db k d now).db :=
  (strIncrFloat_steps k d).eff h

theorem strSetMany_eff (items : List (Bytes × Bytes)) (now : Int) :
    ∀ {db : DB}, WF db → Eff now db (strSetMany db items now).db :=
  fun h => (strSetMany_steps items .refl).eff h

theorem strSetWith_eff (h : WF db) (k v : Bytes) (o : SetOpts) (now : Int) :
    Eff now db (strSetWith db k v o now).db :=
  (strSetWith_steps k v o).eff h

end Redka.MetaProofs
