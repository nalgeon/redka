/-
  Proofs for property C07: the control structure of `execTx` under faults (`Model/Fault.lean`) and
  the lookup tables over the facts the translator extracts from the Go source
  (`Generated/Facts.lean`, `Generated/Sql.lean`).
-/
import RedkaModel.Model.Fault
import RedkaModel.Proofs.NoTrace
import RedkaModel.Generated.All

namespace Redka.Proofs.Fault

open Redka Redka.Model

theorem runOps_none_fold {p : Bool} {now : Int} {body : List Op} {db : DB}
    (h : (runOps p now body db).1 = none) : (runOps p now body db).2 = foldOps now body db := by
  induction body generalizing db with
  | nil => rfl
  | cons op rest ih =>
    unfold runOps at h ⊢
    simp only [foldOps, List.foldl_cons]
    dsimp only at h ⊢
    split at h
    · split at h
      · cases h
      · rename_i hp; have hp' : p = false := by simpa using hp
        subst hp'; exact ih h
    · exact ih h

theorem runOps_none_iff {p : Bool} {now : Int} {body : List Op} {db : DB} :
    (runOps p now body db).1 = none ↔ (p = false ∨ bodyErrs now body db = false) := by
  induction body generalizing db with
  | nil => simp [runOps, bodyErrs]
  | cons op rest ih =>
    unfold runOps bodyErrs
    dsimp only
    cases hout : (Model.tx true op now db).out with
    | error e =>
      cases p with
      | true => simp
      | false => simpa using (ih (db := (Model.tx true op now db).db)).mpr (.inl rfl)
    | ok v => simp only [Bool.false_or]; exact ih

theorem runOps_ignore {now : Int} {body : List Op} {db : DB} : (runOps false now body db).1 = none :=
  runOps_none_iff.mpr (.inl rfl)

theorem connAfterCancel_tables (env : Env) (db : DB) : tables (connAfterCancel env db) = tables db := by
  unfold connAfterCancel; split <;> rfl

/-- Every path through `execTx`: success, with no fault and no error handed on; or an error, after
the rollback — which leaves `db`, or, when the context was cancelled, `db` on a fresh connection. -/
theorem runTx_cases (env : Env) (p : Bool) (body : List Op) (fault : Fault) (now : Int) (db : DB) :
    ((runTx env p body fault now db).1 = .ok () ∧
        (runTx env p body fault now db).2 = foldOps now body db ∧
        (p = false ∨ bodyErrs now body db = false) ∧ fault = .none) ∨
    ((∃ a, (runTx env p body fault now db).1 = .error a) ∧
        ((runTx env p body fault now db).2 = db ∨
          (∃ n, fault = .ctxCancelled n) ∧ (runTx env p body fault now db).2 = connAfterCancel env db)) := by
  cases fault with
  | beginFails => exact .inr ⟨⟨_, rfl⟩, .inl rfl⟩
  | none =>
    simp only [runTx, Fault.reached, reduceCtorEq, if_false]
    split
    · exact .inr ⟨⟨_, rfl⟩, .inl rfl⟩
    · rename_i hnone
      exact .inl ⟨rfl, runOps_none_fold hnone, runOps_none_iff.mp hnone, trivial⟩
  | ctxCancelled n =>
    simp only [runTx, reduceCtorEq, if_false]; split
    · exact .inr ⟨⟨_, rfl⟩, .inl rfl⟩
    · exact .inr ⟨⟨_, rfl⟩, .inr ⟨⟨n, rfl⟩, rfl⟩⟩
  | callbackError n | callbackPanics n | commitFails =>
    simp only [runTx, reduceCtorEq, if_false]; split <;> exact .inr ⟨⟨_, rfl⟩, .inl rfl⟩

/-! ### lookup tables over the generated facts

Built from the generated constants, so they are re-evaluated whenever the Go source changes. The
`…_complete` theorems state that no generated name is missing from a table. -/

/-- `(package, DB method, wrapper kind, callees)` -/
def wrapTable : List (String × String × String × List String) := [
  ("rhash", "Delete", Generated.wrap_rhash_Delete, Generated.wrapCalls_rhash_Delete),
  ("rhash", "Exists", Generated.wrap_rhash_Exists, Generated.wrapCalls_rhash_Exists),
  ("rhash", "Fields", Generated.wrap_rhash_Fields, Generated.wrapCalls_rhash_Fields),
  ("rhash", "Get", Generated.wrap_rhash_Get, Generated.wrapCalls_rhash_Get),
  ("rhash", "GetMany", Generated.wrap_rhash_GetMany, Generated.wrapCalls_rhash_GetMany),
  ("rhash", "Incr", Generated.wrap_rhash_Incr, Generated.wrapCalls_rhash_Incr),
  ("rhash", "IncrFloat", Generated.wrap_rhash_IncrFloat, Generated.wrapCalls_rhash_IncrFloat),
  ("rhash", "Items", Generated.wrap_rhash_Items, Generated.wrapCalls_rhash_Items),
  ("rhash", "Len", Generated.wrap_rhash_Len, Generated.wrapCalls_rhash_Len),
  ("rhash", "Scan", Generated.wrap_rhash_Scan, Generated.wrapCalls_rhash_Scan),
  ("rhash", "Scanner", Generated.wrap_rhash_Scanner, Generated.wrapCalls_rhash_Scanner),
  ("rhash", "Set", Generated.wrap_rhash_Set, Generated.wrapCalls_rhash_Set),
  ("rhash", "SetMany", Generated.wrap_rhash_SetMany, Generated.wrapCalls_rhash_SetMany),
  ("rhash", "SetNotExists", Generated.wrap_rhash_SetNotExists, Generated.wrapCalls_rhash_SetNotExists),
  ("rhash", "Values", Generated.wrap_rhash_Values, Generated.wrapCalls_rhash_Values),
  ("rkey", "Count", Generated.wrap_rkey_Count, Generated.wrapCalls_rkey_Count),
  ("rkey", "Delete", Generated.wrap_rkey_Delete, Generated.wrapCalls_rkey_Delete),
  ("rkey", "DeleteAll", Generated.wrap_rkey_DeleteAll, Generated.wrapCalls_rkey_DeleteAll),
  ("rkey", "DeleteExpired", Generated.wrap_rkey_DeleteExpired, Generated.wrapCalls_rkey_DeleteExpired),
  ("rkey", "Exists", Generated.wrap_rkey_Exists, Generated.wrapCalls_rkey_Exists),
  ("rkey", "Expire", Generated.wrap_rkey_Expire, Generated.wrapCalls_rkey_Expire),
  ("rkey", "ExpireAt", Generated.wrap_rkey_ExpireAt, Generated.wrapCalls_rkey_ExpireAt),
  ("rkey", "Get", Generated.wrap_rkey_Get, Generated.wrapCalls_rkey_Get),
  ("rkey", "Keys", Generated.wrap_rkey_Keys, Generated.wrapCalls_rkey_Keys),
  ("rkey", "Len", Generated.wrap_rkey_Len, Generated.wrapCalls_rkey_Len),
  ("rkey", "Persist", Generated.wrap_rkey_Persist, Generated.wrapCalls_rkey_Persist),
  ("rkey", "Random", Generated.wrap_rkey_Random, Generated.wrapCalls_rkey_Random),
  ("rkey", "Rename", Generated.wrap_rkey_Rename, Generated.wrapCalls_rkey_Rename),
  ("rkey", "RenameNotExists", Generated.wrap_rkey_RenameNotExists, Generated.wrapCalls_rkey_RenameNotExists),
  ("rkey", "Scan", Generated.wrap_rkey_Scan, Generated.wrapCalls_rkey_Scan),
  ("rkey", "Scanner", Generated.wrap_rkey_Scanner, Generated.wrapCalls_rkey_Scanner),
  ("rlist", "Delete", Generated.wrap_rlist_Delete, Generated.wrapCalls_rlist_Delete),
  ("rlist", "DeleteBack", Generated.wrap_rlist_DeleteBack, Generated.wrapCalls_rlist_DeleteBack),
  ("rlist", "DeleteFront", Generated.wrap_rlist_DeleteFront, Generated.wrapCalls_rlist_DeleteFront),
  ("rlist", "Get", Generated.wrap_rlist_Get, Generated.wrapCalls_rlist_Get),
  ("rlist", "InsertAfter", Generated.wrap_rlist_InsertAfter, Generated.wrapCalls_rlist_InsertAfter),
  ("rlist", "InsertBefore", Generated.wrap_rlist_InsertBefore, Generated.wrapCalls_rlist_InsertBefore),
  ("rlist", "Len", Generated.wrap_rlist_Len, Generated.wrapCalls_rlist_Len),
  ("rlist", "PopBack", Generated.wrap_rlist_PopBack, Generated.wrapCalls_rlist_PopBack),
  ("rlist", "PopBackPushFront", Generated.wrap_rlist_PopBackPushFront, Generated.wrapCalls_rlist_PopBackPushFront),
  ("rlist", "PopFront", Generated.wrap_rlist_PopFront, Generated.wrapCalls_rlist_PopFront),
  ("rlist", "PushBack", Generated.wrap_rlist_PushBack, Generated.wrapCalls_rlist_PushBack),
  ("rlist", "PushFront", Generated.wrap_rlist_PushFront, Generated.wrapCalls_rlist_PushFront),
  ("rlist", "Range", Generated.wrap_rlist_Range, Generated.wrapCalls_rlist_Range),
  ("rlist", "Set", Generated.wrap_rlist_Set, Generated.wrapCalls_rlist_Set),
  ("rlist", "Trim", Generated.wrap_rlist_Trim, Generated.wrapCalls_rlist_Trim),
  ("rset", "Add", Generated.wrap_rset_Add, Generated.wrapCalls_rset_Add),
  ("rset", "Delete", Generated.wrap_rset_Delete, Generated.wrapCalls_rset_Delete),
  ("rset", "Diff", Generated.wrap_rset_Diff, Generated.wrapCalls_rset_Diff),
  ("rset", "DiffStore", Generated.wrap_rset_DiffStore, Generated.wrapCalls_rset_DiffStore),
  ("rset", "Exists", Generated.wrap_rset_Exists, Generated.wrapCalls_rset_Exists),
  ("rset", "Inter", Generated.wrap_rset_Inter, Generated.wrapCalls_rset_Inter),
  ("rset", "InterStore", Generated.wrap_rset_InterStore, Generated.wrapCalls_rset_InterStore),
  ("rset", "Items", Generated.wrap_rset_Items, Generated.wrapCalls_rset_Items),
  ("rset", "Len", Generated.wrap_rset_Len, Generated.wrapCalls_rset_Len),
  ("rset", "Move", Generated.wrap_rset_Move, Generated.wrapCalls_rset_Move),
  ("rset", "Pop", Generated.wrap_rset_Pop, Generated.wrapCalls_rset_Pop),
  ("rset", "Random", Generated.wrap_rset_Random, Generated.wrapCalls_rset_Random),
  ("rset", "Scan", Generated.wrap_rset_Scan, Generated.wrapCalls_rset_Scan),
  ("rset", "Scanner", Generated.wrap_rset_Scanner, Generated.wrapCalls_rset_Scanner),
  ("rset", "Union", Generated.wrap_rset_Union, Generated.wrapCalls_rset_Union),
  ("rset", "UnionStore", Generated.wrap_rset_UnionStore, Generated.wrapCalls_rset_UnionStore),
  ("rstring", "Get", Generated.wrap_rstring_Get, Generated.wrapCalls_rstring_Get),
  ("rstring", "GetMany", Generated.wrap_rstring_GetMany, Generated.wrapCalls_rstring_GetMany),
  ("rstring", "Incr", Generated.wrap_rstring_Incr, Generated.wrapCalls_rstring_Incr),
  ("rstring", "IncrFloat", Generated.wrap_rstring_IncrFloat, Generated.wrapCalls_rstring_IncrFloat),
  ("rstring", "Set", Generated.wrap_rstring_Set, Generated.wrapCalls_rstring_Set),
  ("rstring", "SetCmd.Run", Generated.wrap_rstring_SetCmd_Run, Generated.wrapCalls_rstring_SetCmd_Run),
  ("rstring", "SetExpires", Generated.wrap_rstring_SetExpires, Generated.wrapCalls_rstring_SetExpires),
  ("rstring", "SetMany", Generated.wrap_rstring_SetMany, Generated.wrapCalls_rstring_SetMany),
  ("rstring", "SetWith", Generated.wrap_rstring_SetWith, Generated.wrapCalls_rstring_SetWith),
  ("rzset", "Add", Generated.wrap_rzset_Add, Generated.wrapCalls_rzset_Add),
  ("rzset", "AddMany", Generated.wrap_rzset_AddMany, Generated.wrapCalls_rzset_AddMany),
  ("rzset", "Count", Generated.wrap_rzset_Count, Generated.wrapCalls_rzset_Count),
  ("rzset", "Delete", Generated.wrap_rzset_Delete, Generated.wrapCalls_rzset_Delete),
  ("rzset", "DeleteCmd.Run", Generated.wrap_rzset_DeleteCmd_Run, Generated.wrapCalls_rzset_DeleteCmd_Run),
  ("rzset", "DeleteWith", Generated.wrap_rzset_DeleteWith, Generated.wrapCalls_rzset_DeleteWith),
  ("rzset", "GetRank", Generated.wrap_rzset_GetRank, Generated.wrapCalls_rzset_GetRank),
  ("rzset", "GetRankRev", Generated.wrap_rzset_GetRankRev, Generated.wrapCalls_rzset_GetRankRev),
  ("rzset", "GetScore", Generated.wrap_rzset_GetScore, Generated.wrapCalls_rzset_GetScore),
  ("rzset", "Incr", Generated.wrap_rzset_Incr, Generated.wrapCalls_rzset_Incr),
  ("rzset", "Inter", Generated.wrap_rzset_Inter, Generated.wrapCalls_rzset_Inter),
  ("rzset", "InterCmd.Run", Generated.wrap_rzset_InterCmd_Run, Generated.wrapCalls_rzset_InterCmd_Run),
  ("rzset", "InterCmd.Store", Generated.wrap_rzset_InterCmd_Store, Generated.wrapCalls_rzset_InterCmd_Store),
  ("rzset", "InterWith", Generated.wrap_rzset_InterWith, Generated.wrapCalls_rzset_InterWith),
  ("rzset", "Len", Generated.wrap_rzset_Len, Generated.wrapCalls_rzset_Len),
  ("rzset", "Range", Generated.wrap_rzset_Range, Generated.wrapCalls_rzset_Range),
  ("rzset", "RangeCmd.Run", Generated.wrap_rzset_RangeCmd_Run, Generated.wrapCalls_rzset_RangeCmd_Run),
  ("rzset", "RangeWith", Generated.wrap_rzset_RangeWith, Generated.wrapCalls_rzset_RangeWith),
  ("rzset", "Scan", Generated.wrap_rzset_Scan, Generated.wrapCalls_rzset_Scan),
  ("rzset", "Scanner", Generated.wrap_rzset_Scanner, Generated.wrapCalls_rzset_Scanner),
  ("rzset", "Union", Generated.wrap_rzset_Union, Generated.wrapCalls_rzset_Union),
  ("rzset", "UnionCmd.Run", Generated.wrap_rzset_UnionCmd_Run, Generated.wrapCalls_rzset_UnionCmd_Run),
  ("rzset", "UnionCmd.Store", Generated.wrap_rzset_UnionCmd_Store, Generated.wrapCalls_rzset_UnionCmd_Store),
  ("rzset", "UnionWith", Generated.wrap_rzset_UnionWith, Generated.wrapCalls_rzset_UnionWith)]

/-- `(package, function, the SQL statements it can execute, transitively)` -/
def stmtTable : List (String × String × List String) := [
  ("rhash", "Scanner.Scan", Generated.txStmts_rhash_Scanner_Scan),
  ("rhash", "Tx.Delete", Generated.txStmts_rhash_Tx_Delete),
  ("rhash", "Tx.Exists", Generated.txStmts_rhash_Tx_Exists),
  ("rhash", "Tx.Fields", Generated.txStmts_rhash_Tx_Fields),
  ("rhash", "Tx.Get", Generated.txStmts_rhash_Tx_Get),
  ("rhash", "Tx.GetMany", Generated.txStmts_rhash_Tx_GetMany),
  ("rhash", "Tx.Incr", Generated.txStmts_rhash_Tx_Incr),
  ("rhash", "Tx.IncrFloat", Generated.txStmts_rhash_Tx_IncrFloat),
  ("rhash", "Tx.Items", Generated.txStmts_rhash_Tx_Items),
  ("rhash", "Tx.Len", Generated.txStmts_rhash_Tx_Len),
  ("rhash", "Tx.Scan", Generated.txStmts_rhash_Tx_Scan),
  ("rhash", "Tx.Scanner", Generated.txStmts_rhash_Tx_Scanner),
  ("rhash", "Tx.Set", Generated.txStmts_rhash_Tx_Set),
  ("rhash", "Tx.SetMany", Generated.txStmts_rhash_Tx_SetMany),
  ("rhash", "Tx.SetNotExists", Generated.txStmts_rhash_Tx_SetNotExists),
  ("rhash", "Tx.Values", Generated.txStmts_rhash_Tx_Values),
  ("rhash", "Tx.count", Generated.txStmts_rhash_Tx_count),
  ("rhash", "Tx.set", Generated.txStmts_rhash_Tx_set),
  ("rhash", "newScanner", Generated.txStmts_rhash_func_newScanner),
  ("rhash", "scanValue", Generated.txStmts_rhash_func_scanValue),
  ("rkey", "Scanner.Scan", Generated.txStmts_rkey_Scanner_Scan),
  ("rkey", "Tx.Count", Generated.txStmts_rkey_Tx_Count),
  ("rkey", "Tx.Delete", Generated.txStmts_rkey_Tx_Delete),
  ("rkey", "Tx.DeleteAll", Generated.txStmts_rkey_Tx_DeleteAll),
  ("rkey", "Tx.Exists", Generated.txStmts_rkey_Tx_Exists),
  ("rkey", "Tx.Expire", Generated.txStmts_rkey_Tx_Expire),
  ("rkey", "Tx.ExpireAt", Generated.txStmts_rkey_Tx_ExpireAt),
  ("rkey", "Tx.Get", Generated.txStmts_rkey_Tx_Get),
  ("rkey", "Tx.Keys", Generated.txStmts_rkey_Tx_Keys),
  ("rkey", "Tx.Len", Generated.txStmts_rkey_Tx_Len),
  ("rkey", "Tx.Persist", Generated.txStmts_rkey_Tx_Persist),
  ("rkey", "Tx.Random", Generated.txStmts_rkey_Tx_Random),
  ("rkey", "Tx.Rename", Generated.txStmts_rkey_Tx_Rename),
  ("rkey", "Tx.RenameNotExists", Generated.txStmts_rkey_Tx_RenameNotExists),
  ("rkey", "Tx.Scan", Generated.txStmts_rkey_Tx_Scan),
  ("rkey", "Tx.Scanner", Generated.txStmts_rkey_Tx_Scanner),
  ("rkey", "Tx.deleteExpired", Generated.txStmts_rkey_Tx_deleteExpired),
  ("rkey", "newScanner", Generated.txStmts_rkey_func_newScanner),
  ("rlist", "Tx.Delete", Generated.txStmts_rlist_Tx_Delete),
  ("rlist", "Tx.DeleteBack", Generated.txStmts_rlist_Tx_DeleteBack),
  ("rlist", "Tx.DeleteFront", Generated.txStmts_rlist_Tx_DeleteFront),
  ("rlist", "Tx.Get", Generated.txStmts_rlist_Tx_Get),
  ("rlist", "Tx.InsertAfter", Generated.txStmts_rlist_Tx_InsertAfter),
  ("rlist", "Tx.InsertBefore", Generated.txStmts_rlist_Tx_InsertBefore),
  ("rlist", "Tx.Len", Generated.txStmts_rlist_Tx_Len),
  ("rlist", "Tx.PopBack", Generated.txStmts_rlist_Tx_PopBack),
  ("rlist", "Tx.PopBackPushFront", Generated.txStmts_rlist_Tx_PopBackPushFront),
  ("rlist", "Tx.PopFront", Generated.txStmts_rlist_Tx_PopFront),
  ("rlist", "Tx.PushBack", Generated.txStmts_rlist_Tx_PushBack),
  ("rlist", "Tx.PushFront", Generated.txStmts_rlist_Tx_PushFront),
  ("rlist", "Tx.Range", Generated.txStmts_rlist_Tx_Range),
  ("rlist", "Tx.Set", Generated.txStmts_rlist_Tx_Set),
  ("rlist", "Tx.Trim", Generated.txStmts_rlist_Tx_Trim),
  ("rlist", "Tx.delete", Generated.txStmts_rlist_Tx_delete),
  ("rlist", "Tx.insert", Generated.txStmts_rlist_Tx_insert),
  ("rlist", "Tx.pop", Generated.txStmts_rlist_Tx_pop),
  ("rlist", "Tx.push", Generated.txStmts_rlist_Tx_push),
  ("rset", "Scanner.Scan", Generated.txStmts_rset_Scanner_Scan),
  ("rset", "Tx.Add", Generated.txStmts_rset_Tx_Add),
  ("rset", "Tx.Delete", Generated.txStmts_rset_Tx_Delete),
  ("rset", "Tx.Diff", Generated.txStmts_rset_Tx_Diff),
  ("rset", "Tx.DiffStore", Generated.txStmts_rset_Tx_DiffStore),
  ("rset", "Tx.Exists", Generated.txStmts_rset_Tx_Exists),
  ("rset", "Tx.Inter", Generated.txStmts_rset_Tx_Inter),
  ("rset", "Tx.InterStore", Generated.txStmts_rset_Tx_InterStore),
  ("rset", "Tx.Items", Generated.txStmts_rset_Tx_Items),
  ("rset", "Tx.Len", Generated.txStmts_rset_Tx_Len),
  ("rset", "Tx.Move", Generated.txStmts_rset_Tx_Move),
  ("rset", "Tx.Pop", Generated.txStmts_rset_Tx_Pop),
  ("rset", "Tx.Random", Generated.txStmts_rset_Tx_Random),
  ("rset", "Tx.Scan", Generated.txStmts_rset_Tx_Scan),
  ("rset", "Tx.Scanner", Generated.txStmts_rset_Tx_Scanner),
  ("rset", "Tx.Union", Generated.txStmts_rset_Tx_Union),
  ("rset", "Tx.UnionStore", Generated.txStmts_rset_Tx_UnionStore),
  ("rset", "Tx.createKey", Generated.txStmts_rset_Tx_createKey),
  ("rset", "Tx.deleteKey", Generated.txStmts_rset_Tx_deleteKey),
  ("rset", "Tx.selectElems", Generated.txStmts_rset_Tx_selectElems),
  ("rset", "Tx.store", Generated.txStmts_rset_Tx_store),
  ("rset", "countDistinct", Generated.txStmts_rset_func_countDistinct),
  ("rset", "newScanner", Generated.txStmts_rset_func_newScanner),
  ("rstring", "SetCmd.Run", Generated.txStmts_rstring_SetCmd_Run),
  ("rstring", "SetCmd.run", Generated.txStmts_rstring_SetCmd_run),
  ("rstring", "Tx.Get", Generated.txStmts_rstring_Tx_Get),
  ("rstring", "Tx.GetMany", Generated.txStmts_rstring_Tx_GetMany),
  ("rstring", "Tx.Incr", Generated.txStmts_rstring_Tx_Incr),
  ("rstring", "Tx.IncrFloat", Generated.txStmts_rstring_Tx_IncrFloat),
  ("rstring", "Tx.Set", Generated.txStmts_rstring_Tx_Set),
  ("rstring", "Tx.SetExpires", Generated.txStmts_rstring_Tx_SetExpires),
  ("rstring", "Tx.SetMany", Generated.txStmts_rstring_Tx_SetMany),
  ("rstring", "Tx.SetWith", Generated.txStmts_rstring_Tx_SetWith),
  ("rstring", "get", Generated.txStmts_rstring_func_get),
  ("rstring", "set", Generated.txStmts_rstring_func_set),
  ("rstring", "update", Generated.txStmts_rstring_func_update),
  ("rzset", "DeleteCmd.Run", Generated.txStmts_rzset_DeleteCmd_Run),
  ("rzset", "DeleteCmd.deleteRank", Generated.txStmts_rzset_DeleteCmd_deleteRank),
  ("rzset", "DeleteCmd.deleteScore", Generated.txStmts_rzset_DeleteCmd_deleteScore),
  ("rzset", "DeleteCmd.run", Generated.txStmts_rzset_DeleteCmd_run),
  ("rzset", "DeleteCmd.updateKey", Generated.txStmts_rzset_DeleteCmd_updateKey),
  ("rzset", "InterCmd.Run", Generated.txStmts_rzset_InterCmd_Run),
  ("rzset", "InterCmd.Store", Generated.txStmts_rzset_InterCmd_Store),
  ("rzset", "InterCmd.run", Generated.txStmts_rzset_InterCmd_run),
  ("rzset", "InterCmd.store", Generated.txStmts_rzset_InterCmd_store),
  ("rzset", "RangeCmd.Run", Generated.txStmts_rzset_RangeCmd_Run),
  ("rzset", "RangeCmd.rangeRank", Generated.txStmts_rzset_RangeCmd_rangeRank),
  ("rzset", "RangeCmd.rangeScore", Generated.txStmts_rzset_RangeCmd_rangeScore),
  ("rzset", "Scanner.Scan", Generated.txStmts_rzset_Scanner_Scan),
  ("rzset", "Tx.Add", Generated.txStmts_rzset_Tx_Add),
  ("rzset", "Tx.AddMany", Generated.txStmts_rzset_Tx_AddMany),
  ("rzset", "Tx.Count", Generated.txStmts_rzset_Tx_Count),
  ("rzset", "Tx.Delete", Generated.txStmts_rzset_Tx_Delete),
  ("rzset", "Tx.DeleteWith", Generated.txStmts_rzset_Tx_DeleteWith),
  ("rzset", "Tx.GetRank", Generated.txStmts_rzset_Tx_GetRank),
  ("rzset", "Tx.GetRankRev", Generated.txStmts_rzset_Tx_GetRankRev),
  ("rzset", "Tx.GetScore", Generated.txStmts_rzset_Tx_GetScore),
  ("rzset", "Tx.Incr", Generated.txStmts_rzset_Tx_Incr),
  ("rzset", "Tx.Inter", Generated.txStmts_rzset_Tx_Inter),
  ("rzset", "Tx.InterWith", Generated.txStmts_rzset_Tx_InterWith),
  ("rzset", "Tx.Len", Generated.txStmts_rzset_Tx_Len),
  ("rzset", "Tx.Range", Generated.txStmts_rzset_Tx_Range),
  ("rzset", "Tx.RangeWith", Generated.txStmts_rzset_Tx_RangeWith),
  ("rzset", "Tx.Scan", Generated.txStmts_rzset_Tx_Scan),
  ("rzset", "Tx.Scanner", Generated.txStmts_rzset_Tx_Scanner),
  ("rzset", "Tx.Union", Generated.txStmts_rzset_Tx_Union),
  ("rzset", "Tx.UnionWith", Generated.txStmts_rzset_Tx_UnionWith),
  ("rzset", "Tx.add", Generated.txStmts_rzset_Tx_add),
  ("rzset", "Tx.count", Generated.txStmts_rzset_Tx_count),
  ("rzset", "Tx.getRank", Generated.txStmts_rzset_Tx_getRank),
  ("rzset", "UnionCmd.Run", Generated.txStmts_rzset_UnionCmd_Run),
  ("rzset", "UnionCmd.Store", Generated.txStmts_rzset_UnionCmd_Store),
  ("rzset", "UnionCmd.run", Generated.txStmts_rzset_UnionCmd_run),
  ("rzset", "UnionCmd.store", Generated.txStmts_rzset_UnionCmd_store),
  ("rzset", "countDistinct", Generated.txStmts_rzset_func_countDistinct),
  ("rzset", "newScanner", Generated.txStmts_rzset_func_newScanner),
  ("rzset", "scanItem", Generated.txStmts_rzset_func_scanItem)]

/-- `(package, statement, verb)` -/
def verbTable : List (String × String × String) := [
  ("rhash", "sqlCount", Generated.verb_rhash_sqlCount),
  ("rhash", "sqlDelete1", Generated.verb_rhash_sqlDelete1),
  ("rhash", "sqlDelete2", Generated.verb_rhash_sqlDelete2),
  ("rhash", "sqlFields", Generated.verb_rhash_sqlFields),
  ("rhash", "sqlGet", Generated.verb_rhash_sqlGet),
  ("rhash", "sqlGetMany", Generated.verb_rhash_sqlGetMany),
  ("rhash", "sqlItems", Generated.verb_rhash_sqlItems),
  ("rhash", "sqlLen", Generated.verb_rhash_sqlLen),
  ("rhash", "sqlScan", Generated.verb_rhash_sqlScan),
  ("rhash", "sqlSet1", Generated.verb_rhash_sqlSet1),
  ("rhash", "sqlSet2", Generated.verb_rhash_sqlSet2),
  ("rhash", "sqlValues", Generated.verb_rhash_sqlValues),
  ("rkey", "sqlCount", Generated.verb_rkey_sqlCount),
  ("rkey", "sqlDelete", Generated.verb_rkey_sqlDelete),
  ("rkey", "sqlDeleteAll", Generated.verb_rkey_sqlDeleteAll),
  ("rkey", "sqlDeleteAllExpired", Generated.verb_rkey_sqlDeleteAllExpired),
  ("rkey", "sqlDeleteNExpired", Generated.verb_rkey_sqlDeleteNExpired),
  ("rkey", "sqlExpire", Generated.verb_rkey_sqlExpire),
  ("rkey", "sqlGet", Generated.verb_rkey_sqlGet),
  ("rkey", "sqlKeys", Generated.verb_rkey_sqlKeys),
  ("rkey", "sqlLen", Generated.verb_rkey_sqlLen),
  ("rkey", "sqlPersist", Generated.verb_rkey_sqlPersist),
  ("rkey", "sqlRandom", Generated.verb_rkey_sqlRandom),
  ("rkey", "sqlRename", Generated.verb_rkey_sqlRename),
  ("rkey", "sqlScan", Generated.verb_rkey_sqlScan),
  ("rlist", "sqlDelete", Generated.verb_rlist_sqlDelete),
  ("rlist", "sqlDeleteBack", Generated.verb_rlist_sqlDeleteBack),
  ("rlist", "sqlDeleteFront", Generated.verb_rlist_sqlDeleteFront),
  ("rlist", "sqlGet", Generated.verb_rlist_sqlGet),
  ("rlist", "sqlInsert", Generated.verb_rlist_sqlInsert),
  ("rlist", "sqlInsertAfter", Generated.verb_rlist_sqlInsertAfter),
  ("rlist", "sqlInsertBefore", Generated.verb_rlist_sqlInsertBefore),
  ("rlist", "sqlInsertKey", Generated.verb_rlist_sqlInsertKey),
  ("rlist", "sqlLen", Generated.verb_rlist_sqlLen),
  ("rlist", "sqlPopBack", Generated.verb_rlist_sqlPopBack),
  ("rlist", "sqlPopFront", Generated.verb_rlist_sqlPopFront),
  ("rlist", "sqlPush", Generated.verb_rlist_sqlPush),
  ("rlist", "sqlPushBack", Generated.verb_rlist_sqlPushBack),
  ("rlist", "sqlPushFront", Generated.verb_rlist_sqlPushFront),
  ("rlist", "sqlRange", Generated.verb_rlist_sqlRange),
  ("rlist", "sqlSet", Generated.verb_rlist_sqlSet),
  ("rlist", "sqlTrim", Generated.verb_rlist_sqlTrim),
  ("rset", "sqlAdd1", Generated.verb_rset_sqlAdd1),
  ("rset", "sqlAdd2", Generated.verb_rset_sqlAdd2),
  ("rset", "sqlDelete1", Generated.verb_rset_sqlDelete1),
  ("rset", "sqlDelete2", Generated.verb_rset_sqlDelete2),
  ("rset", "sqlDeleteKey1", Generated.verb_rset_sqlDeleteKey1),
  ("rset", "sqlDeleteKey2", Generated.verb_rset_sqlDeleteKey2),
  ("rset", "sqlDiff", Generated.verb_rset_sqlDiff),
  ("rset", "sqlDiffStore", Generated.verb_rset_sqlDiffStore),
  ("rset", "sqlExists", Generated.verb_rset_sqlExists),
  ("rset", "sqlInter", Generated.verb_rset_sqlInter),
  ("rset", "sqlInterStore", Generated.verb_rset_sqlInterStore),
  ("rset", "sqlItems", Generated.verb_rset_sqlItems),
  ("rset", "sqlLen", Generated.verb_rset_sqlLen),
  ("rset", "sqlPop1", Generated.verb_rset_sqlPop1),
  ("rset", "sqlPop2", Generated.verb_rset_sqlPop2),
  ("rset", "sqlRandom", Generated.verb_rset_sqlRandom),
  ("rset", "sqlScan", Generated.verb_rset_sqlScan),
  ("rset", "sqlUnion", Generated.verb_rset_sqlUnion),
  ("rset", "sqlUnionStore", Generated.verb_rset_sqlUnionStore),
  ("rstring", "sqlGet", Generated.verb_rstring_sqlGet),
  ("rstring", "sqlGetMany", Generated.verb_rstring_sqlGetMany),
  ("rstring", "sqlSet1", Generated.verb_rstring_sqlSet1),
  ("rstring", "sqlSet2", Generated.verb_rstring_sqlSet2),
  ("rstring", "sqlUpdate1", Generated.verb_rstring_sqlUpdate1),
  ("rstring", "sqlUpdate2", Generated.verb_rstring_sqlUpdate2),
  ("rzset", "sqlAdd1", Generated.verb_rzset_sqlAdd1),
  ("rzset", "sqlAdd2", Generated.verb_rzset_sqlAdd2),
  ("rzset", "sqlCount", Generated.verb_rzset_sqlCount),
  ("rzset", "sqlCountScore", Generated.verb_rzset_sqlCountScore),
  ("rzset", "sqlDelete1", Generated.verb_rzset_sqlDelete1),
  ("rzset", "sqlDelete2", Generated.verb_rzset_sqlDelete2),
  ("rzset", "sqlDeleteAll1", Generated.verb_rzset_sqlDeleteAll1),
  ("rzset", "sqlDeleteAll2", Generated.verb_rzset_sqlDeleteAll2),
  ("rzset", "sqlDeleteRank", Generated.verb_rzset_sqlDeleteRank),
  ("rzset", "sqlDeleteScore", Generated.verb_rzset_sqlDeleteScore),
  ("rzset", "sqlGetRank", Generated.verb_rzset_sqlGetRank),
  ("rzset", "sqlGetScore", Generated.verb_rzset_sqlGetScore),
  ("rzset", "sqlIncr1", Generated.verb_rzset_sqlIncr1),
  ("rzset", "sqlIncr2", Generated.verb_rzset_sqlIncr2),
  ("rzset", "sqlInter", Generated.verb_rzset_sqlInter),
  ("rzset", "sqlInterStore1", Generated.verb_rzset_sqlInterStore1),
  ("rzset", "sqlInterStore2", Generated.verb_rzset_sqlInterStore2),
  ("rzset", "sqlInterStore3", Generated.verb_rzset_sqlInterStore3),
  ("rzset", "sqlInterStore4", Generated.verb_rzset_sqlInterStore4),
  ("rzset", "sqlLen", Generated.verb_rzset_sqlLen),
  ("rzset", "sqlRangeRank", Generated.verb_rzset_sqlRangeRank),
  ("rzset", "sqlRangeScore", Generated.verb_rzset_sqlRangeScore),
  ("rzset", "sqlScan", Generated.verb_rzset_sqlScan),
  ("rzset", "sqlUnion", Generated.verb_rzset_sqlUnion),
  ("rzset", "sqlUnionStore1", Generated.verb_rzset_sqlUnionStore1),
  ("rzset", "sqlUnionStore2", Generated.verb_rzset_sqlUnionStore2),
  ("rzset", "sqlUnionStore3", Generated.verb_rzset_sqlUnionStore3),
  ("rzset", "sqlUnionStore4", Generated.verb_rzset_sqlUnionStore4),
  ("rzset", "sqlUpdateKey", Generated.verb_rzset_sqlUpdateKey)]

theorem wrapTable_complete : wrapTable.map (fun e => (e.1, e.2.1)) = Generated.wrapNames := by rfl

theorem stmtTable_complete : stmtTable.map (fun e => (e.1, e.2.1)) =
    Generated.txNames_rhash.map (fun n => ("rhash", n)) ++ Generated.txNames_rkey.map (fun n => ("rkey", n)) ++
    Generated.txNames_rlist.map (fun n => ("rlist", n)) ++ Generated.txNames_rset.map (fun n => ("rset", n)) ++
    Generated.txNames_rstring.map (fun n => ("rstring", n)) ++ Generated.txNames_rzset.map (fun n => ("rzset", n)) := by
  rfl

theorem verbTable_complete : verbTable.map (fun e => (e.1, e.2.1)) = Generated.sqlNames := by rfl

def wrapKind (pkg m : String) : Option String :=
  (wrapTable.find? (fun e => e.1 == pkg && e.2.1 == m)).map (·.2.2.1)

def wrapCallees (pkg m : String) : List String :=
  match wrapTable.find? (fun e => e.1 == pkg && e.2.1 == m) with
  | some e => e.2.2.2
  | none => []

def stmtsOf (pkg fn : String) : Option (List String) :=
  (stmtTable.find? (fun e => e.1 == pkg && e.2.1 == fn)).map (·.2.2)

def verbOf (pkg stmt : String) : Option String :=
  (verbTable.find? (fun e => e.1 == pkg && e.2.1 == stmt)).map (·.2.2)

/-- a statement that is known to be a plain `select` -/
def isSelect (pkg stmt : String) : Bool := verbOf pkg stmt == some "select"

/-- The statements a `DB` method can execute through its callees, other than `NewTx` (which only
wraps the handle). A callee that is itself a `DB` method of the package (a builder handing over to
its `Run`) contributes nothing here: it is judged as its own entry. `none`: a callee is unknown. -/
def reachStmts (pkg : String) (callees : List String) : Option (List String) :=
  callees.foldl (fun acc c =>
    match acc with
    | none => none
    | some l =>
      if c == "NewTx" then some l
      else match stmtsOf pkg c with
        | some s => some (l ++ s)
        | none => if (wrapKind pkg c).isSome then some l else none) (some [])

/-- the statements among them that are not plain selects -/
def reachWrites (pkg : String) (callees : List String) : Option (List String) :=
  (reachStmts pkg callees).map (fun l => l.filter (fun s => !isSelect pkg s))

/-- the one `DB` method that runs more than one writing statement outside `Update`: the cleaner.
Its two statements are the branches of `if n > 0 { … } else { … }`, one `Exec` per call. -/
def isAlternatives (pkg m : String) (writes : List String) : Bool :=
  pkg == "rkey" && m == "DeleteExpired" && writes == ["sqlDeleteNExpired", "sqlDeleteAllExpired"]

/-- the judgement of one `DB` method -/
def wrapperSafe (e : String × String × String × List String) : Bool :=
  let (pkg, m, kind, callees) := e
  match reachWrites pkg callees with
  | none => false
  | some w =>
    if kind == "update" then true
    else if kind == "ro" then w.isEmpty
    else decide (w.length ≤ 1) || isAlternatives pkg m w

theorem wrapKind_some {pkg m k : String} (h : wrapKind pkg m = some k) : (pkg, m) ∈ Generated.wrapNames := by
  obtain ⟨e, he, -⟩ := Option.map_eq_some_iff.mp h
  have hk := List.find?_some he
  simp only [Bool.and_eq_true, beq_iff_eq] at hk
  rw [← wrapTable_complete, ← hk.1, ← hk.2]
  exact List.mem_map_of_mem (List.mem_of_find?_eq_some he)

theorem wrapperSafe_spec {pkg m kind : String} {callees : List String}
    (h : wrapperSafe (pkg, m, kind, callees) = true) (hk : kind ≠ "update") :
    ∃ w, reachWrites pkg callees = some w ∧
      (w.length ≤ 1 ∨ isAlternatives pkg m w = true) ∧ (kind = "ro" → w = []) := by
  simp only [wrapperSafe] at h
  split at h
  · cases h
  · rename_i w hw
    refine ⟨w, hw, ?_⟩
    rw [if_neg (by simpa using hk)] at h
    split at h
    · have hw : w = [] := List.isEmpty_iff.mp h
      exact ⟨.inl (by simp [hw]), fun _ => hw⟩
    · rename_i hro
      exact ⟨by simpa using h, fun hr => absurd hr (by simpa using hro)⟩

/-! ### which `DB` method an operation of the model is -/

def kindName : Model.Wrap → String
  | .update => "update"
  | .roDirect => "ro"
  | .rwDirect => "rw"

/-- `(package, DB method)`; a builder command is the method that runs it -/
def opMethod : Op → String × String
  | .strGet .. => ("rstring", "Get")
  | .strGetMany .. => ("rstring", "GetMany")
  | .strIncr .. => ("rstring", "Incr")
  | .strIncrFloat .. => ("rstring", "IncrFloat")
  | .strSet .. => ("rstring", "Set")
  | .strSetExpires .. => ("rstring", "SetExpires")
  | .strSetMany .. => ("rstring", "SetMany")
  | .strSetWith .. => ("rstring", "SetCmd.Run")
  | .keyCount .. => ("rkey", "Count")
  | .keyDelete .. => ("rkey", "Delete")
  | .keyDeleteAll .. => ("rkey", "DeleteAll")
  | .keyDeleteExpired .. => ("rkey", "DeleteExpired")
  | .keyExists .. => ("rkey", "Exists")
  | .keyExpire .. => ("rkey", "Expire")
  | .keyExpireAt .. => ("rkey", "ExpireAt")
  | .keyGet .. => ("rkey", "Get")
  | .keyKeys .. => ("rkey", "Keys")
  | .keyLen .. => ("rkey", "Len")
  | .keyPersist .. => ("rkey", "Persist")
  | .keyRandom .. => ("rkey", "Random")
  | .keyRename .. => ("rkey", "Rename")
  | .keyRenameNX .. => ("rkey", "RenameNotExists")
  | .keyScan .. => ("rkey", "Scan")
  | .listDelete .. => ("rlist", "Delete")
  | .listDeleteBack .. => ("rlist", "DeleteBack")
  | .listDeleteFront .. => ("rlist", "DeleteFront")
  | .listGet .. => ("rlist", "Get")
  | .listInsertAfter .. => ("rlist", "InsertAfter")
  | .listInsertBefore .. => ("rlist", "InsertBefore")
  | .listLen .. => ("rlist", "Len")
  | .listPopBack .. => ("rlist", "PopBack")
  | .listPopBackPushFront .. => ("rlist", "PopBackPushFront")
  | .listPopFront .. => ("rlist", "PopFront")
  | .listPushBack .. => ("rlist", "PushBack")
  | .listPushFront .. => ("rlist", "PushFront")
  | .listRange .. => ("rlist", "Range")
  | .listSet .. => ("rlist", "Set")
  | .listTrim .. => ("rlist", "Trim")
  | .setAdd .. => ("rset", "Add")
  | .setDelete .. => ("rset", "Delete")
  | .setDiff .. => ("rset", "Diff")
  | .setDiffStore .. => ("rset", "DiffStore")
  | .setExists .. => ("rset", "Exists")
  | .setInter .. => ("rset", "Inter")
  | .setInterStore .. => ("rset", "InterStore")
  | .setItems .. => ("rset", "Items")
  | .setLen .. => ("rset", "Len")
  | .setMove .. => ("rset", "Move")
  | .setPop .. => ("rset", "Pop")
  | .setRandom .. => ("rset", "Random")
  | .setScan .. => ("rset", "Scan")
  | .setUnion .. => ("rset", "Union")
  | .setUnionStore .. => ("rset", "UnionStore")
  | .hashDelete .. => ("rhash", "Delete")
  | .hashExists .. => ("rhash", "Exists")
  | .hashFields .. => ("rhash", "Fields")
  | .hashGet .. => ("rhash", "Get")
  | .hashGetMany .. => ("rhash", "GetMany")
  | .hashIncr .. => ("rhash", "Incr")
  | .hashIncrFloat .. => ("rhash", "IncrFloat")
  | .hashItems .. => ("rhash", "Items")
  | .hashLen .. => ("rhash", "Len")
  | .hashScan .. => ("rhash", "Scan")
  | .hashSet .. => ("rhash", "Set")
  | .hashSetMany .. => ("rhash", "SetMany")
  | .hashSetNotExists .. => ("rhash", "SetNotExists")
  | .hashValues .. => ("rhash", "Values")
  | .zAdd .. => ("rzset", "Add")
  | .zAddMany .. => ("rzset", "AddMany")
  | .zCount .. => ("rzset", "Count")
  | .zDelete .. => ("rzset", "Delete")
  | .zDeleteRank .. => ("rzset", "DeleteCmd.Run")
  | .zDeleteScore .. => ("rzset", "DeleteCmd.Run")
  | .zGetRank .. => ("rzset", "GetRank")
  | .zGetRankRev .. => ("rzset", "GetRankRev")
  | .zGetScore .. => ("rzset", "GetScore")
  | .zIncr .. => ("rzset", "Incr")
  | .zInter .. => ("rzset", "InterCmd.Run")
  | .zInterStore .. => ("rzset", "InterCmd.Store")
  | .zLen .. => ("rzset", "Len")
  | .zRangeRank .. => ("rzset", "RangeWith")
  | .zRangeScore .. => ("rzset", "RangeWith")
  | .zScan .. => ("rzset", "Scan")
  | .zUnion .. => ("rzset", "UnionCmd.Run")
  | .zUnionStore .. => ("rzset", "UnionCmd.Store")

end Redka.Proofs.Fault
