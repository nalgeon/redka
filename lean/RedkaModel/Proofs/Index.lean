/-
  C02 / C05 — index arithmetic.

  List-level transcriptions of what the model's `listRange`, `listTrim`, `listRowAt`, `zRangeRank`,
  `zDeleteRank` and `zRangeScore` compute on the already ordered rows, the classifiers of where a RAW
  SQLite `LIMIT` does not clamp (the raw `limit s, e - s + 1` of the list window — D01, repaired: the
  `bounds` CTE clamps; the raw `limit a, b - a + 1` of the rank queries, which both callers now guard —
  D09, repaired), and the lemmas that the property
  file `RedkaModel/Props/C02idx.lean` is built from.

  The key observation: the Redis slice needs neither its guard nor the clamp of its end — it is
  `take (e - max s 0 + 1) (drop s l)` for every list (`clampSlice_eq`), the shape `sqlLimit` has by
  definition. The clamped window is then the slice by rewriting; for the raw window two prefixes of one
  list are compared (`List.take_eq_take_iff`), a linear-arithmetic statement for every list whatsoever,
  so the raw-form classifiers below are exact, not merely sufficient.
-/
import RedkaModel.Spec.Seq
import RedkaModel.Model.List
import RedkaModel.Model.ZSet

namespace Redka.Proofs.Index

open Redka Redka.Model

/-! ### list-level transcriptions of the model -/

/-- what `listRange` computes on the element list of an existing list whose cached len equals its
length -/
def modelRange {α} (l : List α) (a b : Int) : List α :=
  if Model.rangePrecheck a b then [] else
  match Model.rangeWindow (some (l.length : Int)) a b l with | some w => w | none => []

/-- the rows `listTrim` keeps (everything else is deleted) on an existing list whose cached len
equals its length; `Trim` has no Go-side shortcut -/
def modelTrimKeep {α} (l : List α) (a b : Int) : List α :=
  match Model.rangeWindow (some (l.length : Int)) a b l with | some w => w | none => []

/-- `listRowAt` on a plain list: Go reverses the ordering and asks for `-i-1` when `i < 0` -/
def modelIndex {α} (l : List α) (i : Int) : Option α :=
  let (rows, i) := if i < 0 then (l.reverse, -i - 1) else (l, i)
  if i < 0 then none else rows[i.toNat]?

/-- the position (from the head, in the stored order) of the row `listRowAt` selects -/
def modelIndexPos (n : Nat) (i : Int) : Option Nat :=
  if i < 0 then
    (if (-i - 1).toNat < n then some (n - 1 - (-i - 1).toNat) else none)
  else
    (if i.toNat < n then some i.toNat else none)

/-- `listSet` on a plain list: the row `listRowAt` finds is overwritten in place -/
def modelSet {α} (l : List α) (i : Int) (x : α) : Option (List α) :=
  (modelIndexPos l.length i).map (fun j => l.set j x)

/-- the selection of `zRangeRank`, early return included -/
def modelRankRange {α} (l : List α) (a b : Int) : List α :=
  if a < 0 || b < 0 then [] else if a > b then [] else sqlLimit a (b - a + 1) l

/-- the victims of `zDeleteRank`, both early returns included (`start < 0 || stop < 0`, and, since
the repair of D09, `start > stop`) -/
def modelRankDelete {α} (l : List α) (a b : Int) : List α :=
  if a < 0 || b < 0 then [] else if a > b then [] else sqlLimit a (b - a + 1) l

/-- the three `limit` shapes of `zRangeScore` -/
def modelOffsetCount {α} (l : List α) (offset count : Int) : List α :=
  if offset > 0 && count > 0 then sqlLimit offset count l
  else if count > 0 then sqlLimit 0 count l
  else if offset > 0 then sqlLimit offset (-1) l
  else l

/-! ### classifiers -/

/-- where the RAW statement `limit a, b - a + 1` (both ranks non-negative) is not the Redis rank
slice: negative count, offset inside. No caller reaches it: `zRangeRank` always returned early on
`a > b`, and `zDeleteRank` does since the repair of D09 (this was the D09 classifier). -/
def rawRankLimitDeviates (n : Nat) (a b : Int) : Bool :=
  decide (0 ≤ a ∧ 0 ≤ b ∧ b + 1 < a ∧ a < n)

/-! ### `sqlLimit` and the Redis slice as prefixes of one suffix -/

theorem toNat_max_zero (x : Int) : (max x 0).toNat = x.toNat := by omega

theorem sqlLimit_eq_take {α} (s c : Int) (l : List α) :
    sqlLimit s c l =
      (l.drop (max s 0).toNat).take (if c < 0 then l.length else c.toNat) := by
  unfold sqlLimit
  rw [toNat_max_zero]
  split
  · rw [List.take_of_length_le]
    rw [List.length_drop]; omega
  · rfl

theorem sqlLimit_sublist {α} (s c : Int) (l : List α) : (sqlLimit s c l).Sublist l := by
  unfold sqlLimit
  simp only []
  split
  · exact List.drop_sublist _ _
  · exact (List.take_sublist _ _).trans (List.drop_sublist _ _)

/-- the Redis slice on normalised bounds -/
def clampSlice {α} (l : List α) (s e : Int) : List α :=
  let n : Int := l.length
  let s' := max s 0
  let e' := min e (n - 1)
  if s' > e' then [] else (l.drop s'.toNat).take (e' - s' + 1).toNat

theorem lrange_eq_clampSlice {α} (l : List α) (a b : Int) :
    Spec.lrange l a b = clampSlice l (Spec.normIdx l.length a) (Spec.normIdx l.length b) := rfl

/-- The Redis slice needs neither its guard nor the clamp of its end: `take` stops at the end of the list by
itself, a non-positive count takes nothing, and past the end there is nothing to drop to. -/
theorem clampSlice_eq {α} (l : List α) (s e : Int) :
    clampSlice l s e = (l.drop s.toNat).take (e - max s 0 + 1).toNat := by
  unfold clampSlice
  simp only [toNat_max_zero]
  split
  · by_cases he : e < max s 0
    · rw [show (e - max s 0 + 1).toNat = 0 by omega, List.take_zero]
    · rw [List.drop_eq_nil_of_le (by omega), List.take_nil]
  · by_cases he : e ≤ (l.length : Int) - 1
    · rw [Int.min_eq_left he]
    · rw [Int.min_eq_right (by omega), List.take_of_length_le, List.take_of_length_le] <;>
        rw [List.length_drop] <;> omega

/-- the heart of it: on normalised bounds the clamped LIMIT window IS the Redis slice -/
theorem sqlLimit_eq_clampSlice {α} (l : List α) (s e : Int) :
    sqlLimit (max 0 s) (max 0 (e - max 0 s + 1)) l = clampSlice l s e := by
  rw [clampSlice_eq, sqlLimit, if_neg (by omega), Int.max_comm 0 s, Int.max_comm 0, toNat_max_zero,
    toNat_max_zero]

/-- what D01 was: the RAW window `limit s, e - s + 1` on normalised bounds is the Redis slice exactly when
this is off (`0 ≤ s`: a negative count, read as "no limit", with the start inside the list; `s < 0`: the
count is measured from the unclamped start, so too many rows come back). The
`bounds` CTE now clamps (`max(0, start)`, `max(0, stop - start + 1)`), so no caller reaches the raw form. -/
def rawSliceDeviates (n : Nat) (s e : Int) : Bool :=
  if 0 ≤ s then decide (s < n ∧ e + 1 < s)
  else decide (0 < n ∧ e + 1 ≠ s ∧ e + 1 < n)

theorem raw_sqlLimit_eq_clampSlice_iff {α} (l : List α) (s e : Int) :
    sqlLimit s (e - s + 1) l = clampSlice l s e ↔ rawSliceDeviates l.length s e = false := by
  rw [clampSlice_eq, sqlLimit]
  unfold rawSliceDeviates
  by_cases hs : 0 ≤ s
  · rw [if_pos hs, Int.max_eq_left hs, decide_eq_false_iff_not]
    split
    · -- "no limit" against a count of 0: equal iff the start is past the end
      rw [show (e - s + 1).toNat = 0 by omega, List.take_zero, List.drop_eq_nil_iff]; omega
    · simp only [true_iff]; omega
  · rw [if_neg hs, Int.max_eq_right (by omega), show s.toNat = 0 by omega, List.drop_zero, Int.sub_zero,
      decide_eq_false_iff_not]
    split
    · rw [show (e + 1).toNat = 0 by omega, List.take_zero, List.eq_nil_iff_length_eq_zero]; omega
    · -- two prefixes of `l`, the raw one longer by `-s`
      rw [List.take_eq_take_iff]; omega

theorem bound_some (n x : Int) : Model.bound (some n) x = some (Spec.normIdx n x) := by
  unfold Model.bound Spec.normIdx
  split <;> rfl

/-- with a cached length the `bounds` CTE never yields NULL -/
theorem rangeWindow_some {α} (n a b : Int) (l : List α) :
    Model.rangeWindow (some n) a b l =
      some (sqlLimit (max 0 (Spec.normIdx n a))
        (max 0 (Spec.normIdx n b - max 0 (Spec.normIdx n a) + 1)) l) := by
  unfold Model.rangeWindow
  rw [bound_some, bound_some]

theorem rangeWindow_some_ne_none {α} (n a b : Int) (l : List α) :
    Model.rangeWindow (some n) a b l ≠ none := by
  rw [rangeWindow_some]; exact Option.some_ne_none _

/-- D02 (repaired): without a cached length (`len` is NULL: the key is missing) the length counts as 0 and
the window is defined -/
theorem rangeWindow_ne_none {α} (len : Option Int) (a b : Int) (l : List α) :
    Model.rangeWindow len a b l ≠ none := by
  unfold Model.rangeWindow Model.bound
  by_cases ha : a < 0 <;> by_cases hb : b < 0 <;> simp [ha, hb]

theorem rangeWindow_nil {α} (len : Option Int) (a b : Int) :
    Model.rangeWindow len a b ([] : List α) = some [] := by
  unfold Model.rangeWindow Model.bound
  by_cases ha : a < 0 <;> by_cases hb : b < 0 <;> simp [ha, hb, sqlLimit]

theorem modelTrimKeep_eq {α} (l : List α) (a b : Int) :
    modelTrimKeep l a b =
      sqlLimit (max 0 (Spec.normIdx l.length a))
        (max 0 (Spec.normIdx l.length b - max 0 (Spec.normIdx l.length a) + 1)) l := by
  unfold modelTrimKeep
  rw [rangeWindow_some]

theorem modelRange_eq {α} (l : List α) (a b : Int) :
    modelRange l a b = if Model.rangePrecheck a b then [] else modelTrimKeep l a b := rfl

theorem trim_eq {α} (l : List α) (a b : Int) : modelTrimKeep l a b = Spec.ltrim l a b := by
  rw [modelTrimKeep_eq]
  unfold Spec.ltrim
  rw [lrange_eq_clampSlice]
  exact sqlLimit_eq_clampSlice l _ _

/-- whenever the Go shortcut fires Redis selects nothing too -/
theorem lrange_of_precheck {α} (l : List α) (a b : Int) (h : Model.rangePrecheck a b = true) :
    Spec.lrange l a b = [] := by
  simp only [Model.rangePrecheck, Bool.and_eq_true, Bool.or_eq_true, decide_eq_true_eq] at h
  rw [lrange_eq_clampSlice, clampSlice_eq, List.take_eq_nil_iff]
  left
  unfold Spec.normIdx
  split <;> split <;> omega

theorem range_eq {α} (l : List α) (a b : Int) : modelRange l a b = Spec.lrange l a b := by
  rw [modelRange_eq]
  by_cases hp : Model.rangePrecheck a b = true
  · simp [hp, lrange_of_precheck l a b hp]
  · have hp' : Model.rangePrecheck a b = false := by simpa using hp
    simp only [hp', Bool.false_eq_true, if_false]
    exact trim_eq l a b

/-! ### LINDEX / LSET -/

theorem modelIndex_eq_pos {α} (l : List α) (i : Int) :
    modelIndex l i = (modelIndexPos l.length i).bind (fun j => l[j]?) := by
  unfold modelIndex modelIndexPos
  by_cases hi : i < 0
  · have h2 : ¬ (-i - 1 < 0) := by omega
    simp only [hi, if_true, h2, if_false]
    by_cases hj : (-i - 1).toNat < l.length
    · simp only [hj, if_true, Option.bind_some]
      exact List.getElem?_reverse hj
    · simp only [hj, if_false, Option.bind_none]
      rw [List.getElem?_eq_none]
      rw [List.length_reverse]; omega
  · simp only [hi, if_false]
    by_cases hj : i.toNat < l.length
    · simp [hj]
    · simp only [hj, if_false, Option.bind_none]
      rw [List.getElem?_eq_none]; omega

theorem modelIndexPos_eq (n : Nat) (i : Int) : modelIndexPos n i = Spec.lindexPos n i := by
  unfold modelIndexPos Spec.lindexPos Spec.normIdx
  by_cases hi : i < 0
  · simp only [hi, if_true]
    by_cases hj : (-i - 1).toNat < n
    · rw [if_pos hj, if_neg (by omega)]; congr 1; omega
    · rw [if_neg hj, if_pos (by omega)]
  · simp only [hi, if_false, false_or]
    by_cases hj : i.toNat < n
    · rw [if_pos hj, if_neg (by omega)]
    · rw [if_neg hj, if_pos (by omega)]

theorem lindex_eq_bind {α} (l : List α) (i : Int) :
    Spec.lindex l i = (Spec.lindexPos l.length i).bind (fun j => l[j]?) := by
  unfold Spec.lindex
  cases Spec.lindexPos l.length i <;> rfl

theorem lset_eq_map {α} (l : List α) (i : Int) (x : α) :
    Spec.lset l i x = (Spec.lindexPos l.length i).map (fun j => l.set j x) := by
  unfold Spec.lset
  cases Spec.lindexPos l.length i <;> rfl

/-- `listRowAt` is `modelIndex` on the ordered rows, by definition -/
theorem listRowAt_eq (db : DB) (kid i : Int) :
    Model.listRowAt db kid i = modelIndex (Model.listRows db kid) i := rfl

/-! ### sorted-set ranks and LIMIT offset/count -/

/-- with non-negative ranks the rank slice is the list slice -/
theorem rankSlice_eq_clampSlice {α} (l : List α) {a b : Int} (ha : 0 ≤ a) (hb : 0 ≤ b) :
    Spec.rankSlice l a b = clampSlice l a b := by
  rw [clampSlice_eq, Int.max_eq_left ha]
  unfold Spec.rankSlice
  split
  · rw [show (b - a + 1).toNat = 0 by omega, List.take_zero]
  · rfl

theorem sqlLimit_eq_rankSlice_iff {α} (l : List α) (a b : Int) (ha : 0 ≤ a) (hb : 0 ≤ b) :
    sqlLimit a (b - a + 1) l = Spec.rankSlice l a b ↔ rawRankLimitDeviates l.length a b = false := by
  rw [rankSlice_eq_clampSlice l ha hb, raw_sqlLimit_eq_clampSlice_iff]
  unfold rawSliceDeviates rawRankLimitDeviates
  rw [if_pos ha, decide_eq_false_iff_not, decide_eq_false_iff_not]
  omega

/-! ### the index rules and `map` -/

theorem lindex_map {α β} (f : α → β) (l : List α) (i : Int) :
    Spec.lindex (l.map f) i = (Spec.lindex l i).map f := by
  unfold Spec.lindex
  rw [List.length_map]
  cases Spec.lindexPos l.length i with
  | none => rfl
  | some j => simp [List.getElem?_map]

theorem lindex_nil {α} (i : Int) : Spec.lindex ([] : List α) i = none := by
  unfold Spec.lindex
  cases Spec.lindexPos ([] : List α).length i <;> rfl

theorem sqlLimit_map {α β} (f : α → β) (s c : Int) (l : List α) :
    sqlLimit s c (l.map f) = (sqlLimit s c l).map f := by
  unfold sqlLimit
  simp only []
  split
  · rw [List.map_drop]
  · rw [List.map_take, List.map_drop]

theorem lrange_map {α β} (f : α → β) (l : List α) (a b : Int) :
    Spec.lrange (l.map f) a b = (Spec.lrange l a b).map f := by
  unfold Spec.lrange
  simp only [List.length_map]
  split
  · rfl
  · rw [List.map_take, List.map_drop]

theorem lrange_nil {α} (a b : Int) : Spec.lrange ([] : List α) a b = [] := by
  unfold Spec.lrange
  simp only []
  split <;> simp

end Redka.Proofs.Index
