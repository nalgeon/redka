/-
  Helper lemmas for property C18: on 7-bit text without NUL, the model of SQLite's GLOB
  (`Redka.Glob.sqliteGlob`) and the reference matcher (`Redka.Spec.globSpec`) agree on every
  well-formed pattern in which no class starts with `!`.

  Route: (a) `cstr` and `decode` are the identity on such text; (b) the fuelled parser `parsePatF`
  yields the image of the spec's elements (`tokOf`); (c) `matchToks` on that image is `matchElems`.
-/
import RedkaModel.Sql.Glob
import RedkaModel.Spec.Glob

namespace Redka.Glob
open Redka.Spec

/-- the code points of 7-bit text: the bytes themselves -/
abbrev N (b : Bytes) : List Nat := b.map UInt8.toNat

theorem cstr_of_pos (b : Bytes) (h : ∀ c ∈ b, 0 < c.toNat) : cstr b = b := by
  induction b with
  | nil => rfl
  | cons c b ih =>
    have hc : (c == 0) = false := by
      have := h c (by simp)
      rw [beq_eq_false_iff_ne]; intro e; subst e; simp at this
    simp only [cstr, hc]
    rw [ih (fun x hx => h x (by simp [hx]))]
    simp

theorem decode_of_lt (b : Bytes) (h : ∀ c ∈ b, c.toNat < 0xc0) : decode b = N b := by
  induction b with
  | nil => simp [decode]
  | cons c b ih =>
    have hc := h c (by simp)
    rw [decode]
    simp only [hc, if_true]
    rw [ih (fun x hx => h x (by simp [hx]))]
    simp

theorem cstr_ascii {b : Bytes} (h : Ascii b) : cstr b = b := cstr_of_pos b (fun c hc => (h c hc).1)
theorem decode_ascii {b : Bytes} (h : Ascii b) : decode b = N b :=
  decode_of_lt b (fun c hc => by have := (h c hc).2; omega)


/-! ### the model's image of the spec's pattern elements -/

/-- a spec range `lo-hi` is, for SQLite, the listed byte `lo` followed by the range -/
def itemsOf : Member → List Item
  | .one c => [.one c.toNat]
  | .range lo hi => [.one lo.toNat, .range lo.toNat hi.toNat]

def tokOf : Elem → Tok
  | .star => .star
  | .any => .any
  | .lit c => .lit c.toNat
  | .cls mark ms => .cls mark.isSome (ms.flatMap itemsOf)

def convCls (r : List Member × Bytes) : List Item × List Nat := (r.1.flatMap itemsOf, N r.2)

/-- the text continues a range: `-` followed by something other than `]` -/
def StartsRange (p : Bytes) : Prop := ∃ hi p', p = cDash :: hi :: p' ∧ hi ≠ cClose

theorem toNat_eq_iff (c : UInt8) (k : Nat) (hk : k < 256) : c.toNat = k ↔ c = UInt8.ofNat k := by
  constructor
  · intro h; apply UInt8.toNat_inj.mp; rw [h]; simp; omega
  · intro h; subst h; simp; omega

theorem toNat_ne (c : UInt8) (k : Nat) (hk : k < 256) (h : c ≠ UInt8.ofNat k) : c.toNat ≠ k :=
  fun e => h ((toNat_eq_iff c k hk).mp e)

theorem beq_toNat_false (c : UInt8) (k : Nat) (hk : k < 256) (h : c ≠ UInt8.ofNat k) :
    (c.toNat == k) = false :=
  beq_eq_false_iff_ne.mpr (toNat_ne c k hk h)

theorem cClose_toNat : (cClose : UInt8).toNat = 93 := by decide
theorem cDash_toNat : (cDash : UInt8).toNat = 45 := by decide

theorem members_close (p : Bytes) : members (cClose :: p) = some ([], p) := by
  simp [members]

theorem members_one (c : UInt8) (q : Bytes) (hc : c ≠ cClose) (hq : ¬ StartsRange q) :
    members (c :: q) = (members q).map fun r => (.one c :: r.1, r.2) := by
  rw [members]
  simp only [hc, if_false]
  split
  · rename_i d hi p'
    have : ¬ (d = cDash ∧ hi ≠ cClose) := by
      rintro ⟨rfl, h⟩; exact hq ⟨hi, p', rfl, h⟩
    simp only [this, if_false]
  · rfl

theorem members_range (c hi : UInt8) (p' : Bytes) (hc : c ≠ cClose) (hh : hi ≠ cClose) :
    members (c :: cDash :: hi :: p') = (members p').map fun r => (.range c hi :: r.1, r.2) := by
  rw [members]
  simp [hc, hh]


theorem classLoop_close (p : List Nat) (prior : Nat) : classLoop (cRB :: p) prior = some ([], p) := by
  rw [classLoop.eq_def]; simp

theorem classLoop_one (c : Nat) (q : List Nat) (prior : Nat) (hc : c ≠ cRB)
    (h : ¬ (c = cDASH ∧ 0 < prior)) :
    classLoop (c :: q) prior = (classLoop q c).map fun r => (.one c :: r.1, r.2) := by
  rw [classLoop.eq_def]
  have : (c == cDASH && decide (prior > 0)) = false := by
    simp only [Bool.and_eq_false_iff, beq_eq_false_iff_ne, decide_eq_false_iff_not]
    by_cases e : c = cDASH
    · right; exact fun hp => h ⟨e, hp⟩
    · left; exact e
  simp [hc, this]

theorem classLoop_range (hi : Nat) (p' : List Nat) (prior : Nat) (hp : 0 < prior) (hh : hi ≠ cRB) :
    classLoop (cDASH :: hi :: p') prior
      = (classLoop p' 0).map fun r => (.range prior hi :: r.1, r.2) := by
  rw [classLoop.eq_def]
  simp only [cRB] at hh
  simp [hp, hh, cDASH, cRB]

theorem classLoop_dash_last (q : List Nat) (prior : Nat) (hp : 0 < prior)
    (hq : q = [] ∨ ∃ q', q = cRB :: q') :
    classLoop (cDASH :: q) prior = (classLoop q cDASH).map fun r => (.one cDASH :: r.1, r.2) := by
  rw [classLoop.eq_def]
  rcases hq with rfl | ⟨q', rfl⟩
  · simp [hp, cDASH, cRB, classLoop]
  · simp [hp, cDASH, cRB]

theorem classLoop_members (n : Nat) : ∀ p : Bytes, p.length ≤ n → (∀ c ∈ p, 0 < c.toNat) →
    classLoop (N p) 0 = (members p).map convCls ∧
    ∀ prior, 0 < prior → ¬ StartsRange p → classLoop (N p) prior = (members p).map convCls := by
  induction n with
  | zero =>
    intro p hp _
    have : p = [] := List.eq_nil_of_length_eq_zero (by omega)
    subst this
    simp [classLoop, members]
  | succ n ih =>
    intro p hlen hpos
    match p, hlen, hpos with
    | [], _, _ => simp [classLoop, members]
    | c :: q, hlen, hpos =>
      have hlenq : q.length ≤ n := by simpa using hlen
      have hposq : ∀ x ∈ q, 0 < x.toNat := fun x hx => hpos x (by simp [hx])
      have hcpos : 0 < c.toNat := hpos c (by simp)
      by_cases hc : c = cClose
      · subst hc
        have : N (cClose :: q) = cRB :: N q := by simp [cRB, cClose_toNat]
        simp only [this, classLoop_close, members_close]
        simp [convCls]
      · have hcn : c.toNat ≠ cRB := toNat_ne c 93 (by omega) hc
        -- the common step: `c` is a listed byte and the loop continues with `prior = c`
        have step : (classLoop (N q) c.toNat).map (fun r => (Item.one c.toNat :: r.1, r.2))
            = (members (c :: q)).map convCls := by
          by_cases hs : StartsRange q
          · obtain ⟨hi, p', rfl, hh⟩ := hs
            have hhn : hi.toNat ≠ cRB := toNat_ne hi 93 (by omega) hh
            have e1 : N (cDash :: hi :: p') = cDASH :: hi.toNat :: N p' := by simp [cDASH, cDash_toNat]
            rw [e1, classLoop_range _ _ _ hcpos hhn, members_range _ _ _ hc hh]
            rw [(ih p' (by simp at hlenq; omega) (fun x hx => hposq x (by simp [hx]))).1]
            cases members p' <;> simp [convCls, itemsOf]
          · rw [members_one _ _ hc hs, (ih q hlenq hposq).2 _ hcpos hs]
            cases members q <;> simp [convCls, itemsOf]
        have e0 : N (c :: q) = c.toNat :: N q := by simp
        refine ⟨?_, ?_⟩
        · rw [e0, classLoop_one _ _ _ hcn (by omega)]; exact step
        · intro prior hprior hns
          by_cases hd : c = cDash
          · subst hd
            have hq : q = [] ∨ ∃ q', q = cClose :: q' := by
              rcases q with _ | ⟨hi, p'⟩
              · exact Or.inl rfl
              · right
                by_cases hh : hi = cClose
                · exact ⟨p', by rw [hh]⟩
                · exact absurd ⟨hi, p', rfl, hh⟩ hns
            have hq' : N q = [] ∨ ∃ q', N q = cRB :: q' := by
              rcases hq with rfl | ⟨q', rfl⟩
              · exact Or.inl rfl
              · exact Or.inr ⟨N q', by simp [cRB, cClose_toNat]⟩
            have e1 : N (cDash :: q) = cDASH :: N q := by simp [cDASH, cDash_toNat]
            rw [e1, classLoop_dash_last _ _ hprior hq']
            have : cDASH = (cDash : UInt8).toNat := by simp [cDASH, cDash_toNat]
            rw [this]; exact step
          · have hdn : c.toNat ≠ cDASH := toNat_ne c 45 (by omega) hd
            rw [e0, classLoop_one _ _ _ hcn (fun h => hdn h.1)]; exact step


theorem classLoop_members0 (p : Bytes) (hpos : ∀ c ∈ p, 0 < c.toNat) :
    classLoop (N p) 0 = (members p).map convCls :=
  (classLoop_members p.length p (Nat.le_refl _) hpos).1

/-- after the optional `^`: an optional leading `]`, then the loop -/
def classTail (inv : Bool) (p : List Nat) : Option (Tok × List Nat) :=
  let (first, p) : List Item × List Nat := match p with
    | x :: r => if x == cRB then ([.one cRB], r) else ([], x :: r)
    | [] => ([], [])
  match classLoop p 0 with
  | none => none
  | some (items, rest) => some (.cls inv (first ++ items), rest)

theorem parseClass_eq (p : List Nat) :
    parseClass p = match p with
      | x :: r => if x == cCARET then classTail true r else classTail false (x :: r)
      | [] => classTail false [] := by
  unfold parseClass classTail
  rcases p with _ | ⟨x, r⟩
  · rfl
  · by_cases h : (x == cCARET) = true <;> simp only [h] <;> rfl

def specTail (mark : Option UInt8) (p : Bytes) : Option (Elem × Bytes) :=
  let (lead, p) : List Member × Bytes := match p with
    | c :: r => if c = cClose then ([.one cClose], r) else ([], p)
    | [] => ([], [])
  (members p).map fun (ms, rest) => (.cls mark (lead ++ ms), rest)

theorem readClass_eq (p : Bytes) :
    readClass p = match p with
      | c :: r => if c = cCaret ∨ c = cBang then specTail (some c) r else specTail none (c :: r)
      | [] => specTail none [] := by
  unfold readClass specTail
  rcases p with _ | ⟨x, r⟩
  · rfl
  · by_cases h : x = cCaret ∨ x = cBang <;> simp only [h] <;> rfl

theorem classTail_specTail (mark : Option UInt8) (p : Bytes) (hpos : ∀ c ∈ p, 0 < c.toNat) :
    classTail mark.isSome (N p) = (specTail mark p).map fun r => (tokOf r.1, N r.2) := by
  unfold classTail specTail
  rcases p with _ | ⟨x, r⟩
  · simp [classLoop, members]
  · by_cases hx : x = cClose
    · subst hx
      have hr : ∀ c ∈ r, 0 < c.toNat := fun c hc => hpos c (by simp [hc])
      have : N (cClose :: r) = cRB :: N r := by simp [cRB, cClose_toNat]
      rw [this]
      simp only [beq_self_eq_true, if_true]
      rw [classLoop_members0 r hr]
      cases members r <;> simp [convCls, tokOf, itemsOf, cRB, cClose_toNat]
    · have hxn : (x.toNat == cRB) = false := beq_toNat_false x 93 (by omega) hx
      have : N (x :: r) = x.toNat :: N r := by simp
      rw [this]
      simp only [hxn, hx, if_false, Bool.false_eq_true]
      rw [← this, classLoop_members0 _ hpos]
      cases members (x :: r) <;> simp [convCls, tokOf]

theorem parseClass_readClass (p : Bytes) (hpos : ∀ c ∈ p, 0 < c.toNat)
    (hb : p.head? ≠ some cBang) :
    parseClass (N p) = (readClass p).map fun r => (tokOf r.1, N r.2) := by
  rw [parseClass_eq, readClass_eq]
  rcases p with _ | ⟨x, r⟩
  · exact classTail_specTail none [] hpos
  · have hxb : x ≠ cBang := by simpa using hb
    have hr : ∀ c ∈ r, 0 < c.toNat := fun c hc => hpos c (by simp [hc])
    have : N (x :: r) = x.toNat :: N r := by simp
    rw [this]
    by_cases hx : x = cCaret
    · subst hx
      have : ((cCaret : UInt8).toNat == cCARET) = true := by decide
      simp only [this, if_true, true_or]
      exact classTail_specTail (some cCaret) r hr
    · have hxn : (x.toNat == cCARET) = false := beq_toNat_false x 94 (by omega) hx
      simp only [hxn, hx, hxb, or_self, if_false, Bool.false_eq_true]
      rw [← this]
      exact classTail_specTail none (x :: r) hpos


/-! ### the text after a class is a proper suffix; `lex` without the skip counter -/

theorem members_suffix (n : Nat) : ∀ p : Bytes, p.length ≤ n → ∀ ms rest,
    members p = some (ms, rest) → ∃ t, p = t ++ rest ∧ t ≠ [] := by
  induction n with
  | zero =>
    intro p hp ms rest h
    have : p = [] := List.eq_nil_of_length_eq_zero (by omega)
    subst this; simp [members] at h
  | succ n ih =>
    intro p hlen ms rest h
    rcases p with _ | ⟨c, q⟩
    · simp [members] at h
    · have hlenq : q.length ≤ n := by simpa using hlen
      by_cases hc : c = cClose
      · subst hc
        rw [members_close] at h
        simp only [Option.some.injEq, Prod.mk.injEq] at h
        exact ⟨[cClose], by simp [h.2], by simp⟩
      · by_cases hs : StartsRange q
        · obtain ⟨hi, p', rfl, hh⟩ := hs
          rw [members_range _ _ _ hc hh] at h
          obtain ⟨r, hm, hr⟩ := Option.map_eq_some_iff.mp h
          obtain ⟨t, ht, _⟩ := ih p' (by simp at hlenq; omega) r.1 r.2 hm
          exact ⟨c :: cDash :: hi :: t, by rw [← (Prod.mk.inj hr).2]; simp [← ht], by simp⟩
        · rw [members_one _ _ hc hs] at h
          obtain ⟨r, hm, hr⟩ := Option.map_eq_some_iff.mp h
          obtain ⟨t, ht, _⟩ := ih q hlenq r.1 r.2 hm
          exact ⟨c :: t, by rw [← (Prod.mk.inj hr).2]; simp [← ht], by simp⟩

theorem specTail_suffix (mark : Option UInt8) (p : Bytes) (e : Elem) (rest : Bytes)
    (h : specTail mark p = some (e, rest)) : ∃ t, p = t ++ rest ∧ t ≠ [] := by
  unfold specTail at h
  rcases p with _ | ⟨x, r⟩
  · simp [members] at h
  · by_cases hx : x = cClose
    · simp only [hx, if_true] at h
      obtain ⟨m, hm, hr⟩ := Option.map_eq_some_iff.mp h
      obtain ⟨t, ht, _⟩ := members_suffix _ r (Nat.le_refl _) m.1 m.2 hm
      exact ⟨x :: t, by rw [← (Prod.mk.inj hr).2]; simp [← ht], by simp⟩
    · simp only [hx, if_false] at h
      obtain ⟨m, hm, hr⟩ := Option.map_eq_some_iff.mp h
      obtain ⟨t, ht, hne⟩ := members_suffix _ (x :: r) (Nat.le_refl _) m.1 m.2 hm
      exact ⟨t, by rw [← (Prod.mk.inj hr).2]; exact ht, hne⟩

theorem readClass_suffix (p : Bytes) (e : Elem) (rest : Bytes)
    (h : readClass p = some (e, rest)) : ∃ t, p = t ++ rest := by
  rw [readClass_eq] at h
  rcases p with _ | ⟨x, r⟩
  · obtain ⟨t, ht, _⟩ := specTail_suffix _ _ _ _ h; exact ⟨t, ht⟩
  · by_cases hx : x = cCaret ∨ x = cBang
    · simp only [hx, if_true] at h
      obtain ⟨t, ht, _⟩ := specTail_suffix _ _ _ _ h
      exact ⟨x :: t, by simp [← ht]⟩
    · simp only [hx, if_false] at h
      obtain ⟨t, ht, _⟩ := specTail_suffix _ _ _ _ h; exact ⟨t, ht⟩

theorem lex_skip (p : Bytes) : ∀ k, lex p k = lex (p.drop k) 0 := by
  induction p with
  | nil => intro k; simp [lex]
  | cons c p ih =>
    intro k
    cases k with
    | zero => rfl
    | succ k => simp only [lex, List.drop_succ_cons]; exact ih k

theorem lex_nil : lex [] 0 = some [] := rfl

theorem cQuest_ne_cStar : (cQuest : UInt8) ≠ cStar := by decide
theorem cOpen_ne_cStar : (cOpen : UInt8) ≠ cStar := by decide
theorem cOpen_ne_cQuest : (cOpen : UInt8) ≠ cQuest := by decide

theorem lex_star (p : Bytes) : lex (cStar :: p) 0 = (lex p 0).map (.star :: ·) := by
  simp [lex]

theorem lex_quest (p : Bytes) : lex (cQuest :: p) 0 = (lex p 0).map (.any :: ·) := by
  simp [lex, cQuest_ne_cStar]

theorem lex_lit (c : UInt8) (p : Bytes) (h1 : c ≠ cStar) (h2 : c ≠ cQuest) (h3 : c ≠ cOpen) :
    lex (c :: p) 0 = (lex p 0).map (.lit c :: ·) := by
  simp [lex, h1, h2, h3]

theorem lex_open_none (p : Bytes) (h : readClass p = none) : lex (cOpen :: p) 0 = none := by
  simp [lex, h, cOpen_ne_cStar, cOpen_ne_cQuest]

theorem lex_open (p : Bytes) (e : Elem) (rest : Bytes) (h : readClass p = some (e, rest)) :
    lex (cOpen :: p) 0 = (lex rest 0).map (e :: ·) := by
  obtain ⟨t, rfl⟩ := readClass_suffix p e rest h
  simp [lex, h, lex_skip (t ++ rest), cOpen_ne_cStar, cOpen_ne_cQuest]


/-! ### the pattern parsers agree -/

theorem specTail_mark (mark : Option UInt8) (p : Bytes) (e : Elem) (rest : Bytes)
    (h : specTail mark p = some (e, rest)) : ∃ ms, e = .cls mark ms := by
  unfold specTail at h
  split at h
  rename_i lead p' _
  cases hm : members p' with
  | none => simp [hm] at h
  | some m =>
    simp only [hm, Option.map_some, Option.some.injEq, Prod.mk.injEq] at h
    exact ⟨_, h.1.symm⟩

theorem readClass_noBang (p : Bytes) (e : Elem) (rest : Bytes)
    (h : readClass p = some (e, rest)) (hb : e.bangNegated = false) : p.head? ≠ some cBang := by
  rcases p with _ | ⟨x, r⟩
  · simp
  · intro hx
    have hx : x = cBang := by simpa using hx
    subst hx
    rw [readClass_eq] at h
    simp only [or_true, if_true] at h
    obtain ⟨ms, rfl⟩ := specTail_mark _ _ _ _ h
    simp [Elem.bangNegated] at hb

/-- One element of the pattern: the reference lexer reads `e` and goes on with `rest`, the model's
parser reads `tokOf e` and goes on with `N rest`; then the two agree on the whole if they agree on
`rest`. -/
theorem parsePatF_step {f : Nat} {p rest : Bytes} {e : Elem} {es : List Elem} {l : List Nat}
    (ih : ∀ es', lex rest 0 = some es' → (∀ e ∈ es', e.bangNegated = false) →
      parsePatF f (N rest) = some (es'.map tokOf))
    (hlex : lex p 0 = (lex rest 0).map (e :: ·))
    (hpar : e.bangNegated = false → parsePatF (f + 1) l = (parsePatF f (N rest)).map (tokOf e :: ·))
    (hl : lex p 0 = some es) (hb : ∀ e ∈ es, e.bangNegated = false) :
    parsePatF (f + 1) l = some (es.map tokOf) := by
  rw [hlex] at hl
  cases hq : lex rest 0 with
  | none => simp [hq] at hl
  | some es' =>
    simp only [hq, Option.map_some, Option.some.injEq] at hl
    subst hl
    rw [hpar (hb e (by simp)), ih es' hq (fun e he => hb e (by simp [he]))]
    rfl

theorem parsePatF_lex (f : Nat) : ∀ (p : Bytes) (es : List Elem), p.length ≤ f →
    (∀ c ∈ p, 0 < c.toNat) → lex p 0 = some es → (∀ e ∈ es, e.bangNegated = false) →
    parsePatF f (N p) = some (es.map tokOf) := by
  induction f with
  | zero =>
    intro p es hlen _ hl _
    have : p = [] := List.eq_nil_of_length_eq_zero (by omega)
    subst this
    simp only [lex_nil, Option.some.injEq] at hl
    subst hl; rfl
  | succ f ih =>
    intro p es hlen hpos hl hb
    rcases p with _ | ⟨c, q⟩
    · simp only [lex_nil, Option.some.injEq] at hl
      subst hl; rfl
    · have hlenq : q.length ≤ f := by simpa using hlen
      have hposq : ∀ x ∈ q, 0 < x.toNat := fun x hx => hpos x (by simp [hx])
      have e0 : N (c :: q) = c.toNat :: N q := by simp
      rw [e0]
      by_cases h1 : c = cStar
      · subst h1
        have hc : ((cStar : UInt8).toNat == cSTAR) = true := by decide
        exact parsePatF_step (ih q · hlenq hposq) (lex_star q) (fun _ => by simp [parsePatF, hc, tokOf]) hl hb
      have n1 := beq_toNat_false c 42 (by omega) h1
      by_cases h2 : c = cQuest
      · subst h2
        have hc : ((cQuest : UInt8).toNat == cQM) = true := by decide
        exact parsePatF_step (ih q · hlenq hposq) (lex_quest q)
          (fun _ => by simp [parsePatF, cSTAR, n1, hc, tokOf]) hl hb
      have n2 := beq_toNat_false c 63 (by omega) h2
      by_cases h3 : c = cOpen
      · subst h3
        have hc : ((cOpen : UInt8).toNat == cLB) = true := by decide
        cases hr : readClass q with
        | none => rw [lex_open_none q hr] at hl; simp at hl
        | some r =>
          obtain ⟨e, rest⟩ := r
          obtain ⟨t, ht⟩ := readClass_suffix q e rest hr
          have hlenr : rest.length ≤ f := by
            have : q.length = t.length + rest.length := by rw [ht]; simp
            omega
          have hposr : ∀ x ∈ rest, 0 < x.toNat := fun x hx => hposq x (by rw [ht]; simp [hx])
          refine parsePatF_step (ih rest · hlenr hposr) (lex_open q e rest hr) (fun hnb => ?_) hl hb
          have hpc := parseClass_readClass q hposq (readClass_noBang q e rest hr hnb)
          rw [hr] at hpc
          simp only [Option.map_some] at hpc
          simp [parsePatF, cSTAR, cQM, n1, n2, hc, hpc]
      have n3 := beq_toNat_false c 91 (by omega) h3
      exact parsePatF_step (ih q · hlenq hposq) (lex_lit c q h1 h2 h3)
        (fun _ => by simp [parsePatF, cSTAR, cQM, cLB, n1, n2, n3, tokOf]) hl hb

theorem parsePat_lex (p : Bytes) (es : List Elem) (hpos : ∀ c ∈ p, 0 < c.toNat)
    (hl : lex p 0 = some es) (hb : ∀ e ∈ es, e.bangNegated = false) :
    parsePat (N p) = some (es.map tokOf) := by
  unfold parsePat
  exact parsePatF_lex _ p es (by simp) hpos hl hb


/-! ### the matchers agree -/

theorem matchToks_star (ts : List Tok) (s : Bytes) :
    matchToks (.star :: ts) (N s) = (suffixes s).any fun s' => matchToks ts (N s') := by
  induction s with
  | nil => simp [matchToks, suffixes]
  | cons c s ih =>
    have : N (c :: s) = c.toNat :: N s := by simp
    rw [this, matchToks, ih]
    simp [suffixes]

theorem hit_itemsOf (c : UInt8) (m : Member) (h : m.ordered = true) :
    (itemsOf m).any (Item.hit c.toNat) = m.has c := by
  cases m with
  | one x =>
    simp only [itemsOf, List.any_cons, List.any_nil, Bool.or_false, Item.hit, Member.has]
    rw [Bool.eq_iff_iff]; simp [UInt8.toNat_inj]
  | range lo hi =>
    simp only [Member.ordered, decide_eq_true_eq, UInt8.le_iff_toNat_le] at h
    simp only [itemsOf, List.any_cons, List.any_nil, Bool.or_false, Item.hit, Member.has]
    rw [Bool.eq_iff_iff]
    simp only [Bool.or_eq_true, beq_iff_eq, Bool.and_eq_true, decide_eq_true_eq,
      UInt8.le_iff_toNat_le]
    omega

theorem hit_flatMap (c : UInt8) (ms : List Member) (h : ms.all Member.ordered = true) :
    (ms.flatMap itemsOf).any (Item.hit c.toNat) = ms.any (·.has c) := by
  induction ms with
  | nil => rfl
  | cons m ms ih =>
    simp only [List.all_cons, Bool.and_eq_true] at h
    simp [List.flatMap_cons, List.any_append, hit_itemsOf c m h.1, ih h.2]

theorem matchToks_matchElems (es : List Elem) (h : es.all Elem.ordered = true) :
    ∀ s : Bytes, matchToks (es.map tokOf) (N s) = matchElems es s := by
  induction es with
  | nil => intro s; cases s <;> simp [matchToks, matchElems]
  | cons e es ih =>
    simp only [List.all_cons, Bool.and_eq_true] at h
    have ih := ih h.2
    intro s
    cases e with
    | star =>
      simp only [List.map_cons, tokOf, matchToks_star, matchElems]
      congr 1; funext s'; exact ih s'
    | any =>
      cases s with
      | nil => simp [tokOf, matchToks, matchElems]
      | cons c s => simp [tokOf, matchToks, matchElems, ih s]
    | lit x =>
      cases s with
      | nil => simp [tokOf, matchToks, matchElems]
      | cons c s =>
        simp only [List.map_cons, tokOf, matchToks, matchElems, ih s]
        congr 1
        rw [Bool.eq_iff_iff]; simp only [beq_iff_eq, UInt8.toNat_inj]; exact eq_comm
    | cls mark ms =>
      cases s with
      | nil => simp [tokOf, matchToks, matchElems]
      | cons c s =>
        simp only [List.map_cons, tokOf, matchToks, matchElems, ih s]
        rw [hit_flatMap c ms h.1]


/-! ### SQLite's GLOB on 7-bit text -/

theorem sqliteGlob_ascii {p s : Bytes} (hp : Ascii p) (hs : Ascii s) :
    sqliteGlob p s = match parsePat (N p) with
      | none => false
      | some ts => matchToks ts (N s) := by
  unfold sqliteGlob
  rw [cstr_ascii hp, cstr_ascii hs, decode_ascii hp, decode_ascii hs]
  rfl

theorem sqliteGlob_eq_globSpec {p s : Bytes} (hp : Ascii p) (hs : Ascii s)
    (hw : WellFormed p) (hb : NoBangClass p) : sqliteGlob p s = globSpec p s := by
  rw [sqliteGlob_ascii hp hs]
  unfold globSpec
  unfold WellFormed wellFormed at hw
  unfold NoBangClass noBangClass at hb
  cases hl : lex p 0 with
  | none => simp [hl] at hw
  | some es =>
    simp only [hl] at hw hb ⊢
    have hb' : ∀ e ∈ es, e.bangNegated = false := by
      intro e he
      have := List.all_eq_true.mp hb e he
      simpa using this
    rw [parsePat_lex p es (fun c hc => (hp c hc).1) hl hb']
    exact matchToks_matchElems es hw s

/-! ### patterns without metacharacters, and `*` -/

theorem lex_noMeta (s : Bytes) (h : NoMeta s) : lex s 0 = some (s.map .lit) := by
  induction s with
  | nil => rfl
  | cons c s ih =>
    have hc := h c (by simp)
    rw [lex_lit c s hc.1 hc.2.1 hc.2.2, ih (fun x hx => h x (by simp [hx]))]
    rfl

theorem matchElems_lits (s : Bytes) : ∀ t : Bytes, matchElems (s.map .lit) t = true ↔ t = s := by
  induction s with
  | nil => intro t; cases t <;> simp [matchElems]
  | cons c s ih =>
    intro t
    cases t with
    | nil => simp [matchElems]
    | cons d t => simp [matchElems, ih t]

theorem wellFormed_noMeta (s : Bytes) (h : NoMeta s) : WellFormed s := by
  unfold WellFormed wellFormed
  rw [lex_noMeta s h]
  simp [Elem.ordered]

theorem noBangClass_noMeta (s : Bytes) (h : NoMeta s) : NoBangClass s := by
  unfold NoBangClass noBangClass
  rw [lex_noMeta s h]
  simp [Elem.bangNegated]

theorem globSpec_noMeta (s t : Bytes) (h : NoMeta s) : globSpec s t = true ↔ t = s := by
  unfold globSpec
  rw [lex_noMeta s h]
  exact matchElems_lits s t

theorem matchToks_star_nil (s : List Nat) : matchToks [.star] s = true := by
  induction s with
  | nil => simp [matchToks]
  | cons c s ih => rw [matchToks, ih]; simp

/-! ### evaluating the model on closed terms

The model's `decode`, `classLoop` and `matchToks` are defined by well-founded recursion, which
`decide` cannot unfold. Two ways around it. -/

theorem sqliteGlob_of_globSpec {p s : Bytes} {b : Bool}
    (h : Ascii p ∧ Ascii s ∧ WellFormed p ∧ NoBangClass p ∧ globSpec p s = b) : sqliteGlob p s = b :=
  (sqliteGlob_eq_globSpec h.1 h.2.1 h.2.2.1 h.2.2.2.1).trans h.2.2.2.2

/-- closes `sqliteGlob p s = b` for closed 7-bit `p`, `s` with no class starting with `!`: through the
agreement theorem, whose hypotheses and the structurally recursive `globSpec` are evaluated together -/
macro "glob_eval" : tactic =>
  `(tactic| exact Redka.Glob.sqliteGlob_of_globSpec (by decide +kernel))

/-- closes `sqliteGlob [..] [..] = b` for explicit byte lists by unfolding the model's equations -/
macro "glob_unfold" : tactic =>
  `(tactic| simp [Redka.Glob.sqliteGlob, Redka.Glob.cstr, Redka.Glob.decode, Redka.Glob.parsePat,
      Redka.Glob.parsePatF, Redka.Glob.parseClass, Redka.Glob.classLoop, Redka.Glob.matchToks,
      Redka.Glob.Item.hit, Redka.Glob.cSTAR, Redka.Glob.cQM, Redka.Glob.cLB, Redka.Glob.cRB,
      Redka.Glob.cCARET, Redka.Glob.cDASH])

end Redka.Glob
