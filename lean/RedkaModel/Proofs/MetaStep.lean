/-
  C19 — assembly: the classifiers `KnownMeta` (K1, K2), `KnownStoreErr` (K3), `KnownMetaTx`; the
  summary `StepSum` of what one call did to the key rows (`tx_sum`, `db_sum`); from the summary to
  the judgement: every repository method, at `Tx` and at `DB` level, satisfies `Spec.metaOK`
  outside the classifiers.
-/
import RedkaModel.Proofs.MetaStr
import RedkaModel.Proofs.MetaKey
import RedkaModel.Proofs.MetaList
import RedkaModel.Proofs.MetaSet
import RedkaModel.Proofs.MetaHash
import RedkaModel.Proofs.MetaZSet
import RedkaModel.Proofs.MetaStore
import RedkaModel.Proofs.NoTrace

namespace Redka.MetaProofs

open Redka Redka.Model Redka.Spec Redka.InvP Redka.Dispatch

/-- Constantly `true`: the metadata rules are proved for every constructor of `Op`. The theorems of
`Props/C19` carry the hypothesis `Covered op = true` so that each says in its statement which
operations it covers; `covered_all` discharges it. -/
def Covered : Op → Bool
  | _ => true

/-- the child table of the storing family -/
def storeTy : Op → Int
  | .zInterStore .. | .zUnionStore .. => TZSet
  | _ => TSet

/-- a set store with an empty source list: the method returns `(0, nil)` at once -/
def emptyStore : Op → Bool
  | .setDiffStore _ [] | .setInterStore _ [] | .setUnionStore _ [] => true
  | _ => false

/-- The narrowest classifier of the `DB`-level steps on which `Spec.metaOK` is false. Both classes
concern the clause "the destination of a successful store starts a new history (version ≥ 1,
mtime = now)" and neither is reachable by the driver:
 * K1 — a set store with an empty source list succeeds without touching anything, so a
   destination row that is not already fresh stays so (the driver never judges it: the outcome is
   `nothingToDo`, hence traceless);
 * K2 — the destination name is held by a stored row whose expiry has passed (D05: the reset
   phase skips it, the upsert bumps it) and whose version is negative, so that `version + 1 < 1`
   (versions start at 1 and only grow: unreachable from the empty database). -/
def KnownMeta (op : Op) (now : Int) (db : DB) : Bool :=
  match storeDest op with
  | none => false
  | some d =>
    !isErr (Model.dbRun op now db).out &&
    (match db.findKey d with
     | none => false
     | some r =>
       if emptyStore op then !(decide (1 ≤ r.version) && r.mtime == now)
       else !r.live now && decide (r.version < 0))

/-- K3 — inside a caller-managed transaction, a store that fails after the reset phase (the bulk
insert hits `NOT NULL`/`UNIQUE`, e.g. `ZUNIONSTORE` summing `+inf` and `-inf`) leaves the live
destination emptied with version 1: its version went backwards (was ≥ 2), or did not grow
although its value changed (was 1 and non-empty). At `DB` level the wrapper rolls back. -/
def KnownStoreErr (op : Op) (now : Int) (db : DB) : Bool :=
  match storeDest op with
  | none => false
  | some d =>
    isErr (Model.tx true op now db).out &&
    (match db.liveKeyT d (storeTy op) now with
     | none => false
     | some r => decide (2 ≤ r.version) || (decide (r.version = 1) && destHasChildren db (storeTy op) r.id))

def KnownMetaTx (op : Op) (now : Int) (db : DB) : Bool :=
  KnownMeta op now db || KnownStoreErr op now db

/-- What one call did to the key rows, in one of three shapes:
 * `eff` — a method that is not a store, or a store on the handle whose error was rolled back:
   every row is untouched (children included) or was written at the time of the call with a
   larger version;
 * `exp` — `Expire`/`ExpireAt`/`Persist`: version and expiry of one row, nothing else;
 * `store` — a storing method with destination `d`: `StoreSum` (nothing happened, or the rows not
   named `d` are untouched and the row named `d` is classified by `DestCase`). -/
inductive StepSum (now : Int) (op : Op) (db : DB) (res : Res) : Prop
  | eff (h : Eff now db res.db) (hs : storeDest op = none ∨ isErr res.out = true)
  | exp (h : ExpStep db res.db) (hs : storeDest op = none)
  | store (d : Bytes) (hd : storeDest op = some d)
      (h : StoreSum now d (storeTy op) db res (emptyStore op = true))

theorem StoreSum.congr {now : Int} {d : Bytes} {ty : Int} {db : DB} {res : Res} {E E' : Prop}
    (h : StoreSum now d ty db res E) (he : E ↔ E') : StoreSum now d ty db res E' := by
  rcases h with ⟨h1, h2⟩ | ⟨h1, h2⟩
  · exact .inl ⟨h1, h2.imp id he.1⟩
  · exact .inr ⟨fun e => h1 (he.2 e), h2⟩

theorem store_sum_tx {db : DB} (h : WF db) {op : Op} {d : Bytes} (b : Bool) (now : Int)
    (hd : storeDest op = some d) :
    StoreSum now d (storeTy op) db (Model.tx b op now db) (emptyStore op = true) := by
  cases op with
  | setDiffStore d' ks | setInterStore d' ks | setUnionStore d' ks =>
    cases hd; exact (setStore_sum h d ks now _).congr (by cases ks <;> simp [emptyStore])
  | zInterStore d' ks agg =>
    cases hd; exact (zCombineStore_sum h d ks agg true now).congr (by simp [emptyStore])
  | zUnionStore d' ks agg =>
    cases hd; exact (zCombineStore_sum h d ks agg false now).congr (by simp [emptyStore])
  | _ => cases hd

theorem tx_sum (b : Bool) (op : Op) (now : Int) (db : DB) (h : WF db) :
    StepSum now op db (Model.tx b op now db) := by
  cases hd : storeDest op with
  | some d => exact .store d hd (store_sum_tx h b now hd)
  | none =>
    cases op
    case keyExpire k ttl => exact .exp (keyExpire_step k ttl now) rfl
    case keyExpireAt k t => exact .exp (keyExpireAt_step k t now) rfl
    case keyPersist k => exact .exp (keyPersist_step k now) rfl
    -- every other method that is not a store is an `Eff` step
    all_goals refine .eff ?_ (.inl hd)
    case strIncr k d => exact strIncr_eff h k d now
    case strIncrFloat k d => exact strIncrFloat_eff h k d now
    case strSet k v => exact strSet_eff h k v none now
    case strSetExpires k v ttl => exact strSet_eff h k v _ now
    case strSetMany items => exact strSetMany_eff items now h
    case strSetWith k v o => exact strSetWith_eff h k v o now
    case keyDelete ks => exact keyDelete_eff h ks now
    case keyDeleteAll => exact keyDeleteAll_eff h b now
    case keyDeleteExpired n => exact keyDeleteExpired_eff h n now
    case keyRename k nk => exact keyRename_eff h k nk now
    case keyRenameNX k nk => exact keyRenameNX_eff h k nk now
    case listDelete k e => exact listDelete_eff k e now
    case listDeleteBack k e n => exact listDeleteN_eff k e n true now
    case listDeleteFront k e n => exact listDeleteN_eff k e n false now
    case listInsertAfter k p e => exact listInsert_eff k p e true now
    case listInsertBefore k p e => exact listInsert_eff k p e false now
    case listPopBack k => exact (listPop_eff k false now).1
    case listPopFront k => exact (listPop_eff k true now).1
    case listPopBackPushFront s d => exact listPopBackPushFront_eff s d now
    case listPushBack k e => exact listPush_eff k e false now
    case listPushFront k e => exact listPush_eff k e true now
    case listSet k i e => exact listSet_eff k i e now
    case listTrim k a b => exact listTrim_eff k a b now
    case setAdd k es => exact (setAdd_eff k es now).1
    case setDelete k es => exact (setDelete_eff k es now).1
    case setMove s d e => exact setMove_eff h s d e now
    case setPop k o => exact setPop_eff k o now
    case hashDelete k fs => exact hashDelete_eff k fs now
    case hashIncr k f d => exact hashIncr_eff k f d now
    case hashIncrFloat k f d => exact hashIncrFloat_eff k f d now
    case hashSet k f v => exact hashSet_eff k f v now
    case hashSetMany k items => exact hashSetMany_eff k items now
    case hashSetNotExists k f v => exact hashSetNotExists_eff k f v now
    case zAdd k e s => exact zAdd_eff k e s now
    case zAddMany k items => exact zAddMany_eff k items now
    case zDelete k es => exact zDelete_eff k es now
    case zDeleteRank k a b => exact zDeleteRank_eff k a b now
    case zDeleteScore k lo hi => exact zDeleteScore_eff k lo hi now
    case zIncr k e d => exact zIncr_eff k e d now
    case setDiffStore | setInterStore | setUnionStore | zInterStore | zUnionStore => cases hd
    -- the reads
    all_goals
      rw [Proofs.NoTrace.read_notrace b _ now db rfl]
      exact Eff.refl _ _

theorem StepSum.mono {now : Int} {op : Op} {db : DB} {res : Res} (hs : StepSum now op db res)
    (hm : MonoClock now db) : MonoClock now res.db := by
  cases hs with
  | eff h _ => exact h.mono hm
  | exp h _ => exact h.mono hm
  | store d hd h =>
    rcases h with ⟨hdb, _⟩ | ⟨_, _, hall⟩
    · rw [hdb]; exact hm
    · intro r' hr'
      by_cases hk : r'.key = d
      · have := ((hall r' hr').2 hk).1; omega
      · exact hm r' ((hall r' hr').1 hk).1

/-- every row that is not named like the destination of a store meets the requirement of a
continued history — no classifier is needed for these rows -/
theorem StepSum.plain {now : Int} {op : Op} {db : DB} {res : Res} (hs : StepSum now op db res)
    (h : WF db) :
    ∀ r' ∈ res.db.keys, storeDest op ≠ some r'.key → PlainRowM now db res.db r' := by
  intro r' hr' hne
  cases hs with
  | eff he _ => exact he.plain h.uId r' hr'
  | exp he _ => exact he.plain h.uId r' hr'
  | store d hd hst =>
    rcases hst with ⟨hdb, _⟩ | ⟨_, _, hall⟩
    · rw [hdb] at hr' ⊢
      exact plain_of_mem h.uId hr' (ChildEq.refl _ _)
    · have hk : r'.key ≠ d := fun e => hne (by rw [hd, e])
      obtain ⟨hmem, hc⟩ := (hall r' hr').1 hk
      exact plain_of_mem h.uId hmem hc

theorem StepSum.storeSum {now : Int} {op : Op} {db : DB} {res : Res} {d : Bytes} (hs : StepSum now op db res)
    (hd : storeDest op = some d) (hE : isErr res.out = false) :
    StoreSum now d (storeTy op) db res (emptyStore op = true) := by
  cases hs with
  | eff _ hs' =>
    rcases hs' with hs' | hs'
    · rw [hs'] at hd; cases hd
    · rw [hs'] at hE; cases hE
  | exp _ hs' => rw [hs'] at hd; cases hd
  | store d' hd' hst => cases hd'.symm.trans hd; exact hst

/-- the step is in none of the classes, as propositions -/
structure Unclassified (op : Op) (now : Int) (db : DB) (res : Res) : Prop where
  /-- not K1 (an empty store that succeeds leaves a destination that is fresh already) and not K2
  (a store onto an expired-but-stored row finds a version ≥ 0) -/
  k12 : ∀ d, storeDest op = some d → isErr res.out = false → ∀ r, db.findKey d = some r →
    (emptyStore op = true → FreshRow now r) ∧
    (emptyStore op = false → r.live now = false → 0 ≤ r.version)
  /-- not K3: a store that reports an error found a live destination with version ≤ 1, and
  without child rows if the version is 1 -/
  k3 : ∀ d, storeDest op = some d → isErr res.out = true → ∀ r,
    db.liveKeyT d (storeTy op) now = some r →
    r.version ≤ 1 ∧ (r.version = 1 → destHasChildren db (storeTy op) r.id = false)

theorem rowOK_of_plain {now : Int} {op : Op} {db : DB} {res : Res}
    (hs : storeDest op = none ∨ isErr res.out = true)
    (hp : ∀ r' ∈ res.db.keys, PlainRow now db res.db r') :
    ∀ r' ∈ res.db.keys, RowOK op now db res.db res.out r' := by
  intro r' hr'
  unfold RowOK
  have hcond : ¬ (isErr res.out = false ∧ storeDest op = some r'.key) := by
    rintro ⟨hE, hd⟩
    rcases hs with hs | hs
    · rw [hs] at hd; cases hd
    · rw [hs] at hE; cases hE
  rw [if_neg hcond]
  exact hp r' hr'

theorem StepSum.rowOK {now : Int} {op : Op} {db : DB} {res : Res} (hs : StepSum now op db res)
    (h : WF db) (hm : MonoClock now db) (hu : Unclassified op now db res) :
    ∀ r' ∈ res.db.keys, RowOK op now db res.db res.out r' := by
  cases hs with
  | eff he hs' => exact rowOK_of_plain hs' (fun r' hr' => (he.plain h.uId r' hr').plain hm)
  | exp he hs' => exact rowOK_of_plain (.inl hs') (fun r' hr' => (he.plain h.uId r' hr').plain hm)
  | store d hd hst =>
    intro r' hr'
    by_cases hk : r'.key = d
    · -- the row named like the destination
      unfold RowOK
      rcases hst with ⟨hdb, hor⟩ | ⟨hnE, _, hall⟩
      · rw [hdb] at hr' ⊢
        split
        · rename_i hc
          rcases hor with hor | hor
          · rw [hor.1] at hc; cases hc.1
          · exact (hu.k12 d hd hc.1 r' (hk ▸ findKey_of_mem h hr')).1 hor
        · exact (plain_of_mem h.uId hr' (ChildEq.refl _ _)).plain hm
      · obtain ⟨hmt, hcase⟩ := (hall r' hr').2 hk
        split
        · rename_i hc
          cases hcase with
          | new _ hv => exact ⟨by omega, hmt⟩
          | stale r hr hkr hid hty hv hlive =>
            have := (hu.k12 d hd hc.1 r (hkr ▸ findKey_of_mem h hr)).2 (by simpa using hnE) hlive
            exact ⟨by omega, hmt⟩
          | live r0 hl hsm _ => exact ⟨by rw [hsm.version]; exact Int.le_refl _, hmt⟩
        · -- a store that reported an error
          rename_i hc
          have hE : isErr res.out = true := by simpa [hd, hk] using hc
          cases hcase with
          | new hfree hv =>
            exact (plain_of_bumped h.uId ⟨hmt, .inr ⟨fun r hr => (hfree r hr).2, by omega⟩⟩).plain hm
          | stale r hr hkr hid hty hv hlive =>
            exact (plain_of_bumped h.uId ⟨hmt, .inl ⟨r, hr, hid.symm, hty.symm, by omega⟩⟩).plain hm
          | live r0 hl hsm hval =>
            obtain ⟨hr0, hk0, _⟩ := liveKeyT_some hl
            obtain ⟨hv1, hv2⟩ := hu.k3 d hd hE r0 hl
            rw [hE] at hval
            unfold PlainRow
            rw [hsm.id, hsm.key, rowAt_of_mem h.uId hr0]
            have hver : r'.version = 1 := hsm.version
            have hmt0 := hm r0 hr0
            refine ⟨by omega, by omega, hsm.ty.symm, fun hch => ?_, fun _ => hmt⟩
            rcases hch with hch | hch
            · have : r0.version ≠ 1 := fun e1 => hch (hval rfl (hv2 e1))
              omega
            · exact absurd hsm.etime.symm hch
    · have hne : storeDest op ≠ some r'.key := fun e => hk (Option.some.inj (hd.symm.trans e)).symm
      unfold RowOK
      rw [if_neg (fun hc => hne hc.2)]
      exact ((StepSum.store d hd hst).plain h r' hr' hne).plain hm

theorem store_is_update {op : Op} {d : Bytes} (h : storeDest op = some d) : wrapOf op = .update := by
  cases op <;> first | rfl | cases h

theorem dbRun_out_store {op : Op} {d : Bytes} (h : storeDest op = some d) (now : Int) (db : DB) :
    (Model.dbRun op now db).out = (Model.tx true op now db).out := by
  rw [dbRun_of_update (store_is_update h), update_out]

theorem k12_of_known {op : Op} {now : Int} {db : DB} {out : Out}
    (ho : ∀ d, storeDest op = some d → out = (Model.dbRun op now db).out)
    (hk : KnownMeta op now db = false) :
    ∀ d, storeDest op = some d → isErr out = false → ∀ r, db.findKey d = some r →
    (emptyStore op = true → FreshRow now r) ∧
    (emptyStore op = false → r.live now = false → 0 ≤ r.version) := by
  intro d hd hE r hf
  unfold KnownMeta at hk
  rw [hd] at hk
  simp only [← ho d hd, hE, hf, Bool.not_false, Bool.true_and] at hk
  refine ⟨fun he => ?_, fun he hl => ?_⟩
  · simp only [he, if_true, Bool.not_eq_false', Bool.and_eq_true, decide_eq_true_eq, beq_iff_eq] at hk
    exact hk
  · simp only [he, Bool.false_eq_true, if_false, hl, Bool.not_false, Bool.true_and,
      decide_eq_false_iff_not] at hk
    omega

theorem unclassified_tx {op : Op} {now : Int} {db : DB} (hk : KnownMetaTx op now db = false) :
    Unclassified op now db (Model.tx true op now db) := by
  unfold KnownMetaTx at hk
  rw [Bool.or_eq_false_iff] at hk
  refine ⟨k12_of_known (fun d hd => (dbRun_out_store hd now db).symm) hk.1, ?_⟩
  intro d hd hE r hl
  have hk := hk.2
  unfold KnownStoreErr at hk
  rw [hd] at hk
  simp only [hE, hl, Bool.true_and, Bool.or_eq_false_iff, decide_eq_false_iff_not,
    Bool.and_eq_false_iff] at hk
  refine ⟨by omega, fun e1 => ?_⟩
  rcases hk.2 with h2 | h2
  · exact absurd e1 h2
  · exact h2

theorem db_sum (op : Op) (now : Int) (db : DB) (h : WF db) :
    StepSum now op db (Model.dbRun op now db) := by
  refine dbRun_cases (P := StepSum now op db) op now db (fun _ _ _ => tx_sum true op now db h)
    (fun _ e ho => ?_) (fun _ => tx_sum false op now db h)
  exact .eff (Eff.refl _ _) (.inr (by show isErr (Model.tx true op now db).out = true; rw [ho]; rfl))

theorem StepSum.cont {now : Int} {op : Op} {db : DB} {res : Res} (hsum : StepSum now op db res) (h : WF db)
    {i : Int} {k : Bytes} {r r' : KeyRow} (hs : storeDest op ≠ some k) (hr : rowAt db i k = some r)
    (hr' : rowAt res.db i k = some r') : ContRowM now db res.db r r' := by
  obtain ⟨hm', hi', hk'⟩ := rowAt_some hr'
  have hp := hsum.plain h r' hm' (by rw [hk']; exact hs)
  unfold PlainRowM at hp
  rw [hi', hk', hr] at hp
  exact hp

theorem step_cont {op : Op} {now : Int} {db : DB} (h : db.Inv) {i : Int} {k : Bytes} {r r' : KeyRow}
    (hs : storeDest op ≠ some k) (hr : rowAt db i k = some r)
    (hr' : rowAt (Model.dbRun op now db).db i k = some r') :
    ContRowM now db (Model.dbRun op now db).db r r' :=
  (db_sum op now db (WF.of_inv h)).cont (WF.of_inv h) hs hr hr'

theorem db_mono (op : Op) (now : Int) (db : DB) (h : db.Inv) (hm : MonoClock now db) :
    MonoClock now (Model.dbRun op now db).db := (db_sum op now db (WF.of_inv h)).mono hm

theorem tx_mono (op : Op) (now : Int) (db : DB) (h : db.Inv) (hm : MonoClock now db) :
    MonoClock now (Model.tx true op now db).db := (tx_sum true op now db (WF.of_inv h)).mono hm

theorem metaOK_tx (op : Op) (now : Int) (db : DB) (h : db.Inv) (hm : MonoClock now db)
    (hk : KnownMetaTx op now db = false) :
    metaOK op now db (Model.tx true op now db).db (Model.tx true op now db).out = true := by
  rw [metaOK_iff]
  exact (tx_sum true op now db (WF.of_inv h)).rowOK (WF.of_inv h) hm (unclassified_tx hk)

/-- on the handle a store that reports an error was rolled back -/
theorem db_store_err {op : Op} {d : Bytes} {now : Int} {db : DB} (hd : storeDest op = some d)
    (hE : isErr (Model.dbRun op now db).out = true) : (Model.dbRun op now db).db = db :=
  dbRun_cases (P := fun res => isErr res.out = true → res.db = db) op now db
    (fun _ v ho hE => by rw [ho] at hE; cases hE) (fun _ _ _ _ => rfl)
    (fun hw => absurd (store_is_update hd) hw) hE

theorem metaOK_db (op : Op) (now : Int) (db : DB) (h : db.Inv) (hm : MonoClock now db)
    (hk : KnownMeta op now db = false) :
    metaOK op now db (Model.dbRun op now db).db (Model.dbRun op now db).out = true := by
  rw [metaOK_iff]
  have hw := WF.of_inv h
  have hsum := db_sum op now db hw
  cases hE : isErr (Model.dbRun op now db).out
  · exact hsum.rowOK hw hm ⟨k12_of_known (fun _ _ => rfl) hk, fun _ _ hE' => by rw [hE] at hE'; cases hE'⟩
  · -- K3 does not arise: the destination row of a failed store is the row of the pre-state
    refine rowOK_of_plain (.inr hE) (fun r' hr' => ?_)
    by_cases hd : storeDest op = some r'.key
    · rw [db_store_err hd hE] at hr' ⊢
      exact (plain_of_mem hw.uId hr' (ChildEq.refl _ _)).plain hm
    · exact (hsum.plain hw r' hr' hd).plain hm

end Redka.MetaProofs
