/-
  The `rlist` table against the abstraction: what deleting rows, inserting a row and overwriting
  an element do to the ordered rows of one list (`Model.listRows`), the part of the C11 invariant
  the list proofs need (`DB.LWF`), and the generic "afterwards the name stores this typed value" step
  (`Stored`, the `Written` of Proofs/Str.lean for any type).
-/
import RedkaModel.Proofs.KeyRef
import RedkaModel.Proofs.ListOrd

namespace Redka.Model

open Redka Redka.Scan Redka.ListOrd

/-! ### ordered rows of one list, on the bare table -/

/-- `listRows` as a function of the table only -/
def rowsOf (L : List ListRow) (kid : Int) : List ListRow :=
  sortBy (fun a b => decide (a.pos < b.pos)) (L.filter (fun r => r.kid == kid))

theorem listRows_eq_rowsOf (db : DB) (kid : Int) : listRows db kid = rowsOf db.lists kid := rfl

/-- `(kid, pos)` is unique -/
def PosNodup (L : List ListRow) : Prop := (L.map (fun r => (r.kid, r.pos))).Nodup

/-- strictly increasing positions -/
def PosSorted (l : List ListRow) : Prop := l.Pairwise (fun a b => decide (a.pos < b.pos) = true)

theorem PosSorted.lt {l : List ListRow} (h : PosSorted l) :
    l.Pairwise (fun a b => a.pos < b.pos) :=
  List.Pairwise.imp (fun h => of_decide_eq_true h) h

theorem mem_rowsOf {L : List ListRow} {kid : Int} {x : ListRow} :
    x ∈ rowsOf L kid ↔ x ∈ L ∧ x.kid = kid := by
  unfold rowsOf
  rw [mem_sortBy, List.mem_filter]
  simp

theorem length_rowsOf (L : List ListRow) (kid : Int) :
    (rowsOf L kid).length = (L.filter (fun r => r.kid == kid)).length := length_sortBy _ _

theorem PosNodup.filter_pos {L : List ListRow} (h : PosNodup L) (kid : Int) :
    ((L.filter (fun r => r.kid == kid)).map (·.pos)).Nodup := by
  have h1 : ((L.filter (fun r => r.kid == kid)).map (fun r => (r.kid, r.pos))).Nodup :=
    List.Nodup.sublist (List.Sublist.map _ List.filter_sublist) h
  have h2 : (L.filter (fun r => r.kid == kid)).map (fun r => (r.kid, r.pos))
      = ((L.filter (fun r => r.kid == kid)).map (·.pos)).map (fun p => (kid, p)) := by
    rw [List.map_map]
    apply List.map_congr_left
    intro x hx
    have := (List.mem_filter.1 hx).2
    have hk : x.kid = kid := by simpa using this
    simp [hk]
  rw [h2] at h1
  unfold List.Nodup at h1 ⊢
  rw [List.pairwise_map] at h1
  exact List.Pairwise.imp (fun hne he => hne (by rw [he])) h1

theorem rowsOf_sorted {L : List ListRow} (h : PosNodup L) (kid : Int) : PosSorted (rowsOf L kid) :=
  pairwise_sortBy (fun r : ListRow => r.pos) strictTotal_dy _ (h.filter_pos kid)

/-- the ordered rows are the only strictly increasing list with these members -/
theorem rowsOf_eq {L : List ListRow} (h : PosNodup L) {kid : Int} {l : List ListRow}
    (hs : PosSorted l) (hm : ∀ z, z ∈ l ↔ z ∈ L ∧ z.kid = kid) : rowsOf L kid = l := by
  apply pairwise_ext (fun r : ListRow => r.pos) strictTotal_dy (rowsOf_sorted h kid) hs
  intro z
  rw [mem_rowsOf, hm]

theorem PosSorted.nodup {l : List ListRow} (h : PosSorted l) : l.Nodup :=
  nodup_of_pairwise (fun r : ListRow => r.pos) strictTotal_dy h

theorem PosSorted.pos_inj {l : List ListRow} (h : PosSorted l) :
    ∀ x ∈ l, ∀ y ∈ l, x.pos = y.pos → x = y :=
  key_inj_of_pairwise (fun r : ListRow => r.pos) strictTotal_dy h

theorem PosSorted.filter {l : List ListRow} (h : PosSorted l) (q : ListRow → Bool) :
    PosSorted (l.filter q) := List.Pairwise.filter _ h

theorem PosSorted.sublist {l l' : List ListRow} (h : PosSorted l) (hs : l'.Sublist l) :
    PosSorted l' := List.Pairwise.sublist hs h

/-! ### deleting rows -/

theorem PosNodup.filter {L : List ListRow} (h : PosNodup L) (q : ListRow → Bool) :
    PosNodup (L.filter q) :=
  List.Nodup.sublist (List.Sublist.map _ List.filter_sublist) h

theorem rowsOf_delete {L : List ListRow} (h : PosNodup L) (kid : Int) (V : List Dyadic) :
    rowsOf (L.filter (fun r => !(r.kid == kid && V.contains r.pos))) kid
      = (rowsOf L kid).filter (fun x => !V.contains x.pos) := by
  apply rowsOf_eq (h.filter _) ((rowsOf_sorted h kid).filter _)
  intro z
  rw [List.mem_filter, mem_rowsOf, List.mem_filter]
  constructor
  · rintro ⟨⟨h1, h2⟩, h3⟩
    exact ⟨⟨h1, by simpa [h2] using h3⟩, h2⟩
  · rintro ⟨⟨h1, h3⟩, h2⟩
    exact ⟨⟨h1, h2⟩, by simpa [h2] using h3⟩

theorem filter_other_delete (L : List ListRow) {kid id' : Int} (hne : id' ≠ kid) (V : List Dyadic) :
    (L.filter (fun r => !(r.kid == kid && V.contains r.pos))).filter (fun r => r.kid == id')
      = L.filter (fun r => r.kid == id') := by
  rw [List.filter_filter]
  apply List.filter_congr
  intro x _
  by_cases hx : x.kid = id'
  · have : ¬ x.kid = kid := fun h => hne (hx ▸ h)
    simp [this]
  · simp [hx]

/-! ### inserting a row -/

theorem PosNodup.append {L : List ListRow} (h : PosNodup L) {kid : Int} {p : Dyadic} (e : Bytes)
    (hp : ∀ x ∈ L, x.kid = kid → x.pos ≠ p) : PosNodup (L ++ [{ kid := kid, pos := p, elem := e }]) := by
  unfold PosNodup
  refine nodup_map_append_one _ h fun x hx he => ?_
  simp only [Prod.mk.injEq] at he
  exact hp x hx he.1 he.2

theorem rowsOf_insert {L : List ListRow} {kid : Int} {p : Dyadic} {e : Bytes}
    (h' : PosNodup (L ++ [{ kid := kid, pos := p, elem := e }]))
    {pre post : List ListRow} (hsplit : rowsOf L kid = pre ++ post) (hs : PosSorted (pre ++ post))
    (hpre : ∀ x ∈ pre, x.pos < p) (hpost : ∀ x ∈ post, p < x.pos) :
    rowsOf (L ++ [{ kid := kid, pos := p, elem := e }]) kid
      = pre ++ ({ kid := kid, pos := p, elem := e } : ListRow) :: post := by
  apply rowsOf_eq h'
  · have hs' := List.pairwise_append.1 hs
    unfold PosSorted
    rw [List.pairwise_append]
    refine ⟨hs'.1, List.Pairwise.cons ?_ hs'.2.1, ?_⟩
    · intro x hx; exact decide_eq_true (hpost x hx)
    · intro a ha b hb
      rcases List.mem_cons.1 hb with rfl | hb
      · exact decide_eq_true (hpre a ha)
      · exact hs'.2.2 a ha b hb
  · intro z
    have hm : z ∈ pre ++ post ↔ z ∈ L ∧ z.kid = kid := by rw [← hsplit, mem_rowsOf]
    simp only [List.mem_append, List.mem_cons, List.not_mem_nil, or_false] at hm ⊢
    constructor
    · rintro (h1 | h1 | h1)
      · exact ⟨Or.inl (hm.1 (Or.inl h1)).1, (hm.1 (Or.inl h1)).2⟩
      · subst h1; exact ⟨Or.inr rfl, rfl⟩
      · exact ⟨Or.inl (hm.1 (Or.inr h1)).1, (hm.1 (Or.inr h1)).2⟩
    · rintro ⟨h1 | h1, h2⟩
      · rcases hm.2 ⟨h1, h2⟩ with h3 | h3
        · exact Or.inl h3
        · exact Or.inr (Or.inr h3)
      · exact Or.inr (Or.inl h1)

theorem filter_other_append (L : List ListRow) {kid id' : Int} (hne : id' ≠ kid) (p : Dyadic) (e : Bytes) :
    (L ++ [({ kid := kid, pos := p, elem := e } : ListRow)]).filter (fun r => r.kid == id')
      = L.filter (fun r => r.kid == id') := by
  rw [List.filter_append]
  have : ¬ kid = id' := fun h => hne h.symm
  simp [this]

theorem filter_self_append_length (L : List ListRow) (kid : Int) (p : Dyadic) (e : Bytes) :
    ((L ++ [({ kid := kid, pos := p, elem := e } : ListRow)]).filter (fun r => r.kid == kid)).length
      = (L.filter (fun r => r.kid == kid)).length + 1 := by
  rw [List.filter_append]
  simp

/-! ### overwriting an element -/

/-- `update rlist set elem = ? where kid = ? and pos = ?` -/
def setElemRow (kid : Int) (p : Dyadic) (e : Bytes) (x : ListRow) : ListRow :=
  if x.kid == kid && x.pos == p then { x with elem := e } else x

theorem setElemRow_kid (kid : Int) (p : Dyadic) (e : Bytes) (x : ListRow) :
    (setElemRow kid p e x).kid = x.kid := by unfold setElemRow; split <;> rfl

theorem setElemRow_pos (kid : Int) (p : Dyadic) (e : Bytes) (x : ListRow) :
    (setElemRow kid p e x).pos = x.pos := by unfold setElemRow; split <;> rfl

theorem rowsOf_setElem (L : List ListRow) (kid : Int) (p : Dyadic) (e : Bytes) :
    rowsOf (L.map (setElemRow kid p e)) kid
      = (rowsOf L kid).map (fun x => if x.pos == p then { x with elem := e } else x) := by
  unfold rowsOf
  rw [List.filter_map]
  have hf : ((fun r : ListRow => r.kid == kid) ∘ setElemRow kid p e) = (fun r => r.kid == kid) := by
    funext x; simp [Function.comp, setElemRow_kid]
  rw [hf, sortBy_map (fun a b => decide (a.pos < b.pos)) _ _ (by intro a b; simp [setElemRow_pos])]
  apply List.map_congr_left
  intro x hx
  have hk : x.kid = kid := by
    have := (mem_sortBy _ x _).1 hx
    simpa using (List.mem_filter.1 this).2
  simp [setElemRow, hk]

theorem PosNodup.setElem {L : List ListRow} (h : PosNodup L) (kid : Int) (p : Dyadic) (e : Bytes) :
    PosNodup (L.map (setElemRow kid p e)) := by
  unfold PosNodup at h ⊢
  rw [List.map_map]
  have : ((fun r : ListRow => (r.kid, r.pos)) ∘ setElemRow kid p e) = (fun r => (r.kid, r.pos)) := by
    funext x; simp [Function.comp, setElemRow_kid, setElemRow_pos]
  rw [this]; exact h

theorem filter_setElem (L : List ListRow) (kid : Int) (p : Dyadic) (e : Bytes) (id' : Int) :
    ((L.map (setElemRow kid p e)).filter (fun r => r.kid == id')).length
      = (L.filter (fun r => r.kid == id')).length := by
  rw [List.filter_map]
  have hf : ((fun r : ListRow => r.kid == id') ∘ setElemRow kid p e) = (fun r => r.kid == id') := by
    funext x; simp [Function.comp, setElemRow_kid]
  rw [hf, List.length_map]

theorem filter_other_setElem (L : List ListRow) {kid id' : Int} (hne : id' ≠ kid) (p : Dyadic) (e : Bytes) :
    (L.map (setElemRow kid p e)).filter (fun r => r.kid == id') = L.filter (fun r => r.kid == id') := by
  rw [List.filter_map]
  have hf : ((fun r : ListRow => r.kid == id') ∘ setElemRow kid p e) = (fun r => r.kid == id') := by
    funext x; simp [Function.comp, setElemRow_kid]
  rw [hf]
  conv => rhs; rw [← List.map_id (L.filter fun r => r.kid == id')]
  apply List.map_congr_left
  intro x hx
  have hk : x.kid = id' := by simpa using (List.mem_filter.1 hx).2
  have : ¬ x.kid = kid := fun h => hne (hk ▸ h)
  simp [setElemRow, this]

end Redka.Model

/-! ### the invariant part the list proofs use -/

namespace Redka.DB

open Redka Redka.Model

/-- `DB.WF` plus the three facts about `rlist` in the C11 audit: the cached length of a list key
is its number of rows, `(kid, pos)` is unique, every row has an owner. -/
structure LWF (db : DB) : Prop where
  wf : db.WF
  listLen : ∀ r ∈ db.keys, r.ty = TList →
    r.len = some (((db.lists.filter (fun x => x.kid == r.id)).length : Nat) : Int)
  listPos : PosNodup db.lists
  listOwner : ∀ x ∈ db.lists, ∃ r ∈ db.keys, r.id = x.kid

theorem Inv.lwf {db : DB} (h : db.Inv) : db.LWF := by
  refine ⟨Inv.wf h, ?_, ?_, ?_⟩
  · unfold Inv invB at h
    simp only [Bool.and_eq_true] at h
    obtain ⟨⟨hk, _⟩, _⟩ := h
    unfold keysOk at hk
    rw [List.all_eq_true] at hk
    intro r hr hty
    have := hk r hr
    simp only [Bool.and_eq_true, decide_eq_true_eq] at this
    have h2 := this.2
    have hns : ¬ (r.ty == TString) = true := by simp [hty, TList, TString]
    rw [if_neg hns] at h2
    have h3 : r.len = some (db.childCount r) := by simpa using h2
    rw [h3]
    simp [childCount, hty]
  · unfold Inv invB at h
    simp only [Bool.and_eq_true] at h
    obtain ⟨_, hu⟩ := h
    unfold uniqueOk at hu
    simp only [Bool.and_eq_true, nodupB_iff] at hu
    exact hu.1.1.1.1.1.1.2
  · unfold Inv invB at h
    simp only [Bool.and_eq_true] at h
    obtain ⟨⟨_, ho⟩, _⟩ := h
    unfold ownersOk at ho
    simp only [Bool.and_eq_true] at ho
    have hl := ho.1.1.1.2
    rw [List.all_eq_true] at hl
    intro x hx
    have := hl x hx
    unfold ownerOk at this
    obtain ⟨r, hr, hc⟩ := List.any_eq_true.1 this
    simp only [Bool.and_eq_true, beq_iff_eq] at hc
    exact ⟨r, hr, hc.1⟩

theorem LWF.rows_sorted {db : DB} (h : db.LWF) (kid : Int) : PosSorted (listRows db kid) :=
  rowsOf_sorted h.listPos kid

theorem LWF.len_eq {db : DB} (h : db.LWF) {r : KeyRow} (hr : r ∈ db.keys) (ht : r.ty = TList) :
    r.len = some (((listRows db r.id).length : Nat) : Int) := by
  rw [h.listLen r hr ht, listRows_eq_rowsOf, length_rowsOf]

/-- a fresh key id owns no rows -/
theorem LWF.no_rows_fresh {db : DB} (h : db.LWF) :
    db.lists.filter (fun x => x.kid == db.nextKeyId) = [] := by
  rw [List.filter_eq_nil_iff]
  intro x hx hk
  obtain ⟨r, hr, hid⟩ := h.listOwner x hx
  have hk : x.kid = db.nextKeyId := by simpa using hk
  exact nextKeyId_fresh db r hr (by rw [hid, hk])

end Redka.DB

/-! ### afterwards a name stores a typed value -/

namespace Redka.Spec

open Redka Redka.Model Redka.DB

/-- `db2` is `db` with the name `k` stored as row `r` holding the value `v`; nothing else is
different as far as the abstraction can see -/
structure Stored (db db2 : DB) (k : Bytes) (r : KeyRow) (v : SVal) : Prop where
  find : ∀ k', db2.findKey k' = if k == k' then some r else db.findKey k'
  val : absVal db2 r = some v
  frame : ∀ r' ∈ db.keys, r'.key ≠ k → absVal db2 r' = absVal db r'

theorem Stored.abs {db db2 : DB} {k : Bytes} {r : KeyRow} {v : SVal} (hw : db.LWF) (hw2 : db2.LWF)
    (h : Stored db db2 k r v) (now : Int) :
    abs now db2 = purge now (put (abs now db) k ⟨v, r.etime⟩) :=
  abs_of_written hw.wf.names hw2.wf.names h.find h.val h.frame now

theorem absVal_list {db : DB} {r : KeyRow} (h : r.ty = TList) :
    absVal db r = some (.list ((listRows db r.id).map (·.elem))) := by
  simp [absVal, h, TString, TList]

end Redka.Spec
