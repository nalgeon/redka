/-
  `internal/rzset` against the abstract keyspace, part 1: the (score, member) order, canonical
  sorting, the part of the invariant the sorted-set proofs use (`DB.ZWF`), the member-to-score map
  a key's rows stand for (`zAssoc`), what a name can be at a given time (`zholder`) and the
  refinement of every read.
-/
import RedkaModel.Proofs.SetLib
import RedkaModel.Props.C02idx

namespace Redka.ZSetRef

open Redka Redka.Scan Redka.Spec Redka.Model Redka.DB

/-! ### the smaller of two under a strict total order -/

section pick
variable {κ : Type} {lt : κ → κ → Bool}

theorem _root_.Redka.Scan.StrictTotal.asymm (ho : StrictTotal lt) {x y : κ} (h : lt x y = true) :
    lt y x = false := by
  cases h' : lt y x with
  | false => rfl
  | true => rw [← ho.irrefl x, ← ho.trans _ _ _ h h']

theorem _root_.Redka.Scan.StrictTotal.flip (ho : StrictTotal lt) : StrictTotal (fun x y => lt y x) :=
  ⟨ho.irrefl, fun _ _ _ h1 h2 => ho.trans _ _ _ h2 h1, fun _ _ h1 h2 => ho.connected _ _ h2 h1⟩

/-- the smaller of two (the first on a tie); `Score.min` is `pick Score.lt`, `Score.max` is `pick`
of the converse order -/
def pick (lt : κ → κ → Bool) (x y : κ) : κ := if lt y x then y else x

theorem pick_rc (ho : StrictTotal lt) (z a b : κ) :
    pick lt (pick lt z a) b = pick lt (pick lt z b) a := by
  -- if `x` is below `z` and `y` is not, then `y` is not below `x`
  have above : ∀ {x y}, lt x z = true → lt y z = false → lt y x = false := by
    intro x y hx hy
    cases h : lt y x with
    | false => rfl
    | true => rw [← hy, ho.trans _ _ _ h hx]
  unfold pick
  cases haz : lt a z <;> cases hbz : lt b z <;>
    simp only [haz, hbz, if_true, if_false, Bool.false_eq_true]
  · rw [above hbz haz]; rfl
  · rw [above haz hbz]; rfl
  · cases hba : lt b a with
    | true => rw [ho.asymm hba]; rfl
    | false =>
      cases hab : lt a b with
      | true => rfl
      | false => exact ho.connected _ _ hab hba

theorem pick_idem (ho : StrictTotal lt) (z a : κ) : pick lt (pick lt z a) a = pick lt z a := by
  unfold pick
  cases haz : lt a z <;> simp only [haz, ho.irrefl, if_true, if_false, Bool.false_eq_true]

end pick

/-! ### the order on scores -/

namespace Score

theorem lt_irrefl (a : Score) : Score.lt a a = false := by
  cases a <;> simp [Score.lt]

theorem lt_trans {a b c : Score} (h1 : Score.lt a b = true) (h2 : Score.lt b c = true) :
    Score.lt a c = true := by
  cases a <;> cases b <;> cases c <;> simp_all [Score.lt]
  grind

theorem lt_connected {a b : Score} (h1 : Score.lt a b = false) (h2 : Score.lt b a = false) : a = b := by
  cases a <;> cases b <;> simp_all [Score.lt]
  grind

theorem strictTotal : StrictTotal Score.lt :=
  ⟨lt_irrefl, fun _ _ _ => lt_trans, fun _ _ => lt_connected⟩

theorem lt_asymm {a b : Score} (h : Score.lt a b = true) : Score.lt b a = false :=
  strictTotal.asymm h

end Score

/-- `order by score, elem` is a strict total order on (member, score) pairs -/
theorem strictTotal_zLt : StrictTotal Spec.zLt where
  irrefl := by
    intro a
    simp [Spec.zLt, Score.lt_irrefl, bytesLt_irrefl]
  trans := by
    intro a b c h1 h2
    simp only [Spec.zLt, Bool.or_eq_true, Bool.and_eq_true, beq_iff_eq] at h1 h2 ⊢
    rcases h1 with h1 | ⟨e1, h1⟩ <;> rcases h2 with h2 | ⟨e2, h2⟩
    · exact Or.inl (Score.lt_trans h1 h2)
    · exact Or.inl (e2 ▸ h1)
    · exact Or.inl (e1 ▸ h2)
    · exact Or.inr ⟨e1.trans e2, bytesLt_trans _ _ _ h1 h2⟩
  connected := by
    intro a b h1 h2
    simp only [Spec.zLt, Bool.or_eq_false_iff, Bool.and_eq_false_iff] at h1 h2
    have hs : a.2 = b.2 := Score.lt_connected h1.1 h2.1
    have hb1 : bytesLt a.1 b.1 = false := by
      rcases h1.2 with h | h
      · simp [hs] at h
      · exact h
    have hb2 : bytesLt b.1 a.1 = false := by
      rcases h2.2 with h | h
      · simp [hs] at h
      · exact h
    exact Prod.ext (bytesLt_connected _ _ hb1 hb2) hs

/-! ### sorting is canonical -/

section sort
variable {β : Type}

theorem pairwise_unique {lt : β → β → Bool} (ho : StrictTotal lt) {a b : List β}
    (ha : a.Pairwise (fun x y => lt x y = true)) (hb : b.Pairwise (fun x y => lt x y = true))
    (h : ∀ x, x ∈ a ↔ x ∈ b) : a = b := by
  have nodup : ∀ {l : List β}, l.Pairwise (fun x y => lt x y = true) → l.Nodup :=
    fun hl => hl.imp (fun hxy he => by rw [he, ho.irrefl] at hxy; cases hxy)
  refine List.Perm.eq_of_pairwise (fun x y _ _ hxy hyx => ?_) ha hb
    ((List.perm_ext_iff_of_nodup (nodup ha) (nodup hb)).2 h)
  rw [ho.asymm hxy] at hyx
  cases hyx

theorem nodup_map_filter {α : Type} {f : α → β} {l : List α} (h : (l.map f).Nodup) (p : α → Bool) :
    ((l.filter p).map f).Nodup :=
  h.sublist (List.Sublist.map _ List.filter_sublist)

theorem sortBy_congr_mem {lt : β → β → Bool} (ho : StrictTotal lt) {a b : List β} (ha : a.Nodup)
    (hb : b.Nodup) (h : ∀ x, x ∈ a ↔ x ∈ b) : sortBy lt a = sortBy lt b :=
  pairwise_unique ho (pairwise_sortBy id ho a (by rwa [List.map_id]))
    (pairwise_sortBy id ho b (by rwa [List.map_id])) (fun x => by rw [mem_sortBy, mem_sortBy, h])

theorem find?_eq_some_iff_of_unique {l : List β} {p : β → Bool}
    (hu : ∀ a ∈ l, ∀ b ∈ l, p a = true → p b = true → a = b) (a : β) :
    l.find? p = some a ↔ a ∈ l ∧ p a = true := by
  constructor
  · intro h
    exact ⟨List.mem_of_find?_eq_some h, List.find?_some h⟩
  · rintro ⟨hm, hp⟩
    cases hf : l.find? p with
    | none =>
      rw [List.find?_eq_none] at hf
      exact absurd hp (hf a hm)
    | some b =>
      rw [hu a hm b (List.mem_of_find?_eq_some hf) hp (List.find?_some hf)]

theorem find?_congr_mem {l l' : List β} {p : β → Bool}
    (hu : ∀ a ∈ l, ∀ b ∈ l, p a = true → p b = true → a = b) (hm : ∀ x, x ∈ l' ↔ x ∈ l) :
    l'.find? p = l.find? p := by
  have hu' : ∀ a ∈ l', ∀ b ∈ l', p a = true → p b = true → a = b :=
    fun a ha b hb => hu a ((hm a).1 ha) b ((hm b).1 hb)
  apply Option.ext
  intro a
  rw [find?_eq_some_iff_of_unique hu, find?_eq_some_iff_of_unique hu', hm]

end sort

/-! ### what the invariant gives for sorted sets -/

end Redka.ZSetRef

namespace Redka.DB

open Redka Redka.Scan Redka.Spec

/-- `DB.WF` plus the sorted-set part of the C11 audit: `(kid, elem)` is unique in `rzset`, every
`rzset` row has an owner in `rkey`, and the cached length of a sorted-set key is its row count. -/
structure ZWF (db : DB) : Prop extends WF db where
  zuniq : (db.zsets.map (fun r => (r.kid, r.elem))).Nodup
  zown : ∀ z ∈ db.zsets, ∃ r ∈ db.keys, r.id = z.kid
  zlen : ∀ r ∈ db.keys, r.ty = TZSet →
    r.len = some ((db.zsets.filter (fun z => z.kid == r.id)).length : Int)

theorem Inv.zwf {db : DB} (h : db.Inv) : db.ZWF := by
  have hw := Inv.wf h
  unfold Inv invB at h
  simp only [Bool.and_eq_true] at h
  obtain ⟨⟨hk, ho⟩, hu⟩ := h
  refine { toWF := hw, zuniq := ?_, zown := ?_, zlen := ?_ }
  · unfold uniqueOk at hu
    simp only [Bool.and_eq_true, nodupB_iff] at hu
    exact hu.1.1.1.2
  · unfold ownersOk at ho
    simp only [Bool.and_eq_true] at ho
    intro z hzm
    have := List.all_eq_true.1 ho.2 z hzm
    unfold ownerOk at this
    obtain ⟨r, hr, hc⟩ := List.any_eq_true.1 this
    simp only [Bool.and_eq_true, beq_iff_eq] at hc
    exact ⟨r, hr, hc.1⟩
  · unfold keysOk at hk
    intro r hr hty
    have := List.all_eq_true.1 hk r hr
    simp only [Bool.and_eq_true, decide_eq_true_eq] at this
    have h2 := this.2
    have hns : ¬ (r.ty == TString) = true := by simp [hty, TZSet, TString]
    rw [if_neg hns] at h2
    have h2 : r.len = some (db.childCount r) := by simpa using h2
    rw [h2]
    simp [childCount, hty, TZSet, TList, TSet, THash]

end Redka.DB

namespace Redka.ZSetRef

open Redka Redka.Scan Redka.Spec Redka.Model Redka.DB

/-! ### the rows of one sorted set and the map they stand for -/

def zPair (r : ZRow) : Bytes × Score := (r.elem, r.score)

def zKidRows (db : DB) (id : Int) : List ZRow := db.zsets.filter (fun z => z.kid == id)

/-- the member-to-score map of the key with rowid `id`, by member bytes (what `Spec.abs` shows) -/
def zAssoc (db : DB) (id : Int) : List (Bytes × Score) :=
  (sortBy (fun (a b : ZRow) => bytesLt a.elem b.elem) (zKidRows db id)).map zPair

/-- `select … where kid = ? and elem = ?` -/
def zFind (db : DB) (id : Int) (e : Bytes) : Option ZRow :=
  db.zsets.find? (fun z => z.kid == id && z.elem == e)

theorem absVal_zset {db : DB} {r : KeyRow} (h : r.ty = TZSet) :
    absVal db r = some (.zset (zAssoc db r.id)) := by
  simp [absVal, h, TZSet, TString, TList, TSet, THash, zAssoc, zKidRows, zPair]

theorem zKidRows_elems_nodup {db : DB} (hu : (db.zsets.map (fun r => (r.kid, r.elem))).Nodup)
    (id : Int) : ((zKidRows db id).map (·.elem)).Nodup := by
  refine Model.SetRef.nodup_map_of_nodup_map _ _ _
    (nodup_map_filter hu _) (fun a ha b hb heq => ?_)
  have hka : a.kid = id := by simpa using (List.mem_filter.1 ha).2
  have hkb : b.kid = id := by simpa using (List.mem_filter.1 hb).2
  rw [hka, hkb, heq]

theorem zKidRows_keys_nodup {db : DB} (hu : (db.zsets.map (fun r => (r.kid, r.elem))).Nodup)
    (id : Int) : (((zKidRows db id).map zPair).map (·.1)).Nodup := by
  rw [List.map_map]; exact zKidRows_elems_nodup hu id

theorem aget_map_zPair (e : Bytes) : ∀ (l : List ZRow),
    aget (l.map zPair) e = (l.find? (fun x => x.elem == e)).map (·.score)
  | [] => rfl
  | r :: l => by
    rw [List.map_cons, List.find?_cons]
    show aget ((r.elem, r.score) :: l.map zPair) e = _
    rw [aget_cons]
    cases h : r.elem == e with
    | true => simp
    | false => simpa using aget_map_zPair e l

theorem sorted_zAssoc {db : DB} (hu : (db.zsets.map (fun r => (r.kid, r.elem))).Nodup) (id : Int) :
    Sorted (zAssoc db id) := by
  unfold Sorted zAssoc
  rw [List.pairwise_map]
  exact pairwise_sortBy ZRow.elem strictTotal_bytes _ (zKidRows_elems_nodup hu id)

theorem mem_zAssoc {db : DB} (id : Int) (p : Bytes × Score) :
    p ∈ zAssoc db id ↔ ∃ r ∈ db.zsets, r.kid = id ∧ zPair r = p := by
  unfold zAssoc zKidRows
  simp only [List.mem_map, mem_sortBy, List.mem_filter, beq_iff_eq]
  constructor
  · rintro ⟨r, ⟨h1, h2⟩, h3⟩; exact ⟨r, h1, h2, h3⟩
  · rintro ⟨r, h1, h2, h3⟩; exact ⟨r, ⟨h1, h2⟩, h3⟩

theorem aget_zAssoc {db : DB} (hu : (db.zsets.map (fun r => (r.kid, r.elem))).Nodup)
    (id : Int) (e : Bytes) : aget (zAssoc db id) e = (zFind db id e).map (·.score) := by
  unfold zAssoc
  rw [← aget_perm ((Redka.sortBy_perm _ _).map zPair).symm (zKidRows_keys_nodup hu id), aget_map_zPair]
  unfold zKidRows zFind
  rw [List.find?_filter]
  simp only [Bool.decide_and, Bool.decide_eq_true]

theorem length_zAssoc (db : DB) (id : Int) :
    (zAssoc db id).length = (db.zsets.filter (fun z => z.kid == id)).length := by
  simp [zAssoc, zKidRows, length_sortBy]

/-- the model's `order by score, elem` and the specification's rank order list the same pairs in
the same order -/
theorem zRows_proj {db : DB} (hu : (db.zsets.map (fun r => (r.kid, r.elem))).Nodup) (id : Int) :
    (zRows db id).map zPair = zsorted (zAssoc db id) := by
  have hnd : ((zKidRows db id).map zPair).Nodup :=
    Clean.nodup_of_nodup_map (·.1) (zKidRows_keys_nodup hu id)
  have hp : (zAssoc db id).Perm ((zKidRows db id).map zPair) := (Redka.sortBy_perm _ _).map zPair
  unfold zRows zsorted
  rw [← sortBy_map Model.zLt Spec.zLt zPair (fun _ _ => rfl)]
  exact sortBy_congr_mem strictTotal_zLt hnd (hp.nodup_iff.2 hnd) (fun x => hp.mem_iff.symm)

/-! ### what a name reads as -/

/-- what a name can be for the sorted-set repository (see `THolder`) -/
abbrev ZHolder := THolder TZSet SVal.zset zAssoc

theorem zholder {db : DB} (hw : db.WF) (now : Int) (k : Bytes) : ZHolder now db k :=
  tholder (ty := TZSet) (mk := SVal.zset) (view := zAssoc) (fun _ => rfl) (fun _ _ => absVal_zset) hw
    now k

/-- a missing key, an expired key and a key of another type all read as the empty sorted set -/
theorem zsetAt_abs {db : DB} (hw : db.WF) (now : Int) (k : Bytes) :
    zsetAt (abs now db) k =
      match db.liveKeyT k TZSet now with
      | none => []
      | some r => zAssoc db r.id := by
  unfold zsetAt
  rcases zholder hw now k with ⟨_, hg, hl⟩ | ⟨_, _, _, hg, hl⟩ | ⟨r, _, _, _, hg, hl⟩ |
    ⟨r, v, _, _, _, hg, hv, hl⟩ <;> rw [hg, hl]
  cases v <;> first | rfl | exact absurd rfl (hv _)

theorem zsorted_nil : zsorted [] = [] := rfl

theorem zLiveRows_proj {db : DB} (hz : db.ZWF) (now : Int) (k : Bytes) :
    (zLiveRows db k now).map zPair = zsorted (zsetAt (abs now db) k) := by
  rw [zsetAt_abs hz.toWF]
  unfold zLiveRows
  cases db.liveKeyT k TZSet now with
  | none => rfl
  | some r => exact zRows_proj hz.zuniq r.id

theorem sorted_zsetAt_abs {db : DB} (hz : db.ZWF) (now : Int) (k : Bytes) :
    Sorted (zsetAt (abs now db) k) := by
  rw [zsetAt_abs hz.toWF]
  cases db.liveKeyT k TZSet now with
  | none => exact List.Pairwise.nil
  | some r => exact sorted_zAssoc hz.zuniq r.id

/-! ### the model's rows against the specification's pairs -/

theorem aget_zsorted {z : List (Bytes × Score)} (hs : Sorted z) (e : Bytes) :
    aget (zsorted z) e = aget z e :=
  (aget_perm (Redka.sortBy_perm _ z).symm hs.nodup_keys e).symm

theorem aget_zsorted_reverse {z : List (Bytes × Score)} (hs : Sorted z) (e : Bytes) :
    aget (zsorted z).reverse e = aget z e :=
  (aget_perm ((List.reverse_perm _).trans (Redka.sortBy_perm _ z)).symm hs.nodup_keys e).symm

theorem indexOf?_proj (e : Bytes) : ∀ (l : List ZRow),
    Model.indexOf? (fun x : ZRow => x.elem == e) l
      = Spec.indexOf? (fun p : Bytes × Score => p.1 == e) (l.map zPair)
  | [] => rfl
  | r :: l => by
    simp only [Model.indexOf?, Spec.indexOf?, List.map_cons, zPair, indexOf?_proj e l]

theorem zItem_proj (l : List ZRow) : l.map Model.zItem = (l.map zPair).map Spec.zItem := by
  rw [List.map_map]; rfl

theorem rankSlice_map {α β : Type} (f : α → β) (l : List α) (a b : Int) :
    (rankSlice l a b).map f = rankSlice (l.map f) a b := by
  unfold rankSlice
  split
  · rfl
  · rw [List.map_take, List.map_drop]

theorem offsetCount_map {α β : Type} (f : α → β) (l : List α) (off cnt : Int) :
    (offsetCount l off cnt).map f = offsetCount (l.map f) off cnt := by
  unfold offsetCount
  split <;> split <;> simp [List.map_take, List.map_drop]

theorem filter_proj (q : Bytes × Score → Bool) (l : List ZRow) :
    (l.filter (fun x => q (zPair x))).map zPair = (l.map zPair).filter q := by
  rw [List.filter_map]; rfl

theorem map_rev_ite {α β : Type} (f : α → β) (rev : Bool) (l : List α) :
    (if rev = true then l.reverse else l).map f = if rev = true then (l.map f).reverse else l.map f := by
  cases rev
  · rfl
  · exact List.map_reverse

theorem length_filter_zLiveRows {db : DB} (hz : db.ZWF) (now : Int) (k : Bytes)
    (q : Bytes × Score → Bool) :
    ((zLiveRows db k now).filter (fun x => q (zPair x))).length
      = ((zsetAt (abs now db) k).filter q).length := by
  rw [← List.length_map (f := zPair), filter_proj, zLiveRows_proj hz]
  exact ((Redka.sortBy_perm Spec.zLt _).filter q).length_eq

/-! ### the reads -/

theorem read_refines {db : DB} (hw : db.WF) (now : Int) {o o' : Out} (h : o = o') :
    Refines now ⟨o, db⟩ ⟨o', abs now db⟩ :=
  ⟨h, (purge_abs hw.names now).symm⟩

theorem zCount_refines {db : DB} (hz : db.ZWF) (now : Int) (k : Bytes) (lo hi : Score) :
    Refines now (Model.zCount db k lo hi now)
      (Spec.ok (.int ((zsetAt (abs now db) k).filter (fun p => Spec.between lo hi p.2)).length)
        (abs now db)) :=
  read_refines hz.toWF now
    (congrArg (fun n : Nat => (Except.ok (.int n) : Out))
      (length_filter_zLiveRows hz now k (fun p => Spec.between lo hi p.2)))

theorem zGetScore_refines {db : DB} (hz : db.ZWF) (now : Int) (k e : Bytes) :
    Refines now (Model.zGetScore db k e now)
      (match aget (zsetAt (abs now db) k) e with
       | some sc => Spec.ok (.score sc) (abs now db)
       | none => Spec.er .notFound (abs now db)) := by
  have h := aget_map_zPair e (zLiveRows db k now)
  rw [zLiveRows_proj hz, aget_zsorted (sorted_zsetAt_abs hz now k)] at h
  rw [h]
  unfold Model.zGetScore
  cases (zLiveRows db k now).find? (fun x => x.elem == e) <;> exact read_refines hz.toWF now rfl

theorem zGetRank_refines {db : DB} (hz : db.ZWF) (now : Int) (k e : Bytes) (rev : Bool) :
    Refines now (Model.zGetRank db k e rev now) (Spec.zGetRank (abs now db) k e rev) := by
  have hs := sorted_zsetAt_abs hz now k
  have hp : (if rev = true then (zLiveRows db k now).reverse else zLiveRows db k now).map zPair
      = if rev = true then (zsorted (zsetAt (abs now db) k)).reverse
          else zsorted (zsetAt (abs now db) k) := by
    rw [map_rev_ite, zLiveRows_proj hz]
  have hfind : ((if rev = true then (zLiveRows db k now).reverse else zLiveRows db k now).find?
        (fun x => x.elem == e)).map (·.score) = aget (zsetAt (abs now db) k) e := by
    rw [← aget_map_zPair, hp]
    cases rev
    · exact aget_zsorted hs e
    · exact aget_zsorted_reverse hs e
  unfold Model.zGetRank Spec.zGetRank
  simp only []
  rw [indexOf?_proj, hp, ← hfind]
  cases Spec.indexOf? (fun p : Bytes × Score => p.1 == e)
      (if rev = true then (zsorted (zsetAt (abs now db) k)).reverse
        else zsorted (zsetAt (abs now db) k)) with
  | none => exact read_refines hz.toWF now rfl
  | some i =>
    cases (if rev = true then (zLiveRows db k now).reverse else zLiveRows db k now).find?
        (fun x => x.elem == e) <;> exact read_refines hz.toWF now rfl

theorem zLen_refines {db : DB} (hz : db.ZWF) (now : Int) (k : Bytes) :
    Refines now (Model.zLen db k now)
      (Spec.ok (.int (zsetAt (abs now db) k).length) (abs now db)) := by
  rw [zsetAt_abs hz.toWF]
  unfold Model.zLen
  cases hl : db.liveKeyT k TZSet now with
  | none => exact read_refines hz.toWF now rfl
  | some r =>
    obtain ⟨hm, _, hty⟩ := InvP.liveKeyT_some hl
    simp only [hz.zlen r hm hty, length_zAssoc]
    exact read_refines hz.toWF now rfl

theorem zRangeRank_refines {db : DB} (hz : db.ZWF) (now : Int) (k : Bytes) (a b : Int) (desc : Bool) :
    Refines now (Model.zRangeRank db k a b desc now)
      (Spec.ok (.list ((rankSlice (if desc then (zsorted (zsetAt (abs now db) k)).reverse
        else zsorted (zsetAt (abs now db) k)) a b).map Spec.zItem)) (abs now db)) := by
  have hm : Model.zRangeRank db k a b desc now
      = .ok (.list ((Redka.Proofs.Index.modelRankRange
          (if desc then (zLiveRows db k now).reverse else zLiveRows db k now) a b).map Model.zItem)) db := by
    unfold Model.zRangeRank Redka.Proofs.Index.modelRankRange
    split <;> rfl
  rw [hm, Redka.Props.C02.rank_range_refines, zItem_proj, rankSlice_map, map_rev_ite,
    zLiveRows_proj hz]
  exact read_refines hz.toWF now rfl

theorem zRangeScore_refines {db : DB} (hz : db.ZWF) (now : Int) (k : Bytes) (lo hi : Score)
    (desc : Bool) (off cnt : Int) :
    Refines now (Model.zRangeScore db k lo hi desc off cnt now)
      (Spec.ok (.list ((offsetCount
        (if desc then ((zsorted (zsetAt (abs now db) k)).filter (fun p => Spec.between lo hi p.2)).reverse
          else (zsorted (zsetAt (abs now db) k)).filter (fun p => Spec.between lo hi p.2)) off cnt).map
        Spec.zItem)) (abs now db)) := by
  have hf : ((zLiveRows db k now).filter (fun x => Model.between lo hi x.score)).map zPair
      = (zsorted (zsetAt (abs now db) k)).filter (fun p => Spec.between lo hi p.2) := by
    rw [← zLiveRows_proj hz, ← filter_proj]; rfl
  unfold Model.zRangeScore
  simp only []
  rw [Redka.Props.C02.offset_count_refines, zItem_proj, offsetCount_map, map_rev_ite, hf]
  exact read_refines hz.toWF now rfl

end Redka.ZSetRef
