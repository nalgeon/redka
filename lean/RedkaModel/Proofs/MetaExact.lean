/-
  C19 — the classifiers are exact: on every step they classify, `Spec.metaOK` is false.
-/
import RedkaModel.Proofs.MetaStep

namespace Redka.MetaProofs

open Redka Redka.Model Redka.Spec Redka.InvP

variable {db : DB}

theorem emptyStore_ok {op : Op} {now : Int} (h : emptyStore op = true) :
    isErr (Model.tx true op now db).out = false := by
  cases op with
  | setDiffStore d ks | setInterStore d ks | setUnionStore d ks => cases ks <;> first | rfl | cases h
  | _ => cases h

theorem liveKeyT_live {db : DB} {k : Bytes} {ty now : Int} {r : KeyRow}
    (h : db.liveKeyT k ty now = some r) : r.live now = true := by
  unfold DB.liveKeyT at h
  have := List.find?_some h
  simp only [Bool.and_eq_true] at this
  exact this.2

theorem store_dest_exists {now : Int} {d : Bytes} {ty : Int} {res : Res} {E : Prop} (h : WF db)
    {r : KeyRow} (hr : r ∈ db.keys) (hk : r.key = d)
    (hkeep : Keep db res.db)
    (hall : ∀ r' ∈ res.db.keys, (r'.key ≠ d → r' ∈ db.keys ∧ ChildEq db res.db r'.id) ∧
      (r'.key = d → r'.mtime = now ∧ DestCase now d ty db res.db (isErr res.out) r')) (_hE : ¬ E) :
    ∃ r' ∈ res.db.keys, r'.id = r.id ∧ r'.key = d := by
  obtain ⟨r', hr', hid⟩ := hkeep r hr
  refine ⟨r', hr', hid, ?_⟩
  by_cases hk' : r'.key = d
  · exact hk'
  · have := ((hall r' hr').1 hk').1
    have : r' = r := eq_of_id_eq h.uId this hr hid
    rw [this]; exact hk

theorem sorted_map_ne_of_emptied {α β} (lt : α → α → Bool) (f : α → β) (p : α → Bool) {la lb : List α}
    (h1 : la.any p = true) (h2 : lb.any p = false) :
    (sortBy lt (la.filter p)).map f ≠ (sortBy lt (lb.filter p)).map f := by
  intro he
  have hl := congrArg List.length he
  have hb : lb.filter p = [] :=
    List.filter_eq_nil_iff.2 (fun x hx => by simpa using List.any_eq_false.1 h2 x hx)
  rw [List.length_map, List.length_map, (sortBy_perm lt _).length_eq, (sortBy_perm lt _).length_eq, hb] at hl
  obtain ⟨x, hx, hxk⟩ := List.any_eq_true.1 h1
  have := List.length_pos_of_mem (List.mem_filter.2 ⟨hx, hxk⟩)
  simp only [List.length_nil] at hl
  omega

theorem absVal_ne_of_emptied {a b : DB} {ty : Int} {r r' : KeyRow} (hty : ty = TSet ∨ ty = TZSet)
    (hr : r.ty = ty) (hr' : r'.ty = ty) (hid : r'.id = r.id)
    (h1 : destHasChildren a ty r.id = true) (h2 : destHasChildren b ty r.id = false) :
    absVal a r ≠ absVal b r' := by
  unfold destHasChildren at h1 h2
  unfold absVal Model.setRows
  rcases hty with rfl | rfl
  · have e1 : (TSet == TString) = false := by decide
    have e2 : (TSet == TList) = false := by decide
    simp only [hr, hr', hid, e1, e2, beq_self_eq_true, Bool.false_eq_true, if_false, if_true] at h1 h2 ⊢
    intro he
    exact sorted_map_ne_of_emptied _ _ _ h1 h2 (by simpa using he)
  · have e1 : (TZSet == TString) = false := by decide
    have e2 : (TZSet == TList) = false := by decide
    have e3 : (TZSet == TSet) = false := by decide
    have e4 : (TZSet == THash) = false := by decide
    simp only [hr, hr', hid, e1, e2, e3, e4, beq_self_eq_true, Bool.false_eq_true, if_false, if_true] at h1 h2 ⊢
    intro he
    exact sorted_map_ne_of_emptied _ _ _ h1 h2 (by simpa using he)

/-- K1 and K2: a classified successful store leaves a destination row that is not fresh -/
theorem k12_breaks (h : WF db) {op : Op} {now : Int} {res : Res} (hsum : StepSum now op db res)
    (ho : ∀ d, storeDest op = some d → res.out = (Model.dbRun op now db).out)
    (hk : KnownMeta op now db = true) :
    ¬ ∀ r' ∈ res.db.keys, RowOK op now db res.db res.out r' := by
  intro hall
  unfold KnownMeta at hk
  cases hd : storeDest op with
  | none => rw [hd] at hk; cases hk
  | some d =>
    rw [hd] at hk
    simp only [← ho d hd, Bool.and_eq_true, Bool.not_eq_true'] at hk
    obtain ⟨hE, hk⟩ := hk
    cases hf : db.findKey d with
    | none => rw [hf] at hk; cases hk
    | some r =>
      rw [hf] at hk
      simp only at hk
      obtain ⟨hrm, hrk⟩ := findKey_some hf
      have hfresh : ∀ r' ∈ res.db.keys, r'.key = d → FreshRow now r' := by
        intro r' hr' hk'
        have := hall r' hr'
        unfold RowOK at this
        rw [if_pos ⟨hE, by rw [hd, hk']⟩] at this
        exact this
      rcases hsum.storeSum hd hE with ⟨hdb, hor⟩ | ⟨hnE, hkeep, hrows⟩
      · rcases hor with hor | hor
        · rw [hor.1] at hE; cases hE
        · -- K1
          rw [hor] at hk
          simp only [if_true, Bool.not_eq_true', Bool.and_eq_false_iff, decide_eq_false_iff_not,
            beq_eq_false_iff_ne] at hk
          have := hfresh r (hdb ▸ hrm) hrk
          rcases hk with hk | hk
          · exact hk this.1
          · exact hk this.2
      · -- K2
        have hne : emptyStore op = false := by
          cases he : emptyStore op
          · rfl
          · exact absurd he hnE
        rw [hne] at hk
        simp only [Bool.false_eq_true, if_false, Bool.and_eq_true, Bool.not_eq_true',
          decide_eq_true_eq] at hk
        obtain ⟨hdead, hneg⟩ := hk
        obtain ⟨r', hr', hid, hk'⟩ := store_dest_exists h hrm hrk hkeep hrows hnE
        have hf' := hfresh r' hr' hk'
        obtain ⟨_, hcase⟩ := (hrows r' hr').2 hk'
        cases hcase with
        | new hfree _ => exact (hfree r hrm).1 hrk
        | stale r2 hr2 hk2 _ _ hv _ =>
          have : r2 = r := eq_of_key_eq h.uKey hr2 hrm (hk2.trans hrk.symm)
          subst this
          have := hf'.1
          omega
        | live r0 hl _ _ _ =>
          obtain ⟨hr0, hk0, _⟩ := liveKeyT_some hl
          have : r0 = r := eq_of_key_eq h.uKey hr0 hrm (hk0.trans hrk.symm)
          subst this
          rw [liveKeyT_live hl] at hdead
          cases hdead

/-- K3: a store that fails after the reset, inside a transaction -/
theorem k3_breaks_tx (h : WF db) {op : Op} {now : Int} (hk : KnownStoreErr op now db = true) :
    ¬ ∀ r' ∈ (Model.tx true op now db).db.keys,
      RowOK op now db (Model.tx true op now db).db (Model.tx true op now db).out r' := by
  intro hall
  unfold KnownStoreErr at hk
  cases hd : storeDest op with
  | none => rw [hd] at hk; cases hk
  | some d =>
    rw [hd] at hk
    simp only [Bool.and_eq_true] at hk
    obtain ⟨hE, hk⟩ := hk
    cases hl : db.liveKeyT d (storeTy op) now with
    | none => rw [hl] at hk; cases hk
    | some r =>
      rw [hl] at hk
      simp only [Bool.or_eq_true, decide_eq_true_eq, Bool.and_eq_true] at hk
      obtain ⟨hrm, hrk, hrty⟩ := liveKeyT_some hl
      rcases store_sum_tx h true now hd with ⟨_, hor⟩ | ⟨hnE, hkeep, hrows⟩
      · rcases hor with hor | hor
        · rw [hl] at hor; cases hor.2
        · -- an empty set store succeeds
          rw [emptyStore_ok hor] at hE; cases hE
      · obtain ⟨r', hr', hid, hk'⟩ := store_dest_exists h hrm hrk hkeep hrows hnE
        have hrow := hall r' hr'
        unfold RowOK at hrow
        have hcond : ¬ (isErr (Model.tx true op now db).out = false ∧ storeDest op = some r'.key) := by
          rintro ⟨hc, _⟩; rw [hE] at hc; cases hc
        rw [if_neg hcond] at hrow
        unfold PlainRow at hrow
        rw [hid, hk', ← hrk, rowAt_of_mem h.uId hrm] at hrow
        obtain ⟨_, hcase⟩ := (hrows r' hr').2 hk'
        rw [hE] at hcase
        cases hcase with
        | new hfree _ => exact (hfree r hrm).1 hrk
        | stale r2 hr2 hk2 _ _ _ hdead =>
          have : r2 = r := eq_of_key_eq h.uKey hr2 hrm (hk2.trans hrk.symm)
          subst this
          rw [liveKeyT_live hl] at hdead
          cases hdead
        | live r0 hl0 hsm _ hemp =>
          have : r0 = r := by rw [hl] at hl0; exact (Option.some.inj hl0).symm
          subst this
          have hv : r'.version = 1 := hsm.version
          rcases hk with hk | ⟨hk1, hk2⟩
          · have := hrow.1; omega
          · have hne := absVal_ne_of_emptied (by unfold storeTy; split <;> simp) hrty (hsm.ty.trans hrty) hsm.id
              hk2 (hemp rfl)
            have := hrow.2.2.2.1 (.inl hne)
            omega

theorem known_db_false {op : Op} {now : Int} (h : db.Inv) (hk : KnownMeta op now db = true) :
    metaOK op now db (Model.dbRun op now db).db (Model.dbRun op now db).out = false := by
  cases hm : metaOK op now db (Model.dbRun op now db).db (Model.dbRun op now db).out with
  | false => rfl
  | true =>
    exact absurd ((metaOK_iff _ _ _ _ _).1 hm)
      (k12_breaks (WF.of_inv h) (db_sum op now db (WF.of_inv h)) (fun _ _ => rfl) hk)

theorem known_tx_false {op : Op} {now : Int} (h : db.Inv) (hk : KnownMetaTx op now db = true) :
    metaOK op now db (Model.tx true op now db).db (Model.tx true op now db).out = false := by
  cases hm : metaOK op now db (Model.tx true op now db).db (Model.tx true op now db).out with
  | false => rfl
  | true =>
    exfalso
    have hall := (metaOK_iff _ _ _ _ _).1 hm
    unfold KnownMetaTx at hk
    rw [Bool.or_eq_true] at hk
    rcases hk with hk | hk
    · exact k12_breaks (WF.of_inv h) (tx_sum true op now db (WF.of_inv h))
        (fun d hd => (dbRun_out_store hd now db).symm) hk hall
    · exact k3_breaks_tx (WF.of_inv h) hk hall

end Redka.MetaProofs
