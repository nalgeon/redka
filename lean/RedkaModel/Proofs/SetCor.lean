/-
  `internal/rset`: the `DB`-level methods (`Model.dbRun`) whose model is more than the `Tx` method
  itself — `Add` and `Delete` under `DB.Update`, the set algebra and its storing variants — against
  the specification in the strong form `RefS`, and what the specification's operations do to the set
  stored under a name (used by the clause-by-clause corollaries of C03).
-/
import RedkaModel.Proofs.SetAlg

namespace Redka.Model.SetRef

open Redka Redka.Spec Redka.DB Redka.Scan

theorem RefS.upd {now : Int} {f : DB → Res} {db : DB} {s : SRes} (h : RefS now (f db) s)
    (herr : ∀ e, (f db).out = .error e → (f db).db = db) : RefS now (update f db) s := by
  unfold update
  simp only
  split
  · exact h
  · rename_i e he
    refine ⟨by rw [← h.1, he], ?_⟩
    have := herr e he
    rw [← h.2, this]

theorem setAdd_err_db (db : DB) (k : Bytes) (es : List Bytes) (now : Int) (e : Err)
    (h : (setAdd db k es now).out = .error e) : (setAdd db k es now).db = db := by
  unfold setAdd at h ⊢
  cases hk : setAddKey db k now with
  | error e' => rfl
  | ok p => rw [hk] at h; simp [Res.ok] at h

theorem setDelete_err_db {db : DB} (hw : SetWF db) (k : Bytes) (es : List Bytes) (now : Int)
    (e : Err) (h : (setDelete db k es now).out = .error e) : (setDelete db k es now).db = db := by
  cases hl : db.liveKeyT k TSet now with
  | none => rw [setDelete_none hl]; rfl
  | some r =>
    obtain ⟨db', h', _⟩ := setDelete_cases hw hl es
    rw [h'] at h
    cases h

theorem not_mem_of_contains {ks : List Bytes} {d : Bytes} (h : ks.contains d = false) :
    ∀ k ∈ ks, k ≠ d := by
  intro k hk hkd
  rw [hkd] at hk
  have := List.contains_iff_mem.2 hk
  rw [h] at this
  cases this

section run
variable {db : DB} (hw : SetWF db) (now : Int)
include hw

theorem run_setAdd {k : Bytes} (hns : staleKey db now k = false) (es : List Bytes) :
    RefS now (dbRun (.setAdd k es) now db) (Spec.setAdd (abs now db) k es) :=
  (setAdd_refS hw hns es).upd (setAdd_err_db db k es now)

theorem run_setDelete (k : Bytes) (es : List Bytes) :
    RefS now (dbRun (.setDelete k es) now db) (Spec.setDelete (abs now db) k es) :=
  (setDelete_refS hw now k es).upd (setDelete_err_db hw k es now)

theorem run_setDiff (ks : List Bytes) :
    RefS now (dbRun (.setDiff ks) now db)
      (Spec.ok (Spec.bytesList (setDiffOf (abs now db) ks)) (abs now db)) := by
  refine ⟨?_, rfl⟩
  show Except.ok (Model.bytesList (setDiffRaw db ks now)) = _
  rw [setDiffRaw_eq hw.wf]; rfl

theorem run_setUnion (ks : List Bytes) :
    RefS now (dbRun (.setUnion ks) now db)
      (Spec.ok (Spec.bytesList (setUnionOf (abs now db) ks)) (abs now db)) := by
  show RefS now (setUnion db ks now) _
  unfold setUnion
  cases ks with
  | nil => exact ⟨rfl, rfl⟩
  | cons k rest =>
    refine ⟨?_, rfl⟩
    show Except.ok (Model.bytesList (setUnionRaw db (k :: rest) now)) = _
    rw [setUnionRaw_eq hw.wf]; rfl

theorem run_setInter (ks : List Bytes) :
    RefS now (dbRun (.setInter ks) now db)
      (Spec.ok (Spec.bytesList (setInterOf (abs now db) ks)) (abs now db)) := by
  show RefS now (setInter db ks now) _
  unfold setInter
  cases ks with
  | nil => exact ⟨rfl, rfl⟩
  | cons k rest =>
    refine ⟨?_, rfl⟩
    show Except.ok (Model.bytesList (setInterRaw db (k :: rest) now)) = _
    rw [setInterRaw_eq hw (by simp)]; rfl

theorem run_setDiffStore {d : Bytes} (hns : staleKey db now d = false) {ks : List Bytes}
    (hds : ks.contains d = false) :
    RefS now (dbRun (.setDiffStore d ks) now db)
      (Spec.setStore (abs now db) d ks (setDiffOf (abs now db) ks)) := by
  have hnd := not_mem_of_contains hds
  refine setStore_refS hw hns ks _ (ssorted_setDiffOf hw now ks) ?_
  intro _ db2 hw2 hfr
  show setDiffRaw db2 ks now = _
  rw [setDiffRaw_eq hw2.wf]
  exact setDiffOf_congr (fun k hk => setAt_frame hw.names hw2.names hfr now (hnd k hk))

theorem run_setUnionStore {d : Bytes} (hns : staleKey db now d = false) {ks : List Bytes}
    (hds : ks.contains d = false) :
    RefS now (dbRun (.setUnionStore d ks) now db)
      (Spec.setStore (abs now db) d ks (setUnionOf (abs now db) ks)) := by
  have hnd := not_mem_of_contains hds
  refine setStore_refS hw hns ks _ (ssorted_setUnionOf _ ks) ?_
  intro _ db2 hw2 hfr
  show setUnionRaw db2 ks now = _
  rw [setUnionRaw_eq hw2.wf]
  exact setUnionOf_congr (fun k hk => setAt_frame hw.names hw2.names hfr now (hnd k hk))

theorem run_setInterStore {d : Bytes} (hns : staleKey db now d = false) {ks : List Bytes}
    (hds : ks.contains d = false) :
    RefS now (dbRun (.setInterStore d ks) now db)
      (Spec.setStore (abs now db) d ks (setInterOf (abs now db) ks)) := by
  have hnd := not_mem_of_contains hds
  refine setStore_refS hw hns ks _ (ssorted_setInterOf hw now ks) ?_
  intro hne db2 hw2 hfr
  show setInterRaw db2 ks now = _
  rw [setInterRaw_eq hw2 (by intro h; rw [h] at hne; cases hne)]
  exact setInterOf_congr (fun k hk => setAt_frame hw.names hw2.names hfr now (hnd k hk))

end run

/-- the name is free or holds a set -/
def FreeOrSet (s : State) (k : Bytes) : Prop := ∀ v et, get s k = some ⟨v, et⟩ → ∃ m, v = .set m

theorem setAt_of_get {s : State} {k : Bytes} {m : List Bytes} {et : Option Int}
    (h : get s k = some ⟨.set m, et⟩) : setAt s k = m := by
  simp [setAt, h]

theorem setAt_of_none {s : State} {k : Bytes} (h : get s k = none) : setAt s k = [] := by
  simp [setAt, h]

theorem setAt_put_self (s : State) (k : Bytes) (m : List Bytes) (et : Option Int) :
    setAt (put s k ⟨.set m, et⟩) k = m := by
  simp [setAt, get_put]

theorem setAt_put_other (s : State) {k k' : Bytes} (h : k ≠ k') (e : Entry) :
    setAt (put s k e) k' = setAt s k' := by
  have : (k == k') = false := by simpa using h
  simp [setAt, get_put, this]

theorem get_of_mem_setAt {s : State} {k e : Bytes} (h : e ∈ setAt s k) :
    ∃ et, get s k = some ⟨.set (setAt s k), et⟩ := by
  unfold setAt at h ⊢
  cases hg : get s k with
  | none => rw [hg] at h; cases h
  | some en =>
    obtain ⟨v, et⟩ := en
    rw [hg] at h
    cases v <;> first | exact ⟨et, rfl⟩ | cases h

theorem ssorted_setAt_abs {db : DB} (hw : SetWF db) (now : Int) (k : Bytes) :
    SSorted (setAt (abs now db) k) := by
  rw [setAt_abs hw.wf]; exact ssorted_mset hw k now

theorem spec_setAdd {s : State} {k : Bytes} (hno : FreeOrSet s k) (es : List Bytes) :
    (Spec.setAdd s k es).out
        = .ok (.int (((sunion (setAt s k) es).length : Int) - (setAt s k).length)) ∧
      setAt (Spec.setAdd s k es).st k = sunion (setAt s k) es := by
  cases hg : get s k with
  | none => simp [Spec.setAdd, hg, Spec.ok, setAt_of_none hg, setAt_put_self, sfromList_eq]
  | some en =>
    obtain ⟨v, et⟩ := en
    obtain ⟨m, rfl⟩ := hno v et hg
    simp [Spec.setAdd, hg, Spec.ok, setAt_of_get hg, setAt_put_self]

theorem spec_setDelete (s : State) (k : Bytes) (es : List Bytes) :
    (Spec.setDelete s k es).out
        = .ok (.int (((setAt s k).length : Int) - (sdiff (setAt s k) es).length)) ∧
      setAt (Spec.setDelete s k es).st k = sdiff (setAt s k) es := by
  cases hg : get s k with
  | none => simp [Spec.setDelete, hg, Spec.ok, setAt_of_none hg, sdiff]
  | some en =>
    obtain ⟨v, et⟩ := en
    cases v with
    | set m =>
      simp only [Spec.setDelete, hg, Spec.ok, setAt_of_get hg]
      refine ⟨trivial, ?_⟩
      by_cases hl : (sdiff m es).length = m.length
      · have : sdiff m es = m := List.filter_eq_self.2 (List.length_filter_eq_length_iff.1 hl)
        simp [setAt_of_get hg, this]
      · have : ((sdiff m es).length == m.length) = false := by simpa using hl
        simp [this, setAt_put_self]
    | _ => simp [Spec.setDelete, hg, Spec.ok, setAt, sdiff]

theorem spec_setStore {s : State} {d : Bytes} {ks : List Bytes} (hne : ks.isEmpty = false)
    (hno : FreeOrSet s d) (result : List Bytes) :
    (Spec.setStore s d ks result).out = .ok (.int result.length) ∧
      setAt (Spec.setStore s d ks result).st d = result := by
  cases hg : get s d with
  | none => simp [Spec.setStore, hne, hg, Spec.ok, setAt_put_self]
  | some en =>
    obtain ⟨v, et⟩ := en
    obtain ⟨m, rfl⟩ := hno v et hg
    simp [Spec.setStore, hne, hg, Spec.ok, setAt_put_self]

theorem length_filter_ne {e : Bytes} {l : List Bytes} (hnd : l.Nodup) (h : e ∈ l) :
    (l.filter (fun x => !([e] : List Bytes).contains x)).length + 1 = l.length := by
  have hp : (fun x => !([e] : List Bytes).contains x) = (· != e) := by
    funext x; simp only [List.contains_cons, List.contains_nil, Bool.or_false, bne]
  have := List.length_pos_of_mem h
  rw [hp, ← hnd.erase_eq_filter, List.length_erase_of_mem h]
  omega

theorem setAt_congr {s s' : State} {k : Bytes} (h : get s' k = get s k) : setAt s' k = setAt s k := by
  unfold setAt; rw [h]

theorem spec_setDelete_other (s : State) {k k' : Bytes} (h : k ≠ k') (es : List Bytes) :
    get (Spec.setDelete s k es).st k' = get s k' := by
  rcases spec_setDelete_get s k k' es with h' | ⟨_, _, _, rfl, _⟩
  · exact h'
  · exact absurd rfl h
theorem spec_setAdd_other (s : State) {k k' : Bytes} (h : k ≠ k') (es : List Bytes) :
    get (Spec.setAdd s k es).st k' = get s k' := by
  have hb : (k == k') = false := by simpa using h
  unfold Spec.setAdd
  cases hg : get s k with
  | none => simp only [Spec.ok]; rw [get_put]; simp [hb]
  | some en =>
    obtain ⟨v, et⟩ := en
    cases v with
    | set m => simp only [Spec.ok]; rw [get_put]; simp [hb]
    | _ => rfl

end Redka.Model.SetRef
