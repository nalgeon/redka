/-
  `internal/rstring`: every writing method changes the tables only through the two two-statement
  writes of set.go (`Model.strSetTx`, `Model.strUpdateTx`: both are `strWrite`, with different
  assignment lists), once, several times or not at all —
  whether or not a write succeeds (a failing one may leave its first statement behind). What both
  writes keep, these methods keep: `DB.WF`, the C11 invariant, the `foreign_keys` flag and the C19
  effect relation are instances.
-/
import RedkaModel.Model.Run

namespace Redka.Model

open Redka

/-- `set(tx, …)` and `update(tx, …)` of set.go differ only in the assignment lists of the first
statement -/
def strWrite (db : DB) (k v : Bytes) (onNew : Int → KeyRow) (onOld : KeyRow → KeyRow) :
    Except Err DB × DB :=
  match keyUpsert db k TString onNew onOld with
  | .error e => (.error e, db)
  | .ok (db1, _) =>
    match strSet2 db1 k v with
    | .error e => (.error e, db1)
    | .ok db2 => (.ok db2, db2)

def setNew (k : Bytes) (etime : Option Int) (now : Int) (id : Int) : KeyRow :=
  { id := id, key := k, ty := TString, version := 1, etime := etime, mtime := now, len := none }

def setOld (etime : Option Int) (now : Int) (o : KeyRow) : KeyRow :=
  { o with version := o.version + 1, etime := etime, mtime := now }

def updOld (now : Int) (o : KeyRow) : KeyRow :=
  { o with version := o.version + 1, mtime := now }

theorem strSetTx_eq (db : DB) (k v : Bytes) (etime : Option Int) (now : Int) :
    strSetTx db k v etime now = strWrite db k v (setNew k etime now) (setOld etime now) := rfl

theorem strUpdateTx_eq (db : DB) (k v : Bytes) (now : Int) :
    strUpdateTx db k v now = strWrite db k v (setNew k none now) (updOld now) := rfl

/-- `d` is what some number of `set` / `update` writes made of `db` -/
inductive StrSteps (now : Int) (db : DB) : DB → Prop
  | refl : StrSteps now db db
  | set {d : DB} (k v : Bytes) (et : Option Int) : StrSteps now db d →
      StrSteps now db (strSetTx d k v et now).2
  | upd {d : DB} (k v : Bytes) : StrSteps now db d → StrSteps now db (strUpdateTx d k v now).2

variable {now : Int} {db : DB}

theorem StrSteps.pres {P : DB → Prop} {d : DB} (h : StrSteps now db d) (h0 : P db)
    (hset : ∀ d k v et, P d → P (strSetTx d k v et now).2)
    (hupd : ∀ d k v, P d → P (strUpdateTx d k v now).2) : P d := by
  induction h with
  | refl => exact h0
  | set k v et _ ih => exact hset _ k v et ih
  | upd k v _ ih => exact hupd _ k v ih

theorem strSet_steps (k v : Bytes) (et : Option Int) : StrSteps now db (strSet db k v et now).db := by
  unfold strSet
  have := StrSteps.set k v et (.refl (now := now) (db := db))
  split <;> (rename_i he; rw [he] at this; exact this)

theorem strIncr_steps (k : Bytes) (d : Int) : StrSteps now db (strIncr db k d now).db := by
  unfold strIncr
  simp only
  split
  · exact .refl
  · rename_i n _
    have := StrSteps.upd k (itoa (wrap64 (n + d))) (.refl (now := now) (db := db))
    split <;> (rename_i he; rw [he] at this; exact this)

theorem strIncrFloat_steps (k : Bytes) (d : Dyadic) :
    StrSteps now db (strIncrFloat db k d now).db := by
  unfold strIncrFloat
  simp only
  split
  · exact .refl
  · exact .refl
  · split
    · split <;> exact .refl
    · rename_i txt _
      have := StrSteps.upd k txt (.refl (now := now) (db := db))
      split <;> (rename_i he; rw [he] at this; exact this)

theorem strSetMany_steps (items : List (Bytes × Bytes)) :
    ∀ {d : DB}, StrSteps now db d → StrSteps now db (strSetMany d items now).db := by
  induction items with
  | nil => exact fun h => h
  | cons p rest ih =>
    intro d h
    obtain ⟨k, v⟩ := p
    unfold strSetMany
    have := StrSteps.set k v none h
    split
    · rename_i he; rw [he] at this; exact this
    · rename_i he; rw [he] at this; exact ih this

theorem strSetWith_steps (k v : Bytes) (o : SetOpts) :
    StrSteps now db (strSetWith db k v o now).db := by
  unfold strSetWith
  simp only
  split
  · exact .refl
  · split
    · exact .refl
    · have h1 := StrSteps.upd k v (.refl (now := now) (db := db))
      have h2 := StrSteps.set k v (if o.ttl > 0 then some (now + o.ttl) else o.atMs)
        (.refl (now := now) (db := db))
      split <;> rename_i he <;> split at he <;> first
        | (rw [he] at h1; exact h1)
        | (rw [he] at h2; exact h2)

end Redka.Model
