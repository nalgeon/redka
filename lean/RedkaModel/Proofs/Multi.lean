/-
  Proofs for property C15: the model of the handler chain (`Wire.handle`) refines the reference
  MULTI/EXEC machine (`Spec.Multi.refStep`) on every request and on every request sequence.
  Core Lean only.
-/
import RedkaModel.Spec.Multi
import RedkaModel.Model.Wire.Server
import RedkaModel.Model.Sched

namespace Redka.MultiProofs

open Redka Redka.Wire Redka.Spec.Multi

/-- the reference phase of a connection state -/
def phaseOf (st : ConnState) : Phase := if st.inMulti then .queuing st.cmds else .idle

/-- the connection state of a phase -/
def ofPhase : Phase → ConnState
  | .idle => {}
  | .queuing q => { inMulti := true, cmds := q }

/-- between two requests the command slice is empty unless the connection is in MULTI -/
def WFConn (st : ConnState) : Prop := st.inMulti = false → st.cmds = []

instance (st : ConnState) : Decidable (WFConn st) := by unfold WFConn; infer_instance

theorem phaseOf_ofPhase (ph : Phase) : phaseOf (ofPhase ph) = ph := by
  cases ph <;> simp [phaseOf, ofPhase]

theorem wf_ofPhase (ph : Phase) : WFConn (ofPhase ph) := by
  cases ph <;> simp [WFConn, ofPhase]

theorem ofPhase_phaseOf {st : ConnState} (h : WFConn st) : ofPhase (phaseOf st) = st := by
  cases st with
  | mk im cmds =>
    cases im
    · have : cmds = [] := h rfl
      simp [phaseOf, ofPhase, this]
    · simp [phaseOf, ofPhase]

theorem pop_push (s : ConnState) (c : ParsedCmd) : (s.push c).pop = (s, some c) := by
  simp [ConnState.push, ConnState.pop]

theorem oracle_nil (pos : Nat) : oracleAt [] pos = none := by simp [oracleAt]

theorem plainErr_eq (e : RErr) : plainErr e = errTok e := rfl

/-! ### the loop of `handleMulti` against the reference block -/

def segToks (l : List Seg) : List Token := l.flatMap (·.toks)

theorem runBlock_length (now : Int) (q : List ParsedCmd) (db : DB) :
    (runBlock now q db).replies.length = q.length := by
  induction q generalizing db with
  | nil => simp [runBlock]
  | cons c cs ih => simp [runBlock, ih]

/-- whatever the class, as long as no command leaves the model's domain the loop of `handleMulti` IS the
reference block: same tables, same replies — all of them —, and it reports a failure exactly when the
reference block is not ok -/
theorem runQueue_block (now : Int) (q : List ParsedCmd) (db : DB) (pos : Nat)
    (h : blockClass now q db ≠ .ood) :
    (runQueue q now db [] pos).ood = false ∧
    (runQueue q now db [] pos).db = (runBlock now q db).db ∧
    segToks (runQueue q now db [] pos).segs = (runBlock now q db).replies.flatten ∧
    (runQueue q now db [] pos).failed = !(runBlock now q db).ok ∧
    ((runBlock now q db).ok = true ↔ blockClass now q db = .clean) := by
  induction q generalizing db pos with
  | nil => simp [runQueue, runBlock, segToks, blockClass]
  | cons c cs ih =>
    simp only [blockClass, runQueue, oracle_nil, runBlock] at h ⊢
    generalize run c (Model.tx true) now db none = r at h ⊢
    cases h1 : r.ood with
    | true => simp [h1] at h
    | false =>
      simp only [h1, Bool.false_eq_true, if_false] at h ⊢
      have hne : blockClass now cs r.db ≠ .ood := by intro he; rw [he] at h; exact h rfl
      obtain ⟨i1, i2, i3, i4, i5⟩ := ih r.db (pos + r.toks.length) hne
      refine ⟨i1, i2, by simpa [segToks] using i3, by rw [i4, Bool.not_and, Bool.not_not], ?_⟩
      rw [Bool.and_eq_true, Bool.not_eq_true', i5]
      cases blockClass now cs r.db <;> cases r.failed <;> simp
theorem runQueue_clean (now : Int) (q : List ParsedCmd) (db : DB) (pos : Nat)
    (h : blockClass now q db = .clean) :
    (runQueue q now db [] pos).failed = false ∧ (runQueue q now db [] pos).ood = false ∧
    (runQueue q now db [] pos).db = (runBlock now q db).db ∧
    segToks (runQueue q now db [] pos).segs = (runBlock now q db).replies.flatten ∧
    (runBlock now q db).ok = true := by
  have hb := runQueue_block now q db pos (by rw [h]; decide)
  have hok : (runBlock now q db).ok = true := hb.2.2.2.2.2 h
  exact ⟨by rw [hb.2.2.2.1, hok]; rfl, hb.1, hb.2.1, hb.2.2.1, hok⟩

/-- a block with a failing command (D12, repaired): the loop reports the failure, and the replies are ALL the
replies of the reference block -/
theorem runQueue_fails (now : Int) (q : List ParsedCmd) (db : DB) (pos : Nat)
    (h : blockClass now q db = .fails) :
    (runQueue q now db [] pos).failed = true ∧ (runQueue q now db [] pos).ood = false ∧
    (runBlock now q db).ok = false ∧
    segToks (runQueue q now db [] pos).segs = (runBlock now q db).replies.flatten := by
  have hb := runQueue_block now q db pos (by rw [h]; decide)
  have hok : (runBlock now q db).ok = false := by
    cases hk : (runBlock now q db).ok with
    | false => rfl
    | true => have := hb.2.2.2.2.1 hk; rw [h] at this; cases this
  exact ⟨by rw [hb.2.2.2.1, hok]; rfl, hb.1, hok, hb.2.2.1⟩


theorem isName_eq (n : Bytes) (s : String) : isName n s = named n s := rfl

/-- the three results of the chain after a successful parse -/
def stage (st : ConnState) (db : DB) (now : Int) (pc : ParsedCmd) : ConnState × DB × List Token :=
  let o := multiStage (st.push pc) pc.name db now []
  (o.st, o.db, o.toks)

theorem handle_ok {req : List Bytes} {pc : ParsedCmd} (h : parse req = .ok pc) (st : ConnState) (db : DB)
    (now : Int) : handle st db now req = stage st db now pc := by
  simp [handle, handleX, h, afterParse, stage]

theorem handle_error {req : List Bytes} {e : RErr} (h : parse req = .error e) (st : ConnState) (db : DB)
    (now : Int) : handle st db now req = (st, db, [.err (errorText (asciiBytes e.text) [])]) := by
  simp [handle, handleX, h, Out.toks]

theorem handle_out_of_scope {req : List Bytes} (h : classify req = none) (st : ConnState) (db : DB)
    (now : Int) : handle st db now req = (st, db, []) := by
  unfold classify at h
  cases hp : parse req <;> simp_all [handle, handleX, Out.toks]

@[simp] theorem push_inMulti (st : ConnState) (pc : ParsedCmd) : (st.push pc).inMulti = st.inMulti := rfl

theorem stage_idle_multi (st : ConnState) (db : DB) (now : Int) (pc : ParsedCmd) (hs : st.inMulti = false)
    (h : named pc.name "multi" = true) :
    stage st db now pc = ({ st with inMulti := true }, db, [okTok]) := by
  simp [stage, multiStage, isName_eq, h, hs, pop_push, Out.toks]

theorem stage_idle_exec (st : ConnState) (db : DB) (now : Int) (pc : ParsedCmd) (hs : st.inMulti = false)
    (h1 : named pc.name "multi" = false) (h : named pc.name "exec" = true) :
    stage st db now pc = (st, db, [errTok .notInMulti]) := by
  simp [stage, multiStage, isName_eq, h, h1, hs, pop_push, Out.toks, plainErr_eq]

theorem stage_idle_discard (st : ConnState) (db : DB) (now : Int) (pc : ParsedCmd) (hs : st.inMulti = false)
    (h1 : named pc.name "multi" = false) (h2 : named pc.name "exec" = false)
    (h : named pc.name "discard" = true) :
    stage st db now pc = (st, db, [errTok .notInMulti]) := by
  simp [stage, multiStage, isName_eq, h, h1, h2, hs, pop_push, Out.toks, plainErr_eq]

theorem stage_idle_cmd (st : ConnState) (db : DB) (now : Int) (pc : ParsedCmd) (hs : st.inMulti = false)
    (h1 : named pc.name "multi" = false) (h2 : named pc.name "exec" = false)
    (h3 : named pc.name "discard" = false) :
    stage st db now pc = (st.clear, (run pc Model.dbRun now db none).db, (run pc Model.dbRun now db none).toks) := by
  simp [stage, multiStage, isName_eq, h1, h2, h3, hs, pop_push, Out.toks, handleNext, handleSingle, oracle_nil]

theorem stage_multi_multi (st : ConnState) (db : DB) (now : Int) (pc : ParsedCmd) (hs : st.inMulti = true)
    (h : named pc.name "multi" = true) :
    stage st db now pc = (st, db, [errTok .nestedMulti]) := by
  simp [stage, multiStage, isName_eq, h, hs, pop_push, Out.toks, plainErr_eq]

theorem stage_multi_exec (st : ConnState) (db : DB) (now : Int) (pc : ParsedCmd) (hs : st.inMulti = true)
    (h1 : named pc.name "multi" = false) (h : named pc.name "exec" = true) :
    stage st db now pc =
      ({}, (if (runQueue st.cmds now db [] 1).failed then db else (runQueue st.cmds now db [] 1).db),
        .arrayHdr st.cmds.length :: segToks (runQueue st.cmds now db [] 1).segs) := by
  simp [stage, multiStage, isName_eq, h, h1, hs, pop_push, Out.toks, handleNext, handleMulti, segToks,
    ConnState.clear]

theorem stage_multi_discard (st : ConnState) (db : DB) (now : Int) (pc : ParsedCmd) (hs : st.inMulti = true)
    (h1 : named pc.name "multi" = false) (h2 : named pc.name "exec" = false)
    (h : named pc.name "discard" = true) :
    stage st db now pc = ({}, db, [okTok]) := by
  simp [stage, multiStage, isName_eq, h, h1, h2, hs, Out.toks, ConnState.clear]

theorem stage_multi_cmd (st : ConnState) (db : DB) (now : Int) (pc : ParsedCmd) (hs : st.inMulti = true)
    (h1 : named pc.name "multi" = false) (h2 : named pc.name "exec" = false)
    (h3 : named pc.name "discard" = false) :
    stage st db now pc = (st.push pc, db, [queuedTok]) := by
  simp [stage, multiStage, isName_eq, h1, h2, h3, hs, Out.toks, queuedTok]


/-- the implementation's step seen through the abstraction -/
def implStep (st : ConnState) (db : DB) (now : Int) (req : List Bytes) : Phase × DB × List Token :=
  let r := handle st db now req
  (phaseOf r.1, r.2.1, r.2.2)

/-- what `handle` does on a well-formed state, per class of the step -/
def StepSpec (st : ConnState) (db : DB) (now : Int) (req : List Bytes) (r : Req) : Prop :=
  match stepClass (phaseOf st) db now r with
  | .clean => implStep st db now req = refStep (phaseOf st) db now r
  | .fails => implStep st db now req = refStep (phaseOf st) db now r ∧
      ∃ q, phaseOf st = .queuing q ∧ r = .exec ∧
        handle st db now req = ({}, db, .arrayHdr q.length :: (runBlock now q db).replies.flatten) ∧
        (runBlock now q db).ok = false
  | .ood => (handle st db now req).1 = {}

theorem step_spec (st : ConnState) (db : DB) (now : Int) (req : List Bytes) (r : Req)
    (hw : WFConn st) (hc : classify req = some r) :
    WFConn (handle st db now req).1 ∧ StepSpec st db now req r := by
  unfold classify at hc
  cases hp : parse req with
  | error e =>
    simp only [hp, Option.some.injEq] at hc
    subst hc
    simp [StepSpec, stepClass, implStep, handle_error hp, refStep, hw]
  | panic => simp [hp] at hc
  | outOfDomain => simp [hp] at hc
  | unsupported t => simp [hp] at hc
  | ok pc =>
    simp only [hp, Option.some.injEq] at hc
    rw [show handle st db now req = stage st db now pc from handle_ok hp st db now]
    unfold StepSpec implStep
    rw [show handle st db now req = stage st db now pc from handle_ok hp st db now]
    cases hs : st.inMulti with
    | false =>
      have hcm : st.cmds = [] := hw hs
      have hst : st = {} := by cases st; simp_all
      rw [show phaseOf st = .idle by simp [phaseOf, hs]]
      cases h1 : named pc.name "multi" with
      | true =>
        simp only [h1, if_true] at hc; subst hc
        simp [stepClass, stage_idle_multi st db now pc hs h1, refStep, phaseOf, WFConn, hcm]
      | false =>
        cases h2 : named pc.name "exec" with
        | true =>
          simp [h1, h2] at hc; subst hc
          simp [stepClass, stage_idle_exec st db now pc hs h1 h2, refStep, phaseOf, hw, hs]
        | false =>
          cases h3 : named pc.name "discard" with
          | true =>
            simp [h1, h2, h3] at hc; subst hc
            simp [stepClass, stage_idle_discard st db now pc hs h1 h2 h3, refStep, phaseOf, hw, hs]
          | false =>
            simp [h1, h2, h3] at hc; subst hc
            simp [stepClass, stage_idle_cmd st db now pc hs h1 h2 h3, refStep, phaseOf, WFConn,
              ConnState.clear, hs]
    | true =>
      rw [show phaseOf st = .queuing st.cmds by simp [phaseOf, hs]]
      cases h1 : named pc.name "multi" with
      | true =>
        simp only [h1, if_true] at hc; subst hc
        simp [stepClass, stage_multi_multi st db now pc hs h1, refStep, phaseOf, hw, hs]
      | false =>
        cases h2 : named pc.name "exec" with
        | true =>
          simp [h1, h2] at hc; subst hc
          rw [stage_multi_exec st db now pc hs h1 h2]
          refine ⟨by simp [WFConn], ?_⟩
          simp only [stepClass]
          cases hb : blockClass now st.cmds db with
          | clean =>
            have := runQueue_clean now st.cmds db 1 hb
            simp [refStep, phaseOf, this.1, this.2.2.1, this.2.2.2.1, this.2.2.2.2]
          | fails =>
            have := runQueue_fails now st.cmds db 1 hb
            simp [implStep, refStep, phaseOf, this.1, this.2.2.1, this.2.2.2]
          | ood => simp
        | false =>
          cases h3 : named pc.name "discard" with
          | true =>
            simp [h1, h2, h3] at hc; subst hc
            simp [stepClass, stage_multi_discard st db now pc hs h1 h2 h3, refStep, phaseOf, WFConn]
          | false =>
            simp [h1, h2, h3] at hc; subst hc
            simp [stepClass, stage_multi_cmd st db now pc hs h1 h2 h3, refStep, phaseOf, WFConn,
              ConnState.push, hs]


theorem take_flatten_prefix {α : Type} (l : List (List α)) (k : Nat) : (l.take k).flatten <+: l.flatten := by
  refine ⟨(l.drop k).flatten, ?_⟩
  rw [← List.flatten_append, List.take_append_drop]

theorem handle_preserves_wfconn (st : ConnState) (db : DB) (now : Int) (req : List Bytes) (hw : WFConn st) :
    WFConn (handle st db now req).1 := by
  cases hc : classify req with
  | none => rw [handle_out_of_scope hc]; exact hw
  | some r => exact (step_spec st db now req r hw hc).1

/-- the refinement relation holds on every in-scope step -/
theorem step_refines (st : ConnState) (db : DB) (now : Int) (req : List Bytes) (r : Req)
    (hw : WFConn st) (hc : classify req = some r) :
    Refines (stepClass (phaseOf st) db now r) (implStep st db now req) (refStep (phaseOf st) db now r) := by
  have h := (step_spec st db now req r hw hc).2
  unfold StepSpec at h
  unfold Refines
  cases hcl : stepClass (phaseOf st) db now r with
  | clean => simpa [hcl] using h
  | fails =>
    simp only [hcl] at h
    exact h.1
  | ood =>
    simp only [hcl] at h
    cases r <;> simp [stepClass] at hcl
    cases hph : phaseOf st with
    | idle => simp [hph] at hcl
    | queuing q => simp [implStep, h, refStep, phaseOf]

/-- the handler chain folded over a sequence of timed requests: final connection state, final
tables, the tokens written per request -/
def implRun (st : ConnState) (db : DB) : List (Int × List Bytes) → ConnState × DB × List (List Token)
  | [] => (st, db, [])
  | (now, req) :: rest =>
    let s := handle st db now req
    let t := implRun s.1 s.2.1 rest
    (t.1, t.2.1, s.2.2 :: t.2.2)

theorem run_refines (reqs : List (Int × List Bytes)) (as : List (Int × Req)) (st : ConnState) (db : DB)
    (hw : WFConn st) (hc : classifyAll reqs = some as) (hd : InDomainRun (phaseOf st) db as) :
    WFConn (implRun st db reqs).1 ∧
    phaseOf (implRun st db reqs).1 = (refRun (phaseOf st) db as).1 ∧
    (implRun st db reqs).2.1 = (refRun (phaseOf st) db as).2.1 ∧
    RepliesRefine (runClasses (phaseOf st) db as) (implRun st db reqs).2.2 (refRun (phaseOf st) db as).2.2 := by
  induction reqs generalizing as st db with
  | nil =>
    simp only [classifyAll, Option.some.injEq] at hc
    subst hc
    simp [implRun, refRun, runClasses, RepliesRefine, hw]
  | cons hd' rest ih =>
    obtain ⟨now, req⟩ := hd'
    simp only [classifyAll] at hc
    split at hc
    · rename_i a as' hca hcr
      simp only [Option.some.injEq] at hc
      subst hc
      have hw1 := handle_preserves_wfconn st db now req hw
      have hne : stepClass (phaseOf st) db now a ≠ .ood := hd _ (by simp [runClasses])
      -- inside the domain the step IS the reference step
      have heq : implStep st db now req = refStep (phaseOf st) db now a := by
        have hstep := step_refines st db now req a hw hca
        unfold Refines at hstep
        split at hstep
        · exact hstep
        · exact hstep
        · next hcl => exact absurd hcl hne
      have h1 : phaseOf (handle st db now req).1 = (refStep (phaseOf st) db now a).1 := congrArg (·.1) heq
      have h2 : (handle st db now req).2.1 = (refStep (phaseOf st) db now a).2.1 := congrArg (·.2.1) heq
      have ih' := ih as' (handle st db now req).1 (handle st db now req).2.1 hw1 hcr
        fun c hcm => hd c (by rw [h1, h2] at hcm; simp [runClasses, hcm])
      simp only [implRun, refRun, runClasses, RepliesRefine]
      rw [← h1, ← h2]
      refine ⟨ih'.1, ih'.2.1, ih'.2.2.1, ?_, ih'.2.2.2⟩
      split
      · exact congrArg (·.2.2) heq
      · exact congrArg (·.2.2) heq
      · trivial
    · cases hc

theorem repliesRefine_indomain (cs : List StepClass) (is rs : List (List Token)) (h : ∀ c ∈ cs, c ≠ .ood)
    (hr : RepliesRefine cs is rs) : is = rs := by
  induction cs generalizing is rs with
  | nil => cases is <;> cases rs <;> simp_all [RepliesRefine]
  | cons c cs ih =>
    cases is with
    | nil => simp [RepliesRefine] at hr
    | cons i is =>
      cases rs with
      | nil => simp [RepliesRefine] at hr
      | cons r rs =>
        simp only [RepliesRefine] at hr
        have hc : c ≠ .ood := h c (by simp)
        have hi : i = r := by
          cases c with
          | clean => exact hr.1
          | fails => exact hr.1
          | ood => exact absurd rfl hc
        rw [hi, ih is rs (fun c hc => h c (by simp [hc])) hr.2]

/-- failing blocks allowed: the whole run is the reference run as long as no block leaves the domain -/
theorem run_refines_indomain (reqs : List (Int × List Bytes)) (as : List (Int × Req)) (st : ConnState) (db : DB)
    (hw : WFConn st) (hc : classifyAll reqs = some as) (hd : InDomainRun (phaseOf st) db as) :
    (phaseOf (implRun st db reqs).1, (implRun st db reqs).2.1, (implRun st db reqs).2.2)
      = refRun (phaseOf st) db as := by
  have h := run_refines reqs as st db hw hc hd
  rw [h.2.1, h.2.2.1, repliesRefine_indomain _ _ _ hd h.2.2.2]

theorem run_refines_clean (reqs : List (Int × List Bytes)) (as : List (Int × Req)) (st : ConnState) (db : DB)
    (hw : WFConn st) (hc : classifyAll reqs = some as) (hcl : CleanRun (phaseOf st) db as) :
    (phaseOf (implRun st db reqs).1, (implRun st db reqs).2.1, (implRun st db reqs).2.2)
      = refRun (phaseOf st) db as :=
  run_refines_indomain reqs as st db hw hc fun c hc => by rw [hcl c hc]; decide


/-! ### the phase is a function of the connection's own requests -/

/-- the phase transition: it does not look at the tables, the clock or any other connection -/
def phaseStep (ph : Phase) : Req → Phase
  | .unparsable _ => ph
  | .multi => match ph with | .idle => .queuing [] | .queuing _ => ph
  | .exec => .idle
  | .discard => .idle
  | .cmd c => match ph with | .idle => .idle | .queuing q => .queuing (q ++ [c])

/-- … on raw requests; one outside the model's domain leaves the state alone -/
def phaseStepRaw (ph : Phase) (req : List Bytes) : Phase :=
  match classify req with
  | some r => phaseStep ph r
  | none => ph

theorem refStep_phase (ph : Phase) (db : DB) (now : Int) (r : Req) : (refStep ph db now r).1 = phaseStep ph r := by
  cases r <;> cases ph <;> rfl

theorem handle_phase (st : ConnState) (db : DB) (now : Int) (req : List Bytes) (hw : WFConn st) :
    phaseOf (handle st db now req).1 = phaseStepRaw (phaseOf st) req := by
  unfold phaseStepRaw
  cases hc : classify req with
  | none => simp [handle_out_of_scope hc]
  | some r =>
    have h := (step_spec st db now req r hw hc).2
    unfold StepSpec at h
    cases hcl : stepClass (phaseOf st) db now r with
    | clean => simp only [hcl] at h; simp [← refStep_phase (phaseOf st) db now r, ← h, implStep]
    | fails => simp only [hcl] at h; simp [← refStep_phase (phaseOf st) db now r, ← h.1, implStep]
    | ood =>
      simp only [hcl] at h
      cases r <;> simp [stepClass] at hcl
      simp [h, phaseStep, phaseOf]

/-! ### two connections on one database -/

/-- Two connections served by the same process on the same tables, one request at a time
(`conn = false`: the first connection, `true`: the second). Each has its OWN `connState`
(`conn.Context()`), the tables are shared. -/
def handle2 (sts : ConnState × ConnState) (db : DB) (now : Int) (conn : Bool) (req : List Bytes) :
    (ConnState × ConnState) × DB × List Token :=
  if conn then
    let r := handle sts.2 db now req
    ((sts.1, r.1), r.2.1, r.2.2)
  else
    let r := handle sts.1 db now req
    ((r.1, sts.2), r.2.1, r.2.2)

/-- an interleaving of the two connections' requests -/
def run2 (sts : ConnState × ConnState) (db : DB) :
    List (Bool × Int × List Bytes) → (ConnState × ConnState) × DB × List (List Token)
  | [] => (sts, db, [])
  | (conn, now, req) :: rest =>
    let s := handle2 sts db now conn req
    let t := run2 s.1 s.2.1 rest
    (t.1, t.2.1, s.2.2 :: t.2.2)

/-- the requests of one of the two connections -/
def ownReqs (conn : Bool) (l : List (Bool × Int × List Bytes)) : List (List Bytes) :=
  (l.filter (fun r => r.1 == conn)).map (fun r => r.2.2)

theorem run2_phases (l : List (Bool × Int × List Bytes)) (a b : ConnState) (db : DB)
    (ha : WFConn a) (hb : WFConn b) :
    WFConn (run2 (a, b) db l).1.1 ∧ WFConn (run2 (a, b) db l).1.2 ∧
    phaseOf (run2 (a, b) db l).1.1 = (ownReqs false l).foldl phaseStepRaw (phaseOf a) ∧
    phaseOf (run2 (a, b) db l).1.2 = (ownReqs true l).foldl phaseStepRaw (phaseOf b) := by
  induction l generalizing a b db with
  | nil => simp [run2, ownReqs, ha, hb]
  | cons x rest ih =>
    obtain ⟨conn, now, req⟩ := x
    cases conn with
    | false =>
      have ih' := ih (handle a db now req).1 b (handle a db now req).2.1
        (handle_preserves_wfconn a db now req ha) hb
      simp only [run2, handle2, ownReqs] at ih' ⊢
      simp [ih', handle_phase a db now req ha]
    | true =>
      have ih' := ih a (handle b db now req).1 (handle b db now req).2.1 ha
        (handle_preserves_wfconn b db now req hb)
      simp only [run2, handle2, ownReqs] at ih' ⊢
      simp [ih', handle_phase b db now req hb]

theorem foldl_phaseStep_cmds (q cs : List ParsedCmd) :
    (cs.map Req.cmd).foldl phaseStep (.queuing q) = .queuing (q ++ cs) := by
  induction cs generalizing q with
  | nil => simp
  | cons c cs ih => simp [phaseStep, ih]

/-! ### `handleMulti` is an `Update` -/

/-- the callback handed to `db.Update` by `handleMulti`, as a function of the transaction's
tables; which error it returns is not recorded by the command model, only that it returns one -/
def execBody (q : List ParsedCmd) (now : Int) (db : DB) : Res :=
  let r := runQueue q now db [] 1
  ⟨if r.failed then .error .notAllowed else .ok .nil, r.db⟩

theorem handleMulti_is_update (st : ConnState) (db : DB) (now : Int) :
    (handleMulti st db now [] 1).db = (update (execBody st.cmds now) db).db := by
  simp only [handleMulti, update, execBody]
  cases (runQueue st.cmds now db [] 1).failed <;> simp

/-- A queued command that, on these tables, does exactly what ONE repository operation does as a
method of the transaction: same tables afterwards, inside the command model's domain, and `Run`
returns an error exactly when the operation does. -/
def OpLike (c : ParsedCmd) (op : Op) (now : Int) (db : DB) : Prop :=
  (run c (Model.tx true) now db none).ood = false ∧
  (run c (Model.tx true) now db none).db = (Model.tx true op now db).db ∧
  (run c (Model.tx true) now db none).failed =
    (match (Model.tx true op now db).out with | .error _ => true | .ok _ => false)

instance (c : ParsedCmd) (op : Op) (now : Int) (db : DB) : Decidable (OpLike c op now db) := by
  unfold OpLike; infer_instance

/-- … for every command of a queue, each on the tables its predecessors leave -/
def OpLikeAlong (now : Int) : List ParsedCmd → List Op → DB → Prop
  | [], [], _ => True
  | c :: cs, o :: os, db => OpLike c o now db ∧ OpLikeAlong now cs os (Model.tx true o now db).db
  | _, _, _ => False

instance decOpLikeAlong (now : Int) :
    (q : List ParsedCmd) → (ops : List Op) → (db : DB) → Decidable (OpLikeAlong now q ops db)
  | [], [], _ => by unfold OpLikeAlong; infer_instance
  | c :: cs, o :: os, db => by
    unfold OpLikeAlong; exact @instDecidableAnd _ _ _ (decOpLikeAlong now cs os _)
  | [], _ :: _, _ => by unfold OpLikeAlong; infer_instance
  | _ :: _, [], _ => by unfold OpLikeAlong; infer_instance

theorem runQueue_is_runOps (now : Int) (q : List ParsedCmd) (ops : List Op) (db : DB) (pos : Nat)
    (h : OpLikeAlong now q ops db) :
    (runQueue q now db [] pos).failed = (Model.runOps true now ops db).1.isSome ∧
    ((Model.runOps true now ops db).1 = none →
      (runQueue q now db [] pos).db = (Model.runOps true now ops db).2) := by
  induction q generalizing ops db pos with
  | nil =>
    cases ops with
    | nil => simp [runQueue, Model.runOps]
    | cons o os => simp [OpLikeAlong] at h
  | cons c cs ih =>
    cases ops with
    | nil => simp [OpLikeAlong] at h
    | cons o os =>
      simp only [OpLikeAlong, OpLike] at h
      obtain ⟨⟨h1, h2, h3⟩, h4⟩ := h
      simp only [runQueue, oracle_nil, Model.runOps, h1]
      cases ho : (Model.tx true o now db).out with
      | error e =>
        -- the loop goes on after the failing command (its later replies are written), the block job stops:
        -- both report the failure, and the tables of a failed block are rolled back on both sides
        simp only [ho] at h3
        simp [h3]
      | ok v =>
        simp only [ho] at h3
        have ih' := ih os (Model.tx true o now db).db
          (pos + (run c (Model.tx true) now db none).toks.length) h4
        simp [h3, h2, ih'.1]
        intro hn
        exact ih'.2 hn

/-- On such a queue the effect of `handleMulti` on the tables is the effect of the concurrency
model's block job `Sched.Job.block true ops` executed alone, and it fails exactly when the job does. -/
theorem handleMulti_is_block (st : ConnState) (ops : List Op) (db : DB) (now : Int)
    (h : OpLikeAlong now st.cmds ops db) :
    (handleMulti st db now [] 1).db = (Sched.Job.seq (.block true ops) now db).db ∧
    ((runQueue st.cmds now db [] 1).failed = false ↔ ∃ v, (Sched.Job.seq (.block true ops) now db).out = .ok v) := by
  have hq := runQueue_is_runOps now st.cmds ops db 1 h
  simp only [handleMulti, Sched.Job.seq, Sched.Job.txBody, update, hq.1]
  cases hr : (Model.runOps true now ops db).1 with
  | none => simp [hq.2 hr]
  | some e => simp


/-- the class of requests on which D12 (repaired) showed: the request is
EXEC, the connection is in MULTI, and some queued command's `Run` returns an error (all commands of the block
being inside the command model's domain). -/
def BlockFails (st : ConnState) (db : DB) (now : Int) (req : List Bytes) : Prop :=
  st.inMulti = true ∧ classify req = some .exec ∧ blockClass now st.cmds db = .fails

/-- outside the wire model's domain: the request itself (non-ASCII name, number outside the parser
model, empty request, unknown grammar — never a panic since the repair of D11), or an
EXEC whose block meets a command outside the command model's numeric domain before any failure -/
def OutOfDomain (st : ConnState) (db : DB) (now : Int) (req : List Bytes) : Prop :=
  classify req = none ∨ (st.inMulti = true ∧ classify req = some .exec ∧ blockClass now st.cmds db = .ood)

instance (st : ConnState) (db : DB) (now : Int) (req : List Bytes) : Decidable (BlockFails st db now req) := by
  unfold BlockFails; infer_instance

instance (st : ConnState) (db : DB) (now : Int) (req : List Bytes) : Decidable (OutOfDomain st db now req) := by
  unfold OutOfDomain; infer_instance

theorem stepClass_fails_iff (st : ConnState) (db : DB) (now : Int) (req : List Bytes) (r : Req)
    (hc : classify req = some r) :
    stepClass (phaseOf st) db now r = .fails ↔ BlockFails st db now req := by
  unfold BlockFails
  cases r <;> cases hs : st.inMulti <;> simp [stepClass, phaseOf, hs, hc]

theorem stepClass_ood_iff (st : ConnState) (db : DB) (now : Int) (req : List Bytes) (r : Req)
    (hc : classify req = some r) :
    stepClass (phaseOf st) db now r = .ood ↔ OutOfDomain st db now req := by
  unfold OutOfDomain
  cases r <;> cases hs : st.inMulti <;> simp [stepClass, phaseOf, hs, hc]

theorem stepClass_clean_of (st : ConnState) (db : DB) (now : Int) (req : List Bytes) (r : Req)
    (hc : classify req = some r) (hf : ¬ BlockFails st db now req) (ho : ¬ OutOfDomain st db now req) :
    stepClass (phaseOf st) db now r = .clean := by
  cases h : stepClass (phaseOf st) db now r with
  | clean => rfl
  | fails => exact absurd ((stepClass_fails_iff st db now req r hc).mp h) hf
  | ood => exact absurd ((stepClass_ood_iff st db now req r hc).mp h) ho

theorem classify_multi {req : List Bytes} (h : classify req = some .multi) :
    ∃ pc, parse req = .ok pc ∧ named pc.name "multi" = true := by
  unfold classify at h
  cases hp : parse req <;> simp [hp] at h
  rename_i pc
  refine ⟨pc, rfl, ?_⟩
  cases h1 : named pc.name "multi"
  · exfalso; revert h; simp only [h1]; split <;> (try split) <;> simp
  · rfl

theorem classify_exec {req : List Bytes} (h : classify req = some .exec) :
    ∃ pc, parse req = .ok pc ∧ named pc.name "multi" = false ∧ named pc.name "exec" = true := by
  unfold classify at h
  cases hp : parse req <;> simp [hp] at h
  rename_i pc
  refine ⟨pc, rfl, ?_⟩
  cases h1 : named pc.name "multi" <;> cases h2 : named pc.name "exec" <;> simp [h1, h2] at h ⊢
  revert h; split <;> simp

theorem classify_discard {req : List Bytes} (h : classify req = some .discard) :
    ∃ pc, parse req = .ok pc ∧ named pc.name "multi" = false ∧ named pc.name "exec" = false ∧
      named pc.name "discard" = true := by
  unfold classify at h
  cases hp : parse req <;> simp [hp] at h
  rename_i pc
  refine ⟨pc, rfl, ?_⟩
  cases h1 : named pc.name "multi" <;> cases h2 : named pc.name "exec" <;>
    cases h3 : named pc.name "discard" <;> simp [h1, h2, h3] at h ⊢

theorem classify_cmd {req : List Bytes} {c : ParsedCmd} (h : classify req = some (.cmd c)) :
    parse req = .ok c ∧ named c.name "multi" = false ∧ named c.name "exec" = false ∧
      named c.name "discard" = false := by
  unfold classify at h
  cases hp : parse req <;> simp [hp] at h
  rename_i pc
  cases h1 : named pc.name "multi" <;> cases h2 : named pc.name "exec" <;>
    cases h3 : named pc.name "discard" <;> simp [h1, h2, h3] at h
  subst h
  exact ⟨rfl, h1, h2, h3⟩

theorem classify_unparsable {req : List Bytes} {e : RErr} (h : classify req = some (.unparsable e)) :
    parse req = .error e := by
  unfold classify at h
  cases hp : parse req <;> simp [hp] at h
  · rename_i pc
    revert h; split <;> (try split) <;> (try split) <;> simp
  · rw [h]

/-- the tables after the commands `cs`, each run as a method of the same transaction -/
def blockDb (now : Int) (cs : List ParsedCmd) (db : DB) : DB :=
  cs.foldl (fun d c => (run c (Model.tx true) now d none).db) db

theorem runBlock_db (now : Int) (q : List ParsedCmd) (db : DB) : (runBlock now q db).db = blockDb now q db := by
  induction q generalizing db with
  | nil => simp [runBlock, blockDb]
  | cons c cs ih => simp [runBlock, blockDb, ih]

theorem runBlock_reply (now : Int) (q : List ParsedCmd) (db : DB) (i : Nat) :
    (runBlock now q db).replies[i]? =
      q[i]?.map (fun c => (run c (Model.tx true) now (blockDb now (q.take i) db) none).toks) := by
  induction q generalizing db i with
  | nil => simp [runBlock]
  | cons c cs ih =>
    cases i with
    | zero => simp [runBlock, blockDb]
    | succ i => simp [runBlock, blockDb, ih]

/-- what D12 (repaired) looked like on the wire: a reply that stops after `k` commands of the block differs from the
whole one exactly when the commands after them write something -/
theorem short_reply_iff {α : Type} (hdr : α) (l : List (List α)) (k : Nat) :
    hdr :: (l.take k).flatten ≠ hdr :: l.flatten ↔ (l.drop k).flatten ≠ [] := by
  have : l.flatten = (l.take k).flatten ++ (l.drop k).flatten := by
    rw [← List.flatten_append, List.take_append_drop]
  rw [this]
  simp

/-- a reply of the block that is not empty makes the rest of the replies non-empty -/
theorem drop_flatten_ne_nil {α : Type} (l : List (List α)) (k : Nat) (x : List α) (hk : l[k]? = some x)
    (hx : x ≠ []) : (l.drop k).flatten ≠ [] := by
  have hlt : k < l.length := by
    cases h : l[k]? with
    | none => simp [h] at hk
    | some y => exact (List.getElem?_eq_some_iff.mp h).1
  rw [List.drop_eq_getElem_cons hlt]
  have : l[k] = x := by
    have := List.getElem?_eq_getElem hlt
    rw [this] at hk; exact Option.some.inj hk
  simp [this, hx]

end Redka.MultiProofs
