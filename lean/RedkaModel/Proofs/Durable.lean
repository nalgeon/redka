/-
  Lemmas for C09 (`Props/C09.lean`): the process model of `Model/Durable.lean` computes what
  `Model.dbRun` computes, closed forms for `recovered` / `acked` / `durable`, what the generated
  constants say about `Open`, `OpenRead` and `Close`.
-/
import RedkaModel.Model.Durable
import RedkaModel.Props.C07
import RedkaModel.Props.C11

namespace Redka.Proofs.Durable

open Redka Redka.Model Redka.Durable

theorem allIfNotExists_true : allIfNotExists = true := by decide +kernel

theorem createSchema_some (db : DB) : createSchema db = some db := by
  have h : allKeepOf schemaTable Generated.schemaNames = true := allIfNotExists_true
  simp [createSchema, createSchemaOf, h]

theorem iter_id (f : DB → DB) (hf : ∀ d, f d = d) : ∀ (n : Nat) (db : DB), iter f n db = db := by
  intro n
  induction n with
  | zero => intro db; rfl
  | succ n ih => intro db; simp only [iter, hf, ih]

/-- the three settings of `sqlx.DefaultPragma` the model and its trust rest on -/
theorem defaultPragma_tie :
    hasPragma Generated.c_sqlx_DefaultPragma "journal_mode=wal" = true ∧
    hasPragma Generated.c_sqlx_DefaultPragma "synchronous=normal" = true ∧
    hasPragma Generated.c_sqlx_DefaultPragma "foreign_keys=on" = true := by decide +kernel

/-- `OpenRead` mentions `sqlx.New(` and not `sqlx.Open(` (one declaration, so that the kernel
decodes the body once) -/
theorem openRead_tie :
    hasSub Generated.c_redka_OpenRead "sqlx.Open(" = false ∧
    hasSub Generated.c_redka_OpenRead "sqlx.New(" = true := by decide +kernel

theorem openReadRunsSchema_false : openReadRunsSchema = false := by
  simp [openReadRunsSchema, openRead_tie]

theorem readOnlyStartsCleaner_false : readOnlyStartsCleaner = false := by
  simp [readOnlyStartsCleaner, show Generated.c_new_bgStart = "[!opts.readonly] rdb.startBgManager()" from rfl]

theorem openRW_eq (db : DB) : openRW db = some { db with fk := true } := by
  simp [openRW, applySettings, createSchema_some, defaultPragma_tie]

theorem openRO_eq (db : DB) : openRO db = some db := by
  simp [openRO, openReadRunsSchema_false, readOnlyStartsCleaner_false]

theorem close_eq (db : DB) : close db = some db := by
  simp [close, show Generated.c_close_calls = "db.bg.Stop(); db.RW.Close(); db.RO.Close()" from rfl]

theorem tables_setFk (db : DB) (b : Bool) : tables { db with fk := b } = tables db := rfl

theorem cycle_tables (m : Mode) (db : DB) :
    ∃ d, cycle m db = some d ∧ tables d = tables db ∧ (db.fk = true → d = db) := by
  cases m
  · refine ⟨{ db with fk := true }, by simp [cycle, openAs, openRW_eq, close_eq], rfl, ?_⟩
    intro h; cases db; simp_all
  · exact ⟨db, by simp [cycle, openAs, openRO_eq, close_eq], rfl, fun _ => rfl⟩

/-! ### one operation of the process = `Model.dbRun` -/

theorem settle_exec_committed (p : Proc) (o : Op × Int) :
    (settle (exec p o) o).store.committed = (Model.dbRun o.1 o.2 p.store.committed).db := by
  unfold settle exec Model.dbRun update
  cases hw : wrapOf o.1 <;> simp only [decide_true, decide_false, reduceCtorEq] <;>
    cases ho : (Model.tx _ o.1 o.2 p.store.committed).out <;> simp

theorem settle_exec_settled (p : Proc) (o : Op × Int) :
    (settle (exec p o) o).settled = p.settled + 1 := by
  unfold settle exec
  cases hw : wrapOf o.1 <;> simp only [] <;>
    cases ho : (Model.tx _ o.1 o.2 p.store.committed).out <;> simp

theorem settle_exec_acks (p : Proc) (o : Op × Int) : (settle (exec p o) o).acks = p.acks := by
  unfold settle exec
  cases hw : wrapOf o.1 <;> simp only [] <;>
    cases ho : (Model.tx _ o.1 o.2 p.store.committed).out <;> simp

theorem complete_committed (p : Proc) (o : Op × Int) :
    (complete p o).store.committed = (Model.dbRun o.1 o.2 p.store.committed).db := by
  simp only [complete, ack]; exact settle_exec_committed p o

theorem complete_settled (p : Proc) (o : Op × Int) : (complete p o).settled = p.settled + 1 := by
  simp only [complete, ack]; exact settle_exec_settled p o

theorem complete_acks (p : Proc) (o : Op × Int) : (complete p o).acks = p.acks + 1 := by
  simp only [complete, ack]; rw [settle_exec_acks]

/-- nothing volatile is left between two operations -/
theorem complete_working (p : Proc) (o : Op × Int) : (complete p o).working = none := rfl

theorem foldl_complete (l : Workload) : ∀ p : Proc,
    (l.foldl complete p).store.committed = runFrom l p.store.committed ∧
    (l.foldl complete p).settled = p.settled + l.length ∧
    (l.foldl complete p).acks = p.acks + l.length := by
  induction l with
  | nil => intro p; exact ⟨rfl, rfl, rfl⟩
  | cons o l ih =>
    intro p
    obtain ⟨h1, h2, h3⟩ := ih (complete p o)
    simp only [List.foldl_cons, List.length_cons]
    refine ⟨?_, ?_, ?_⟩
    · rw [h1, complete_committed]; rfl
    · rw [h2, complete_settled]; omega
    · rw [h3, complete_acks]; omega

theorem runFrom_eq_run (ops : Workload) (db : DB) : runFrom ops db = Props.C11.run ops db := rfl

theorem runFrom_append (a b : Workload) (db : DB) : runFrom (a ++ b) db = runFrom b (runFrom a db) := by
  simp [runFrom, List.foldl_append]

/-- the state after `k` operations is the state after `j ≤ k` operations followed by operations
`j+1 … k`, each run whole -/
theorem stateAfter_split (w : Workload) (j k : Nat) (h : j ≤ k) :
    stateAfter w k = runFrom ((w.take k).drop j) (stateAfter w j) := by
  unfold stateAfter
  rw [← runFrom_append]
  have : w.take j = (w.take k).take j := by rw [List.take_take, Nat.min_eq_left h]
  rw [this, List.take_append_drop]

theorem stateAfter_succ (w : Workload) (i : Nat) :
    stateAfter w (i + 1) = runFrom w[i]?.toList (stateAfter w i) := by
  unfold stateAfter
  rw [List.take_add_one, runFrom_append]

theorem stateAfter_succ_some (w : Workload) (i : Nat) (o : Op × Int) (h : w[i]? = some o) :
    stateAfter w (i + 1) = (Model.dbRun o.1 o.2 (stateAfter w i)).db := by
  rw [stateAfter_succ, h]; rfl

theorem stateAfter_succ_none (w : Workload) (i : Nat) (h : w[i]? = none) :
    stateAfter w (i + 1) = stateAfter w i := by
  rw [stateAfter_succ, h]; rfl

theorem stateAfter_ge (w : Workload) (j : Nat) (h : w.length ≤ j) : stateAfter w j = stateAfter w w.length := by
  unfold stateAfter
  rw [List.take_of_length_le h, List.take_of_length_le (Nat.le_refl _)]

def prefixProc (w : Workload) (i : Nat) : Proc := (w.take i).foldl complete boot

theorem prefixProc_facts (w : Workload) (i : Nat) :
    (prefixProc w i).store.committed = stateAfter w i ∧
    (prefixProc w i).settled = min i w.length ∧
    (prefixProc w i).acks = min i w.length := by
  obtain ⟨h1, h2, h3⟩ := foldl_complete (w.take i) boot
  refine ⟨h1, ?_, ?_⟩
  · rw [prefixProc, h2, List.length_take]; simp [boot]
  · rw [prefixProc, h3, List.length_take]; simp [boot]

theorem runUntil_none (w : Workload) (c : Crash) (h : w[c.i]? = none) :
    runUntil w c = prefixProc w c.i := by
  simp only [runUntil, h]; rfl

theorem runUntil_some (w : Workload) (c : Crash) (o : Op × Int) (h : w[c.i]? = some o) :
    runUntil w c = opUntil c.phase (prefixProc w c.i) o := by
  simp only [runUntil, h]; rfl

theorem recovered_closed (w : Workload) (c : Crash) :
    recovered w c = stateAfter w (if c.phase.settled then c.i + 1 else c.i) := by
  obtain ⟨i, ph⟩ := c
  unfold recovered crash
  cases hget : w[i]? with
  | none =>
    rw [runUntil_none w _ hget, (prefixProc_facts w i).1]
    split
    · exact (stateAfter_succ_none w i hget).symm
    · rfl
  | some o =>
    rw [runUntil_some w _ o hget]
    have hp := (prefixProc_facts w i).1
    cases ph <;> simp only [opUntil, Phase.settled]
    · exact hp
    · simpa [exec] using hp
    · rw [settle_exec_committed, hp]; exact (stateAfter_succ_some w i o hget).symm
    · rw [complete_committed, hp]; exact (stateAfter_succ_some w i o hget).symm

/-- what the (possibly partial) operation in flight adds to the two counters -/
theorem opUntil_counts (ph : Phase) (p : Proc) (o : Op × Int) :
    (opUntil ph p o).settled = p.settled + (if ph.settled then 1 else 0) ∧
    (opUntil ph p o).acks = p.acks + (if ph = .afterAck then 1 else 0) := by
  cases ph
  · exact ⟨rfl, rfl⟩
  · exact ⟨rfl, rfl⟩
  · exact ⟨settle_exec_settled p o, settle_exec_acks p o⟩
  · exact ⟨complete_settled p o, complete_acks p o⟩

theorem counts_closed (w : Workload) (c : Crash) :
    durable w c = (if c.phase.settled = true ∧ c.i < w.length then c.i + 1 else min c.i w.length) ∧
    acked w c = (if c.phase = .afterAck ∧ c.i < w.length then c.i + 1 else min c.i w.length) := by
  obtain ⟨i, ph⟩ := c
  obtain ⟨-, hs, ha⟩ := prefixProc_facts w i
  unfold durable acked
  cases hget : w[i]? with
  | none =>
    have hlen : w.length ≤ i := by simpa using hget
    rw [runUntil_none w _ hget, hs, ha]
    simp only []
    rw [if_neg (by omega), if_neg (by omega)]
    exact ⟨rfl, rfl⟩
  | some o =>
    have hlen : i < w.length := by
      rcases Nat.lt_or_ge i w.length with h | h
      · exact h
      · rw [List.getElem?_eq_none h] at hget; cases hget
    rw [runUntil_some w _ o hget, (opUntil_counts ..).1, (opUntil_counts ..).2, hs, ha]
    cases ph <;> simp [Phase.settled, hlen] <;> omega

theorem acked_closed (w : Workload) (c : Crash) :
    acked w c = if c.phase = .afterAck ∧ c.i < w.length then c.i + 1 else min c.i w.length :=
  (counts_closed w c).2

theorem durable_closed (w : Workload) (c : Crash) :
    durable w c = if c.phase.settled = true ∧ c.i < w.length then c.i + 1 else min c.i w.length :=
  (counts_closed w c).1

end Redka.Proofs.Durable
