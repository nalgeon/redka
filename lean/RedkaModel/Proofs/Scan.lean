/-
  Lemmas about the abstract cursor iteration of `Model/Scan.lean`.
-/
import RedkaModel.Model.Scan
import RedkaModel.Proofs.Lists

namespace Redka.Scan

open Redka

variable {α : Type}

theorem default_le_maxD (d : Int) : ∀ (l : List Int), d ≤ maxD d l
  | [] => by simp [maxD]
  | y :: ys => by
    have := default_le_maxD d ys
    simp only [maxD]
    split <;> omega

theorem maxD_eq_or_mem (d : Int) : ∀ (l : List Int), maxD d l = d ∨ maxD d l ∈ l
  | [] => by simp [maxD]
  | y :: ys => by
    simp only [maxD]
    split
    · simp
    · rcases maxD_eq_or_mem d ys with h | h
      · exact Or.inl h
      · exact Or.inr (List.mem_cons_of_mem _ h)

theorem limit_split {β : Type} (count : Option Nat) (l : List β) :
    ∃ rest, l = limit count l ++ rest := by
  cases count with
  | none => exact ⟨[], by simp [limit]⟩
  | some n => exact ⟨l.drop n, by simp [limit]⟩

theorem limit_ne_nil {β : Type} {count : Option Nat} (hc : count ≠ some 0) {l : List β}
    (hl : l ≠ []) : limit count l ≠ [] := by
  cases count with
  | none => simpa [limit] using hl
  | some n =>
    cases n with
    | zero => exact absurd rfl hc
    | succ n =>
      cases l with
      | nil => exact absurd rfl hl
      | cons x xs => simp [limit]

theorem limit_eq_nil_iff {β : Type} {count : Option Nat} (hc : count ≠ some 0) {l : List β} :
    limit count l = [] ↔ l = [] := by
  constructor
  · intro h
    apply Classical.byContradiction
    intro hl
    exact limit_ne_nil hc hl h
  · rintro rfl
    cases count <;> simp [limit]

theorem limit_sublist {β : Type} (count : Option Nat) (l : List β) : (limit count l).Sublist l := by
  cases count with
  | none => exact List.Sublist.refl _
  | some n => exact List.take_sublist _ _

theorem limit_map {β γ : Type} (f : β → γ) (count : Option Nat) (l : List β) :
    limit count (l.map f) = (limit count l).map f := by
  cases count with
  | none => rfl
  | some n => simp [limit, List.map_take]

/-- "no limit" is the same as a limit no smaller than the table -/
theorem limit_none_eq {β : Type} (l : List β) (n : Nat) (h : l.length ≤ n) :
    limit none l = limit (some n) l := by
  simp [limit, List.take_of_length_le h]

theorem sel_iff (p : α → Bool) (c : Int) (r : Row α) :
    sel p c r = true ↔ c < r.id ∧ p r.val = true := by
  simp [sel]

theorem filter_sel_of_le (rows : List (Row α)) (p : α → Bool) {c c' : Int} (h : c ≤ c') :
    rows.filter (sel p c') = (rows.filter (sel p c)).filter (fun r => decide (c' < r.id)) := by
  rw [List.filter_filter]
  apply List.filter_congr
  intro r _
  by_cases h1 : c' < r.id
  · have : c < r.id := by omega
    simp [sel, h1, this]
  · simp [sel, h1]

theorem filter_sel_zero (rows : List (Row α)) (p : α → Bool) (hpos : ∀ r ∈ rows, 0 < r.id) :
    rows.filter (sel p 0) = rows.filter (fun r => p r.val) := by
  apply List.filter_congr
  intro r hr
  simp [sel, hpos r hr]

theorem mem_page {rows : List (Row α)} {p : α → Bool} {c : Int} {count : Option Nat} {r : Row α}
    (h : r ∈ page rows p c count) : r ∈ rows ∧ c < r.id ∧ p r.val = true := by
  have h1 := (limit_sublist count _).subset h
  have h2 := List.mem_filter.1 h1
  exact ⟨h2.1, (sel_iff p c r).1 h2.2⟩

/-- An empty page means exactly that nothing selectable is left (any row order). -/
theorem page_eq_nil_iff (rows : List (Row α)) (p : α → Bool) (c : Int) {count : Option Nat}
    (hc : count ≠ some 0) :
    page rows p c count = [] ↔ ∀ r ∈ rows, r.id > c → p r.val = false := by
  unfold page
  rw [limit_eq_nil_iff hc, List.filter_eq_nil_iff]
  constructor
  · intro h r hr hid
    have := h r hr
    rw [sel_iff] at this
    cases hp : p r.val with
    | false => rfl
    | true => exact absurd ⟨hid, hp⟩ this
  · intro h r hr hs
    rw [sel_iff] at hs
    have := h r hr hs.1
    rw [hs.2] at this
    cases this

theorem nextCursorLast_eq {pg : List (Row α)} (h : pg ≠ []) :
    nextCursorLast pg = (pg.getLast h).id := by
  simp [nextCursorLast, List.getLast?_eq_some_getLast h]

/-- Any row order: the new cursor is beyond the old one and covers at least one row of the page. -/
theorem next_progress (rule : CursorRule) {pg : List (Row α)} {c : Int} (hne : pg ≠ [])
    (hgt : ∀ a ∈ pg, c < a.id) :
    c < rule.next pg ∧ ∃ a ∈ pg, a.id ≤ rule.next pg := by
  cases rule with
  | last =>
    simp only [CursorRule.next, nextCursorLast_eq hne]
    have hm := List.getLast_mem hne
    exact ⟨hgt _ hm, _, hm, Int.le_refl _⟩
  | max =>
    simp only [CursorRule.next, nextCursorMax]
    cases pg with
    | nil => exact absurd rfl hne
    | cons a t =>
      have h1 : a.id ≤ maxD 0 ((a :: t).map (·.id)) := le_maxD 0 _ _ (by simp)
      have h2 := hgt a (by simp)
      exact ⟨by omega, a, by simp, h1⟩

theorem le_getLast_of_pairwise {pg : List (Row α)} (hne : pg ≠ [])
    (hs : pg.Pairwise (fun a b => a.id < b.id)) : ∀ a ∈ pg, a.id ≤ (pg.getLast hne).id := by
  intro a ha
  have hsplit := List.dropLast_concat_getLast hne
  rw [← hsplit] at ha hs
  rcases List.mem_append.1 ha with h | h
  · have := (List.pairwise_append.1 hs).2.2 a h (pg.getLast hne) (by simp)
    omega
  · simp at h
    rw [h]
    exact Int.le_refl _

/-- Id-sorted page with positive ids: both rules hand back the largest id of the page, which is the
id of one of its rows. -/
theorem next_sorted (rule : CursorRule) {pg : List (Row α)} (hne : pg ≠ [])
    (hs : pg.Pairwise (fun a b => a.id < b.id)) (hpos : ∀ a ∈ pg, 0 < a.id) :
    (∀ a ∈ pg, a.id ≤ rule.next pg) ∧ ∃ a ∈ pg, a.id = rule.next pg := by
  cases rule with
  | last =>
    simp only [CursorRule.next, nextCursorLast_eq hne]
    exact ⟨le_getLast_of_pairwise hne hs, _, List.getLast_mem hne, rfl⟩
  | max =>
    simp only [CursorRule.next, nextCursorMax]
    have hub : ∀ a ∈ pg, a.id ≤ maxD 0 (pg.map (·.id)) :=
      fun a ha => le_maxD 0 _ _ (List.mem_map.2 ⟨a, ha, rfl⟩)
    refine ⟨hub, ?_⟩
    rcases maxD_eq_or_mem 0 (pg.map (·.id)) with h | h
    · cases pg with
      | nil => exact absurd rfl hne
      | cons a t =>
        have := hub a (by simp)
        have := hpos a (by simp)
        omega
    · obtain ⟨a, ha, hid⟩ := List.mem_map.1 h
      exact ⟨a, ha, hid⟩

/-- On an id-sorted page with positive ids the two cursor rules agree. -/
theorem nextCursorMax_eq_last {pg : List (Row α)}
    (hs : pg.Pairwise (fun a b => a.id < b.id)) (hpos : ∀ a ∈ pg, 0 < a.id) :
    nextCursorMax pg = nextCursorLast pg := by
  by_cases hne : pg = []
  · subst hne; rfl
  · have h1 := next_sorted .max hne hs hpos
    have h2 := next_sorted .last hne hs hpos
    simp only [CursorRule.next] at h1 h2
    obtain ⟨a, ha, hae⟩ := h1.2
    obtain ⟨b, hb, hbe⟩ := h2.2
    have := h1.1 b hb
    have := h2.1 a ha
    omega

/-- The cursor `0` is handed back only together with an empty page (ids positive). -/
theorem next_eq_zero_iff (rule : CursorRule) {pg : List (Row α)} (hpos : ∀ a ∈ pg, 0 < a.id) :
    rule.next pg = 0 ↔ pg = [] := by
  constructor
  · intro h
    apply Classical.byContradiction
    intro hne
    have := (next_progress rule (c := 0) hne hpos).1
    omega
  · rintro rfl
    cases rule <;> rfl

/-! ### termination, for any row order and either rule -/

theorem length_filter_lt {β : Type} {q q' : β → Bool} (himp : ∀ x, q' x = true → q x = true)
    {l : List β} {x : β} (hx : x ∈ l) (hq : q x = true) (hq' : q' x = false) :
    (l.filter q').length < (l.filter q).length := by
  have hsub : l.filter q' = (l.filter q).filter q' := by
    rw [List.filter_filter]
    apply List.filter_congr
    intro z _
    cases h : q' z with
    | false => simp
    | true => simp [himp z h]
  rw [hsub]
  refine Nat.lt_of_le_of_ne (List.length_filter_le _ _) (fun he => ?_)
  have := List.length_filter_eq_length_iff.mp he x (List.mem_filter.mpr ⟨hx, hq⟩)
  rw [hq'] at this
  cases this

/-- Every non-empty page strictly shrinks the set of rows the next call can select. -/
theorem sel_count_decreases (rule : CursorRule) (rows : List (Row α)) (p : α → Bool) (c : Int)
    (count : Option Nat) (hne : page rows p c count ≠ []) :
    (rows.filter (sel p (rule.next (page rows p c count)))).length
      < (rows.filter (sel p c)).length := by
  obtain ⟨hlt, a, ha, hle⟩ := next_progress rule (c := c) hne (fun a ha => (mem_page ha).2.1)
  have hma := mem_page ha
  have hsel : sel p c a = true := by rw [sel_iff]; exact ⟨hma.2.1, hma.2.2⟩
  have hnsel : sel p (rule.next (page rows p c count)) a = false := by
    cases h : sel p (rule.next (page rows p c count)) a with
    | false => rfl
    | true => rw [sel_iff] at h; omega
  refine length_filter_lt ?_ hma.1 hsel hnsel
  intro x hx
  rw [sel_iff] at hx ⊢
  exact ⟨by omega, hx.2⟩

/-- More fuel than selectable rows never changes the result. -/
theorem iterateFrom_fuel (rule : CursorRule) (rows : List (Row α)) (p : α → Bool)
    (count : Option Nat) :
    ∀ (f1 f2 : Nat) (c : Int), (rows.filter (sel p c)).length < f1 →
      (rows.filter (sel p c)).length < f2 →
      iterateFrom rule rows p count f1 c = iterateFrom rule rows p count f2 c := by
  intro f1
  induction f1 with
  | zero => intro f2 c h; omega
  | succ f1 ih =>
    intro f2 c h1 h2
    cases f2 with
    | zero => omega
    | succ f2 =>
      simp only [iterateFrom]
      by_cases he : (page rows p c count).isEmpty = true
      · simp [he]
      · simp only [he]
        have hne : page rows p c count ≠ [] := by simpa using he
        have := sel_count_decreases rule rows p c count hne
        rw [ih f2 _ (by omega) (by omega)]

theorem length_filter_sel_le (rows : List (Row α)) (p : α → Bool) (c : Int) :
    (rows.filter (sel p c)).length < rows.length + 1 :=
  Nat.lt_succ_of_le (List.length_filter_le _ _)

theorem iterate_eq_of_fuel (rule : CursorRule) (rows : List (Row α)) (p : α → Bool)
    (count : Option Nat) (f : Nat) (h : (rows.filter (sel p 0)).length < f) :
    iterate rule rows p count = iterateFrom rule rows p count f 0 :=
  iterateFrom_fuel rule rows p count _ _ 0 (length_filter_sel_le rows p 0) h

theorem flatten_pagesFrom (rule : CursorRule) (rows : List (Row α)) (p : α → Bool)
    (count : Option Nat) : ∀ (f : Nat) (c : Int),
      (pagesFrom rule rows p count f c).flatten = iterateFrom rule rows p count f c := by
  intro f
  induction f with
  | zero => intro c; rfl
  | succ f ih =>
    intro c
    simp only [pagesFrom, iterateFrom]
    by_cases he : (page rows p c count).isEmpty = true
    · simp only [he, if_true]
      have : page rows p c count = [] := by simpa using he
      simp [this]
    · simp [he, ih]

/-- With enough fuel the loop always reaches an empty page: that page is the last one. -/
theorem pagesFrom_getLast (rule : CursorRule) (rows : List (Row α)) (p : α → Bool)
    (count : Option Nat) : ∀ (f : Nat) (c : Int), (rows.filter (sel p c)).length < f →
      (pagesFrom rule rows p count f c).getLast? = some [] := by
  intro f
  induction f with
  | zero => intro c h; omega
  | succ f ih =>
    intro c h
    simp only [pagesFrom]
    by_cases he : (page rows p c count).isEmpty = true
    · have : page rows p c count = [] := by simpa using he
      simp [this]
    · simp only [he]
      have hne : page rows p c count ≠ [] := by simpa using he
      have hd := sel_count_decreases rule rows p c count hne
      have := ih (rule.next (page rows p c count)) (by omega)
      simp only [Bool.false_eq_true, if_false]
      rw [List.getLast?_cons, this]
      rfl

/-- Every page before the last one is non-empty. -/
theorem pagesFrom_dropLast_ne_nil (rule : CursorRule) (rows : List (Row α)) (p : α → Bool)
    (count : Option Nat) : ∀ (f : Nat) (c : Int),
      ∀ pg ∈ (pagesFrom rule rows p count f c).dropLast, pg ≠ [] := by
  intro f
  induction f with
  | zero => intro c pg h; simp [pagesFrom] at h
  | succ f ih =>
    intro c pg h
    simp only [pagesFrom] at h
    by_cases he : (page rows p c count).isEmpty = true
    · simp [he] at h
    · simp only [he] at h
      have hne : page rows p c count ≠ [] := by simpa using he
      cases hrest : pagesFrom rule rows p count f (rule.next (page rows p c count)) with
      | nil => simp [hrest] at h
      | cons q qs =>
        rw [hrest] at h
        simp only [Bool.false_eq_true, if_false, List.dropLast_cons_cons] at h
        rcases List.mem_cons.1 h with rfl | h
        · exact hne
        · exact ih _ pg (by rw [hrest]; exact h)

/-! ### soundness, and "at most once" for the max rule — any row order -/

theorem mem_iterateFrom (rule : CursorRule) (rows : List (Row α)) (p : α → Bool)
    (count : Option Nat) : ∀ (f : Nat) (c : Int) (r : Row α),
      r ∈ iterateFrom rule rows p count f c → r ∈ rows ∧ c < r.id ∧ p r.val = true := by
  intro f
  induction f with
  | zero => intro c r h; simp [iterateFrom] at h
  | succ f ih =>
    intro c r h
    simp only [iterateFrom] at h
    by_cases he : (page rows p c count).isEmpty = true
    · simp [he] at h
    · simp only [he, Bool.false_eq_true, if_false] at h
      have hne : page rows p c count ≠ [] := by simpa using he
      rcases List.mem_append.1 h with h | h
      · exact mem_page h
      · have := ih _ r h
        have hp := (next_progress rule (c := c) hne (fun a ha => (mem_page ha).2.1)).1
        exact ⟨this.1, by omega, this.2.2⟩

theorem iterateFrom_max_nodup (rows : List (Row α)) (p : α → Bool) (count : Option Nat)
    (hnd : (rows.map (·.id)).Nodup) : ∀ (f : Nat) (c : Int),
      ((iterateFrom .max rows p count f c).map (·.id)).Nodup := by
  intro f
  induction f with
  | zero => intro c; simp [iterateFrom]
  | succ f ih =>
    intro c
    simp only [iterateFrom]
    by_cases he : (page rows p c count).isEmpty = true
    · simp [he]
    · simp only [he, Bool.false_eq_true, if_false, List.map_append]
      rw [List.nodup_append]
      refine ⟨?_, ih _, ?_⟩
      · have hsub : (page rows p c count).Sublist rows :=
          (limit_sublist count _).trans List.filter_sublist
        exact (hsub.map _).nodup hnd
      · intro a ha b hb
        obtain ⟨r, hr, rfl⟩ := List.mem_map.1 ha
        obtain ⟨s, hs, rfl⟩ := List.mem_map.1 hb
        have h1 : r.id ≤ maxD 0 ((page rows p c count).map (·.id)) :=
          le_maxD 0 _ _ (List.mem_map.2 ⟨r, hr, rfl⟩)
        have h2 := (mem_iterateFrom .max rows p count f _ s hs).2.1
        simp only [CursorRule.next, nextCursorMax] at h2
        omega

/-! ### completeness when the selectable rows come in id order -/

/-- The heart of the matter: if the rows the statement can select come in increasing id order,
the cursor handed back (either rule) makes the next call select exactly what this page left over. -/
theorem sorted_step (rule : CursorRule) (rows : List (Row α)) (p : α → Bool) {c : Int}
    (hc0 : 0 ≤ c) (count : Option Nat)
    (hs : (rows.filter (sel p c)).Pairwise (fun a b => a.id < b.id))
    (hne : page rows p c count ≠ []) :
    page rows p c count ++ rows.filter (sel p (rule.next (page rows p c count)))
      = rows.filter (sel p c) := by
  obtain ⟨rest, hF⟩ := limit_split count (rows.filter (sel p c))
  have hpage : page rows p c count = limit count (rows.filter (sel p c)) := rfl
  rw [← hpage] at hF
  generalize page rows p c count = pg at hF hne
  rw [hF] at hs
  have hps := List.pairwise_append.1 hs
  have hmem : ∀ a ∈ pg, c < a.id := by
    intro a ha
    have : a ∈ rows.filter (sel p c) := by rw [hF]; exact List.mem_append_left _ ha
    exact ((sel_iff p c a).1 (List.mem_filter.1 this).2).1
  obtain ⟨hub, a, ha, hae⟩ := next_sorted rule hne hps.1 (fun a ha => by have := hmem a ha; omega)
  have hle : c ≤ rule.next pg := by have := hmem a ha; omega
  rw [filter_sel_of_le rows p hle, hF, List.filter_append]
  have h1 : pg.filter (fun r => decide (rule.next pg < r.id)) = [] := by
    rw [List.filter_eq_nil_iff]
    intro x hx
    have := hub x hx
    simp; omega
  have h2 : rest.filter (fun r => decide (rule.next pg < r.id)) = rest := by
    rw [List.filter_eq_self]
    intro x hx
    have := hps.2.2 a ha x hx
    simp; omega
  rw [h1, h2, List.nil_append]

theorem iterateFrom_sorted (rule : CursorRule) (rows : List (Row α)) (p : α → Bool)
    {count : Option Nat} (hc : count ≠ some 0) : ∀ (f : Nat) (c : Int), 0 ≤ c →
      (rows.filter (sel p c)).Pairwise (fun a b => a.id < b.id) →
      (rows.filter (sel p c)).length < f →
      iterateFrom rule rows p count f c = rows.filter (sel p c) := by
  intro f
  induction f with
  | zero => intro c _ _ h; omega
  | succ f ih =>
    intro c hc0 hs hlen
    simp only [iterateFrom]
    by_cases he : (page rows p c count).isEmpty = true
    · have hnil : page rows p c count = [] := by simpa using he
      simp only [he, if_true]
      exact ((limit_eq_nil_iff hc).1 hnil).symm
    · simp only [he, Bool.false_eq_true, if_false]
      have hne : page rows p c count ≠ [] := by simpa using he
      have hprog := (next_progress rule (c := c) hne (fun a ha => (mem_page ha).2.1)).1
      have hdec := sel_count_decreases rule rows p c count hne
      have hs' : (rows.filter (sel p (rule.next (page rows p c count)))).Pairwise
          (fun a b => a.id < b.id) := by
        rw [filter_sel_of_le rows p (Int.le_of_lt hprog)]
        exact hs.filter _
      rw [ih _ (by omega) hs' (by omega)]
      exact sorted_step rule rows p hc0 count hs hne

/-- Completeness needs only the MATCHING rows to come in id order. -/
theorem iterate_sorted_matching (rule : CursorRule) (rows : List (Row α)) (p : α → Bool)
    {count : Option Nat} (hc : count ≠ some 0)
    (hs : (rows.filter (fun r => p r.val)).Pairwise (fun a b => a.id < b.id))
    (hpos : ∀ r ∈ rows, 0 < r.id) :
    iterate rule rows p count = rows.filter (fun r => p r.val) := by
  have h0 := filter_sel_zero rows p hpos
  unfold iterate
  rw [iterateFrom_sorted rule rows p hc _ 0 (Int.le_refl 0) (by rw [h0]; exact hs)
    (length_filter_sel_le rows p 0), h0]

/-! ### page size 1: completeness forces id order -/

theorem next_singleton (rule : CursorRule) (x : Row α) (hx : 0 < x.id) :
    rule.next [x] = x.id := by
  cases rule with
  | last => rfl
  | max =>
    simp only [CursorRule.next, nextCursorMax, List.map]
    have h1 := le_maxD 0 [x.id] x.id (by simp)
    rcases maxD_eq_or_mem 0 [x.id] with h | h
    · omega
    · simpa using h

theorem filter_sel_after_head (rows : List (Row α)) (p : α → Bool) {c : Int} {x : Row α}
    {t : List (Row α)} (hF : rows.filter (sel p c) = x :: t) :
    c < x.id ∧ rows.filter (sel p x.id) = t.filter (fun r => decide (x.id < r.id)) := by
  have hx : x ∈ rows.filter (sel p c) := by rw [hF]; simp
  have hcx := ((sel_iff p c x).1 (List.mem_filter.1 hx).2).1
  refine ⟨hcx, ?_⟩
  rw [filter_sel_of_le rows p (Int.le_of_lt hcx), hF]
  simp

theorem iterateFrom_one_nil (rule : CursorRule) (rows : List (Row α)) (p : α → Bool) (f : Nat)
    {c : Int} (hF : rows.filter (sel p c) = []) :
    iterateFrom rule rows p (some 1) (f + 1) c = [] := by
  have hpg : page rows p c (some 1) = [] := by simp [page, limit, hF]
  simp [iterateFrom, hpg]

theorem iterateFrom_one_cons (rule : CursorRule) (rows : List (Row α)) (p : α → Bool) (f : Nat)
    {c : Int} (hc0 : 0 ≤ c) {x : Row α} {t : List (Row α)} (hF : rows.filter (sel p c) = x :: t) :
    iterateFrom rule rows p (some 1) (f + 1) c = x :: iterateFrom rule rows p (some 1) f x.id := by
  have hpg : page rows p c (some 1) = [x] := by simp [page, limit, hF]
  have hcx := (filter_sel_after_head rows p hF).1
  simp [iterateFrom, hpg, next_singleton rule x (by omega)]

/-- With page size 1 the loop hands out at most the selectable rows, and as many only if they come
in increasing id order: after `x` it selects what follows `x` AND has a larger id. -/
theorem iterateFrom_one_spec (rule : CursorRule) (rows : List (Row α)) (p : α → Bool) :
    ∀ (f : Nat) (c : Int), 0 ≤ c →
      (iterateFrom rule rows p (some 1) f c).length ≤ (rows.filter (sel p c)).length ∧
      ((iterateFrom rule rows p (some 1) f c).length = (rows.filter (sel p c)).length →
        (rows.filter (sel p c)).Pairwise (fun a b => a.id < b.id)) := by
  intro f
  induction f with
  | zero =>
    intro c _
    refine ⟨by simp [iterateFrom], fun h => ?_⟩
    simp only [iterateFrom, List.length_nil] at h
    rw [List.length_eq_zero_iff.1 h.symm]; exact List.Pairwise.nil
  | succ f ih =>
    intro c hc0
    cases hF : rows.filter (sel p c) with
    | nil => exact ⟨by simp [iterateFrom_one_nil rule rows p f hF], fun _ => List.Pairwise.nil⟩
    | cons x t =>
      obtain ⟨hcx, hnext⟩ := filter_sel_after_head rows p hF
      rw [iterateFrom_one_cons rule rows p f hc0 hF]
      obtain ⟨h1, h1'⟩ := ih x.id (by omega)
      rw [hnext] at h1 h1'
      have h2 := List.length_filter_le (fun r => decide (x.id < r.id)) t
      simp only [List.length_cons]
      refine ⟨by omega, fun h => ?_⟩
      have hlen : (t.filter (fun r => decide (x.id < r.id))).length = t.length := by omega
      have hfull : t.filter (fun r => decide (x.id < r.id)) = t := List.filter_sublist.eq_of_length hlen
      have hsorted := h1' (by omega)
      rw [hfull] at hsorted
      refine List.Pairwise.cons ?_ hsorted
      intro b hb
      have := (List.filter_eq_self.1 hfull) b hb
      simpa using this

end Redka.Scan
