/-
  C11 — the string repository (`internal/rstring`) preserves the invariant, partial effects of a
  failing `Tx` method included.
-/
import RedkaModel.Proofs.InvPrim
import RedkaModel.Proofs.StrSteps

namespace Redka.InvP

open Redka Redka.Model

variable {db : DB}

theorem findKey_of_mem {δ : Int → Int} {db : DB} (h : WFd δ db) {r : KeyRow} (hr : r ∈ db.keys) :
    db.findKey r.key = some r := by
  cases hf : db.findKey r.key with
  | none => exact absurd rfl (findKey_none hf r hr)
  | some r' =>
    obtain ⟨hm, hk⟩ := findKey_some hf
    rw [eq_of_key_eq h.uKey hm hr hk]

/-- `sqlSet2`: the value row of a string key that has none yet (excess 1) or one (excess 0) -/
theorem strSet2_wf {δ : Int → Int} {db : DB} (h : WFd δ db) {r : KeyRow} (hr : r ∈ db.keys)
    (hty : r.ty = TString) (hd : δ r.id = 0 ∨ δ r.id = 1) (v : Bytes) :
    ∃ db2, strSet2 db r.key v = .ok db2 ∧ WFd (fun i => if i = r.id then 0 else δ i) db2 := by
  have hm := (meas_eq db h.uId h.oS h.oL h.oT h.oH h.oZ hr (h.ty r hr)).1 hty
  have hc := ((h.cnt r hr).1 hty).2
  rw [hm] at hc
  unfold strSet2
  rw [findKey_of_mem h hr]
  simp only
  rcases hd with hd | hd
  · -- the value row exists: update in place
    have hany : db.strs.any (fun s => s.kid == r.id) = true := by
      rw [List.any_eq_true]
      have : 0 < (db.strs.filter (fun s => s.kid == r.id)).length := by omega
      exact List.length_filter_pos_iff.1 this
    rw [if_pos hany]
    refine ⟨_, rfl, ?_⟩
    refine WFd.setStrs h _ ?_ ?_ ?_
    · intro x hx
      obtain ⟨y, hy, rfl⟩ := List.mem_map.1 hx
      have := h.oS y hy
      split
      · exact this
      · exact this
    · rw [List.pairwise_map]
      refine h.uS.imp ?_
      intro a b hab
      split <;> split <;> exact hab
    · intro o ho
      have : ((db.strs.map (fun s : StrRow => if s.kid == r.id then { s with value := v } else s)).filter
          (fun x => x.kid == o.id)).length = (db.strs.filter (fun x => x.kid == o.id)).length :=
        length_filter_map_kid (·.kid) _
          (fun x => by show (if x.kid == r.id then _ else x).kid = x.kid; split <;> rfl) db.strs o.id
      rw [this]
      simp only [cS]
      by_cases e : o.id = r.id
      · simp [e, hd]
      · simp [e]
  · have hany : db.strs.any (fun s => s.kid == r.id) = false := by
      rw [List.any_eq_false]
      have : (db.strs.filter (fun s => s.kid == r.id)).length = 0 := by omega
      have := List.length_eq_zero_iff.1 this
      rw [List.filter_eq_nil_iff] at this
      exact this
    rw [hany]
    refine ⟨_, rfl, ?_⟩
    have hno : ∀ y ∈ db.strs, y.kid ≠ r.id := by
      intro y hy
      have := List.any_eq_false.1 hany y hy
      simpa using this
    refine WFd.setStrs h _ ?_ ?_ ?_
    · intro x hx
      rcases List.mem_append.1 hx with hx | hx
      · exact h.oS x hx
      · rw [List.mem_singleton] at hx; subst hx
        exact ⟨r, hr, rfl, hty⟩
    · exact pairwise_append_one h.uS _ hno
    · intro o ho
      rw [length_filter_append_one]
      simp only [cS]
      by_cases e : o.id = r.id
      · simp [e, hd]
      · have : (r.id == o.id) = false := by simpa using fun e' => e e'.symm
        simp [e, this]

/-- `set(tx, key, value, at)` / `update(tx, key, value)`: the key upsert followed by the value
upsert; on a type conflict nothing is written -/
theorem strUpsertSet_wf (h : WF db) (k v : Bytes) (onNew : Int → KeyRow) (onOld : KeyRow → KeyRow)
    (hnew : ∀ id, (onNew id).id = id ∧ (onNew id).key = k ∧ (onNew id).ty = TString ∧
      (onNew id).len = none)
    (hold : ∀ o, (onOld o).id = o.id ∧ (onOld o).key = o.key ∧ (onOld o).ty = o.ty ∧
      (onOld o).len = o.len) :
    WF (strWrite db k v onNew onOld).2 := by
  unfold strWrite
  cases he : keyUpsert db k TString onNew onOld with
  | error e => exact h
  | ok p =>
    obtain ⟨db1, r⟩ := p
    obtain ⟨d, hd, h1, hr, hk, hty⟩ := h.keyUpsert_str he hnew hold
    have hd' : (fun i => if i = r.id then d else 0) r.id = 0 ∨
        (fun i => if i = r.id then d else 0) r.id = 1 := by
      rcases hd with rfl | rfl <;> simp
    obtain ⟨db2, h2, hw⟩ := strSet2_wf h1 hr hty hd' v
    rw [hk] at h2
    simp only [h2]
    refine hw.congr (fun o _ => ?_)
    show (0 : Int) = if o.id = r.id then 0 else (if o.id = r.id then d else 0)
    split <;> rfl

theorem strSetTx_wf (h : WF db) (k v : Bytes) (et : Option Int) (now : Int) :
    WF (strSetTx db k v et now).2 :=
  strUpsertSet_wf h k v _ _ (fun _ => ⟨rfl, rfl, rfl, rfl⟩) (fun _ => ⟨rfl, rfl, rfl, rfl⟩)

theorem strUpdateTx_wf (h : WF db) (k v : Bytes) (now : Int) :
    WF (strUpdateTx db k v now).2 :=
  strUpsertSet_wf h k v _ _ (fun _ => ⟨rfl, rfl, rfl, rfl⟩) (fun _ => ⟨rfl, rfl, rfl, rfl⟩)

/-! every method of the repository is made of these two writes (`Proofs/StrSteps.lean`) -/

theorem _root_.Redka.Model.StrSteps.inv {now : Int} {d : DB} (hs : StrSteps now db d) (h : WF db) : WF d :=
  hs.pres h (fun _ k v et h => strSetTx_wf h k v et now) (fun _ k v h => strUpdateTx_wf h k v now)

theorem strSet_wf (h : WF db) (k v : Bytes) (et : Option Int) (now : Int) :
    WF (strSet db k v et now).db :=
  (strSet_steps k v et).inv h

theorem strSetExpires_wf (h : WF db) (k v : Bytes) (ttl now : Int) :
    WF (strSetExpires db k v ttl now).db := strSet_wf h k v _ now

theorem strIncr_wf (h : WF db) (k : Bytes) (d now : Int) : WF (strIncr db k d now).db :=
  (strIncr_steps k d).inv h

theorem strIncrFloat_wf (h : WF db) (k : Bytes) (d : Dyadic) (now : Int) : WF (strIncrFloat db k d now).db :=
  (strIncrFloat_steps k d).inv h

theorem strSetMany_wf (items : List (Bytes × Bytes)) (now : Int) :
    ∀ {db : DB}, WF db → WF (strSetMany db items now).db :=
  fun h => (strSetMany_steps items .refl).inv h

theorem strSetWith_wf (h : WF db) (k v : Bytes) (o : SetOpts) (now : Int) :
    WF (strSetWith db k v o now).db :=
  (strSetWith_steps k v o).inv h

end Redka.InvP
