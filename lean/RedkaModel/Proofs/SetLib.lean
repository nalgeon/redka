/-
  Library for the refinement of `internal/rset` (C03).

  * strictly sorted lists of byte strings — the specification's sets (`sinsert`, `sunion`, `sdiff`,
    `sinter`) — with extensionality: two strictly sorted lists with the same members are equal;
  * the members of a stored set (`setElems`) under the uniqueness of `(kid, elem)`;
  * `SetWF`: the part of the C11 invariant the set proofs need, on top of `DB.WF`;
  * `Frame db db' k`: nothing but what is stored under the name `k` differs between two table
    states, as far as the abstraction can see, and what that means for `Spec.abs`;
  * the statements of `internal/rset/tx.go` one by one (`setAddKey`, `setInsertRow`, the two loops
    over it, the row deletions) as `SetWF`-preserving, framed steps.
-/
import RedkaModel.Proofs.RowsLib

namespace Redka.Model.SetRef

open Redka Redka.Spec Redka.DB Redka.Scan

/-- strictly increasing in `memcmp` order -/
def SSorted (l : List Bytes) : Prop := l.Pairwise (fun a b => bytesLt a b = true)

theorem SSorted.nil : SSorted [] := List.Pairwise.nil

theorem SSorted.tail {x : Bytes} {l : List Bytes} (h : SSorted (x :: l)) : SSorted l :=
  (List.pairwise_cons.1 h).2

theorem SSorted.head_lt {x : Bytes} {l : List Bytes} (h : SSorted (x :: l)) :
    ∀ y ∈ l, bytesLt x y = true := (List.pairwise_cons.1 h).1

theorem SSorted.head_not_mem {x : Bytes} {l : List Bytes} (h : SSorted (x :: l)) : x ∉ l := by
  intro hx
  have := h.head_lt x hx
  rw [bytesLt_irrefl] at this
  cases this

theorem SSorted.nodup {l : List Bytes} (h : SSorted l) : l.Nodup := by
  refine List.Pairwise.imp ?_ h
  intro a b hab heq
  rw [heq, bytesLt_irrefl] at hab
  cases hab

theorem SSorted.filter {l : List Bytes} (h : SSorted l) (p : Bytes → Bool) : SSorted (l.filter p) :=
  List.Pairwise.filter _ h

theorem ssorted_ext : ∀ {a b : List Bytes}, SSorted a → SSorted b → (∀ x, x ∈ a ↔ x ∈ b) → a = b
  | [], [], _, _, _ => rfl
  | [], y :: b, _, _, h => by have := (h y).2 (by simp); simp at this
  | x :: a, [], _, _, h => by have := (h x).1 (by simp); simp at this
  | x :: a, y :: b, ha, hb, h => by
    by_cases hxy : x = y
    · subst hxy
      have htl : ∀ z, z ∈ a ↔ z ∈ b := by
        intro z
        constructor
        · intro hz
          rcases List.mem_cons.1 ((h z).1 (List.mem_cons_of_mem _ hz)) with rfl | h'
          · exact absurd hz ha.head_not_mem
          · exact h'
        · intro hz
          rcases List.mem_cons.1 ((h z).2 (List.mem_cons_of_mem _ hz)) with rfl | h'
          · exact absurd hz hb.head_not_mem
          · exact h'
      rw [ssorted_ext ha.tail hb.tail htl]
    · exfalso
      have h1 : x ∈ b := by
        rcases List.mem_cons.1 ((h x).1 (by simp)) with h' | h'
        · exact absurd h' hxy
        · exact h'
      have h2 : y ∈ a := by
        rcases List.mem_cons.1 ((h y).2 (by simp)) with h' | h'
        · exact absurd h'.symm hxy
        · exact h'
      have := bytesLt_trans _ _ _ (ha.head_lt y h2) (hb.head_lt x h1)
      rw [bytesLt_irrefl] at this
      cases this

theorem mem_sinsert (x y : Bytes) : ∀ s : List Bytes, y ∈ sinsert s x ↔ y = x ∨ y ∈ s
  | [] => by simp [sinsert]
  | z :: s => by
    simp only [sinsert]
    split
    · rename_i hxz
      have hxz : x = z := by simpa using hxz
      subst hxz
      simp
    · split
      · simp
      · simp only [List.mem_cons, mem_sinsert x y s]
        constructor
        · rintro (h | h | h)
          · exact Or.inr (Or.inl h)
          · exact Or.inl h
          · exact Or.inr (Or.inr h)
        · rintro (h | h | h)
          · exact Or.inr (Or.inl h)
          · exact Or.inl h
          · exact Or.inr (Or.inr h)

theorem SSorted.sinsert {s : List Bytes} (h : SSorted s) (x : Bytes) : SSorted (sinsert s x) := by
  induction s with
  | nil => simp [Spec.sinsert, SSorted]
  | cons z s ih =>
    simp only [Spec.sinsert]
    split
    · exact h
    · rename_i hxz
      split
      · rename_i hlt
        refine List.Pairwise.cons ?_ h
        intro q hq
        rcases List.mem_cons.1 hq with rfl | hq
        · exact hlt
        · exact bytesLt_trans _ _ _ hlt (h.head_lt q hq)
      · rename_i hlt
        have hgt : bytesLt z x = true := by
          cases hc : bytesLt z x with
          | true => rfl
          | false =>
            have := bytesLt_connected x z (by simpa using hlt) hc
            simp [this] at hxz
        refine List.Pairwise.cons ?_ (ih h.tail)
        intro q hq
        rcases (mem_sinsert x q s).1 hq with rfl | hq
        · exact hgt
        · exact h.head_lt q hq

theorem sinsert_of_mem {s : List Bytes} (h : SSorted s) {x : Bytes} (hx : x ∈ s) : sinsert s x = s :=
  ssorted_ext (h.sinsert x) h (fun y => by
    rw [mem_sinsert]
    constructor
    · rintro (rfl | h') <;> assumption
    · exact Or.inr)

theorem length_sinsert_of_not_mem (x : Bytes) : ∀ s : List Bytes, x ∉ s →
    (sinsert s x).length = s.length + 1
  | [], _ => rfl
  | z :: s, hx => by
    have hxz : ¬ x = z := fun h => hx (by simp [h])
    have hxs : x ∉ s := fun h => hx (List.mem_cons_of_mem _ h)
    simp only [sinsert]
    have : (x == z) = false := by simpa using hxz
    rw [this]
    simp only [Bool.false_eq_true, if_false]
    split
    · rfl
    · simp [length_sinsert_of_not_mem x s hxs]

theorem sunion_nil (a : List Bytes) : sunion a [] = a := rfl

theorem sunion_cons (a : List Bytes) (x : Bytes) (b : List Bytes) :
    sunion a (x :: b) = sunion (sinsert a x) b := rfl

theorem mem_sunion (y : Bytes) : ∀ (b a : List Bytes), y ∈ sunion a b ↔ y ∈ a ∨ y ∈ b
  | [], a => by simp [sunion]
  | x :: b, a => by
    rw [sunion_cons, mem_sunion y b, mem_sinsert]
    simp only [List.mem_cons]
    constructor
    · rintro ((h | h) | h)
      · exact Or.inr (Or.inl h)
      · exact Or.inl h
      · exact Or.inr (Or.inr h)
    · rintro (h | h | h)
      · exact Or.inl (Or.inr h)
      · exact Or.inl (Or.inl h)
      · exact Or.inr h

theorem SSorted.sunion : ∀ (b : List Bytes) {a : List Bytes}, SSorted a → SSorted (sunion a b)
  | [], _, h => h
  | x :: b, _, h => by rw [sunion_cons]; exact SSorted.sunion b (h.sinsert x)

theorem sfromList_eq (l : List Bytes) : sfromList l = sunion [] l := rfl

theorem SSorted.sdiff {a : List Bytes} (h : SSorted a) (b : List Bytes) : SSorted (sdiff a b) :=
  h.filter _

theorem SSorted.sinter {a : List Bytes} (h : SSorted a) (b : List Bytes) : SSorted (sinter a b) :=
  h.filter _

theorem mem_sdiff (a b : List Bytes) (x : Bytes) : x ∈ sdiff a b ↔ x ∈ a ∧ x ∉ b := by
  simp [sdiff]

theorem sdiff_eq_self {a b : List Bytes} (h : (sdiff a b).length = a.length) : sdiff a b = a :=
  List.filter_eq_self.2 (List.length_filter_eq_length_iff.1 h)

theorem mem_sinter (a b : List Bytes) (x : Bytes) : x ∈ sinter a b ↔ x ∈ a ∧ x ∈ b := by
  simp [sinter]

theorem sunion_nil_of_ssorted {l : List Bytes} (h : SSorted l) : sunion [] l = l :=
  ssorted_ext (SSorted.sunion l SSorted.nil) h (fun x => by simp [mem_sunion])

theorem ssorted_sortBy {l : List Bytes} (h : l.Nodup) : SSorted (sortBy bytesLt l) :=
  pairwise_sortBy (fun x : Bytes => x) strictTotal_bytes l (by simpa using h)

theorem mem_dedup {α} [DecidableEq α] (x : α) : ∀ l : List α, x ∈ dedup l ↔ x ∈ l
  | [] => by simp [dedup]
  | y :: l => by
    simp only [dedup]
    split
    · rename_i hy
      rw [mem_dedup x l]
      constructor
      · exact List.mem_cons_of_mem _
      · intro h
        rcases List.mem_cons.1 h with rfl | h
        · exact hy
        · exact h
    · simp [mem_dedup x l]

theorem nodup_dedup {α} [DecidableEq α] : ∀ l : List α, (dedup l).Nodup
  | [] => by simp [dedup]
  | y :: l => by
    simp only [dedup]
    split
    · exact nodup_dedup l
    · rename_i hy
      exact List.nodup_cons.2 ⟨fun h => hy ((mem_dedup y l).1 h), nodup_dedup l⟩

theorem foldl_congr_mem {α β : Type} {f g : α → β → α} : ∀ (l : List β) (a : α),
    (∀ x ∈ l, ∀ a, f a x = g a x) → l.foldl f a = l.foldl g a
  | [], _, _ => rfl
  | x :: l, a, h => by
    simp only [List.foldl_cons]
    rw [h x (by simp) a]
    exact foldl_congr_mem l _ (fun y hy => h y (List.mem_cons_of_mem _ hy))

theorem foldl_sdiff (g : Bytes → List Bytes) : ∀ (rest : List Bytes) (m : List Bytes),
    rest.foldl (fun acc x => sdiff acc (g x)) m
      = m.filter (fun e => rest.all (fun x => !(g x).contains e))
  | [], m => (List.filter_eq_self.2 (by simp)).symm
  | x :: rest, m => by
    simp only [List.foldl_cons]
    rw [foldl_sdiff g rest, sdiff, List.filter_filter]
    apply List.filter_congr
    intro e _
    simp [Bool.and_comm]

theorem foldl_sinter (g : Bytes → List Bytes) : ∀ (rest : List Bytes) (m : List Bytes),
    rest.foldl (fun acc x => sinter acc (g x)) m
      = m.filter (fun e => rest.all (fun x => (g x).contains e))
  | [], m => (List.filter_eq_self.2 (by simp)).symm
  | x :: rest, m => by
    simp only [List.foldl_cons]
    rw [foldl_sinter g rest, sinter, List.filter_filter]
    apply List.filter_congr
    intro e _
    simp [Bool.and_comm]

theorem mem_foldl_sunion (g : Bytes → List Bytes) (e : Bytes) : ∀ (ks : List Bytes) (a : List Bytes),
    e ∈ ks.foldl (fun acc x => sunion acc (g x)) a ↔ e ∈ a ∨ ∃ k ∈ ks, e ∈ g k
  | [], a => by simp
  | k :: ks, a => by
    simp only [List.foldl_cons]
    rw [mem_foldl_sunion g e ks, mem_sunion]
    simp only [List.mem_cons, exists_eq_or_imp]
    exact or_assoc

theorem ssorted_foldl_sunion (g : Bytes → List Bytes) : ∀ (ks : List Bytes) {a : List Bytes},
    SSorted a → SSorted (ks.foldl (fun acc x => sunion acc (g x)) a)
  | [], _, h => h
  | k :: ks, _, h => by
    simp only [List.foldl_cons]
    exact ssorted_foldl_sunion g ks (SSorted.sunion _ h)

theorem nodup_map_of_nodup_map {α β γ : Type} (f : α → β) (g : α → γ) (l : List α)
    (h : (l.map f).Nodup) (hfg : ∀ a ∈ l, ∀ b ∈ l, g a = g b → f a = f b) : (l.map g).Nodup := by
  unfold List.Nodup at h ⊢
  rw [List.pairwise_map] at h ⊢
  exact List.Pairwise.imp_of_mem (fun ha hb hne heq => hne (hfg _ ha _ hb heq)) h

theorem length_filter_key {α β : Type} [DecidableEq β] (f : α → β) (v : β) : ∀ l : List α,
    (l.map f).Nodup → (l.filter (fun x => f x == v)).length = if v ∈ l.map f then 1 else 0
  | [], _ => rfl
  | x :: l, h => by
    have h' : f x ∉ l.map f ∧ (l.map f).Nodup := by
      rw [List.map_cons] at h; exact List.nodup_cons.1 h
    have ih := length_filter_key f v l h'.2
    simp only [List.filter_cons, List.map_cons, List.mem_cons]
    by_cases hx : f x = v
    · subst hx
      have : ¬ f x ∈ l.map f := h'.1
      simp [ih, this]
    · have hx' : ¬ v = f x := fun h => hx h.symm
      simp [hx, hx', ih]

/-- the members of the set with key id `id`, in the order of the `(kid, elem)` index -/
def setElems (db : DB) (id : Int) : List Bytes := (setRows db id).map (·.elem)

theorem mem_setElems {db : DB} {id : Int} {e : Bytes} :
    e ∈ setElems db id ↔ ∃ x ∈ db.sets, x.kid = id ∧ x.elem = e := by
  simp only [setElems, setRows, List.mem_map, mem_sortBy, List.mem_filter, beq_iff_eq]
  constructor
  · rintro ⟨x, ⟨hx, hk⟩, he⟩; exact ⟨x, hx, hk, he⟩
  · rintro ⟨x, hx, hk, he⟩; exact ⟨x, ⟨hx, hk⟩, he⟩

theorem length_setElems (db : DB) (id : Int) :
    (setElems db id).length = (db.sets.filter (fun x => x.kid == id)).length := by
  simp [setElems, setRows, length_sortBy]

theorem setElems_congr {db db' : DB} {id : Int}
    (h : db'.sets.filter (fun x => x.kid == id) = db.sets.filter (fun x => x.kid == id)) :
    setElems db' id = setElems db id := by
  unfold setElems setRows; rw [h]

/-- `(kid, elem)` is unique, so the members of one set are pairwise different -/
theorem ssorted_setElems {db : DB} (hu : (db.sets.map (fun r => (r.kid, r.elem))).Nodup) (id : Int) :
    SSorted (setElems db id) := by
  unfold setElems setRows SSorted
  rw [List.pairwise_map]
  exact pairwise_sortBy (fun x : SetRow => x.elem) strictTotal_bytes _ (nodup_of_pair_nodup SetRow.kid SetRow.elem hu id)

theorem any_eq_mem_setElems (db : DB) (id : Int) (e : Bytes) :
    db.sets.any (fun x => x.kid == id && x.elem == e) = (setElems db id).contains e := by
  rw [Bool.eq_iff_iff, List.any_eq_true, List.contains_iff_mem, mem_setElems]
  simp only [Bool.and_eq_true, beq_iff_eq]

theorem any_setRows (db : DB) (id : Int) (e : Bytes) :
    (setRows db id).any (fun x => x.elem == e) = smem (setElems db id) e := by
  rw [smem, Bool.eq_iff_iff, List.any_eq_true, List.contains_iff_mem]
  simp [setElems]

theorem isEmpty_setRows (db : DB) (id : Int) : (setRows db id).isEmpty = (setElems db id).isEmpty := by
  simp [setElems]

/-- `DB.WF` plus: `(kid, elem)` is unique in `rset`, every `rset` row belongs to a stored key, and
the cached length of every set key is the number of its rows -/
structure SetWF (db : DB) : Prop extends DB.WF db where
  setUniq : (db.sets.map (fun r => (r.kid, r.elem))).Nodup
  setOwner : ∀ x ∈ db.sets, x.kid ∈ db.keys.map (·.id)
  setLen : ∀ r ∈ db.keys, r.ty = TSet →
    r.len = some ((db.sets.filter (fun x => x.kid == r.id)).length : Int)

theorem SetWF.wf {db : DB} (h : SetWF db) : db.WF := h.toWF

theorem SetWF.of_inv {db : DB} (h : db.Inv) : SetWF db := by
  have hp := InvP.WF.of_inv h
  refine { toWF := DB.Inv.wf h, setUniq := List.pairwise_map.2 hp.uT, setOwner := ?_, setLen := ?_ }
  · intro x hx
    obtain ⟨r, hr, hid, _⟩ := hp.oT x hx
    exact List.mem_map.2 ⟨r, hr, hid⟩
  · intro r hr ht
    rw [hp.len_eq hr (by rw [ht]; decide)]
    simp [childCount, ht, TSet, TList]

theorem SetWF.elems_sorted {db : DB} (h : SetWF db) (id : Int) : SSorted (setElems db id) :=
  ssorted_setElems h.setUniq id

/-- a key row without the columns the abstraction ignores -/
def core (r : KeyRow) : KeyRow := { r with version := 0, mtime := 0, len := none }

theorem core_id {a b : KeyRow} (h : core a = core b) : a.id = b.id :=
  show (core a).id = (core b).id from congrArg KeyRow.id h
theorem core_key {a b : KeyRow} (h : core a = core b) : a.key = b.key :=
  show (core a).key = (core b).key from congrArg KeyRow.key h
theorem core_ty {a b : KeyRow} (h : core a = core b) : a.ty = b.ty :=
  show (core a).ty = (core b).ty from congrArg KeyRow.ty h
theorem core_etime {a b : KeyRow} (h : core a = core b) : a.etime = b.etime :=
  show (core a).etime = (core b).etime from congrArg KeyRow.etime h

/-- the entry stored under a name at `now`, read from the tables -/
def view (now : Int) (db : DB) (k : Bytes) : Option Entry := (db.findKey k).bind (rowEntry now db)

theorem get_abs_view {db : DB} (hn : (db.keys.map (·.key)).Nodup) (now : Int) (k : Bytes) :
    get (abs now db) k = view now db k := get_abs hn now k

theorem absVal_core {db db' : DB} {r r' : KeyRow} (hid : r'.id = r.id) (hty : r'.ty = r.ty)
    (hs : db'.strs = db.strs) (hl : db'.lists = db.lists) (hh : db'.hashes = db.hashes)
    (hz : db'.zsets = db.zsets)
    (hse : db'.sets.filter (fun x => x.kid == r.id) = db.sets.filter (fun x => x.kid == r.id)) :
    absVal db' r' = absVal db r := by
  unfold absVal listRows setRows hashRows
  rw [hid, hty, hs, hl, hh, hz, hse]

theorem absVal_set {db : DB} {r : KeyRow} (h : r.ty = TSet) :
    absVal db r = some (.set (setElems db r.id)) := by
  simp [absVal, h, TSet, TString, TList, setElems]

/-- Nothing but what is stored under the name `k` differs between `db` and `db'`, as far as the
abstraction can see: every other name leads to a row with the same id, type and expiry, with the
same child rows. (The set operations never touch the other four child tables.) -/
structure Frame (db db' : DB) (k : Bytes) : Prop where
  find : ∀ k', k' ≠ k → (db'.findKey k').map core = (db.findKey k').map core
  sets : ∀ k' r, k' ≠ k → db.findKey k' = some r →
    db'.sets.filter (fun x => x.kid == r.id) = db.sets.filter (fun x => x.kid == r.id)
  strs : db'.strs = db.strs
  lists : db'.lists = db.lists
  hashes : db'.hashes = db.hashes
  zsets : db'.zsets = db.zsets

theorem Frame.refl (db : DB) (k : Bytes) : Frame db db k :=
  ⟨fun _ _ => rfl, fun _ _ _ _ => rfl, rfl, rfl, rfl, rfl⟩

theorem Frame.trans {a b c : DB} {k : Bytes} (h1 : Frame a b k) (h2 : Frame b c k) : Frame a c k := by
  refine ⟨fun k' hk => (h2.find k' hk).trans (h1.find k' hk), ?_, h2.strs.trans h1.strs,
    h2.lists.trans h1.lists, h2.hashes.trans h1.hashes, h2.zsets.trans h1.zsets⟩
  intro k' r hk hf
  have hfind := h1.find k' hk
  rw [hf] at hfind
  cases hb : b.findKey k' with
  | none => simp [hb] at hfind
  | some rb =>
    rw [hb] at hfind
    simp only [Option.map_some, Option.some.injEq] at hfind
    have := h2.sets k' rb hk hb
    rw [core_id hfind] at this
    rw [this, h1.sets k' r hk hf]

theorem Frame.find_some {db db' : DB} {k k' : Bytes} (h : Frame db db' k) (hk : k' ≠ k) {r : KeyRow}
    (hf : db.findKey k' = some r) : ∃ r', db'.findKey k' = some r' ∧ core r' = core r := by
  have := h.find k' hk
  rw [hf] at this
  cases hb : db'.findKey k' with
  | none => simp [hb] at this
  | some rb =>
    rw [hb] at this
    exact ⟨rb, rfl, by simpa using this⟩

theorem Frame.find_none {db db' : DB} {k k' : Bytes} (h : Frame db db' k) (hk : k' ≠ k)
    (hf : db.findKey k' = none) : db'.findKey k' = none := by
  have := h.find k' hk
  rw [hf] at this
  cases hb : db'.findKey k' with
  | none => rfl
  | some rb => simp [hb] at this

theorem Frame.view {db db' : DB} {k k' : Bytes} (h : Frame db db' k) (hk : k' ≠ k) (now : Int) :
    view now db' k' = view now db k' := by
  unfold SetRef.view
  cases hf : db.findKey k' with
  | none => rw [h.find_none hk hf]; rfl
  | some r =>
    obtain ⟨r', hf', hc⟩ := h.find_some hk hf
    rw [hf']
    simp only [Option.bind_some, rowEntry, KeyRow.live, core_etime hc,
      absVal_core (core_id hc) (core_ty hc) h.strs h.lists h.hashes h.zsets (h.sets k' r hk hf)]
    rfl

theorem Frame.stale {db db' : DB} {k k' : Bytes} (h : Frame db db' k) (hk : k' ≠ k) (now : Int) :
    staleKey db' now k' = staleKey db now k' := by
  unfold staleKey
  cases hf : db.findKey k' with
  | none => rw [h.find_none hk hf]
  | some r =>
    obtain ⟨r', hf', hc⟩ := h.find_some hk hf
    rw [hf']
    simp only [KeyRow.live, core_etime hc]

/-- the tables after a framed step stand for the old keyspace with one entry replaced -/
theorem abs_frame_put {db db' : DB} {k : Bytes} (hn : (db.keys.map (·.key)).Nodup)
    (hn' : (db'.keys.map (·.key)).Nodup) (hf : Frame db db' k) {now : Int} {e : Entry}
    (hk : view now db' k = some e) : abs now db' = put (abs now db) k e := by
  apply abs_ext hn' ((sorted_abs hn now).put k e)
  intro k'
  rw [get_put]
  by_cases hkk : k = k'
  · subst hkk
    simp only [beq_self_eq_true, if_true]
    exact hk
  · have : (k == k') = false := by simpa using hkk
    simp only [this, Bool.false_eq_true, if_false]
    rw [get_abs_view hn]
    exact hf.view (fun h => hkk h.symm) now

theorem abs_frame_same {db db' : DB} {k : Bytes} (hn : (db.keys.map (·.key)).Nodup)
    (hn' : (db'.keys.map (·.key)).Nodup) (hf : Frame db db' k) {now : Int}
    (hk : view now db' k = view now db k) : abs now db' = abs now db := by
  apply abs_ext hn' (sorted_abs hn now)
  intro k'
  rw [get_abs_view hn]
  by_cases hkk : k' = k
  · subst hkk; exact hk
  · exact hf.view hkk now

/-- `db` with the key row of id `id` replaced by `r'` and `rset` replaced by `sets'` -/
def modDb (db : DB) (id : Int) (r' : KeyRow) (sets' : List SetRow) : DB :=
  { db.updKey id (fun _ => r') with sets := sets' }

/-- the name `k` is held by a set key row with this id and expiry -/
def IsSetRow (db : DB) (k : Bytes) (id : Int) (et : Option Int) : Prop :=
  ∃ r, db.findKey k = some r ∧ r.id = id ∧ r.ty = TSet ∧ r.etime = et

theorem IsSetRow.view {db : DB} {k : Bytes} {id : Int} {et : Option Int} (h : IsSetRow db k id et)
    (now : Int) :
    view now db k = if liveAt now et then some ⟨.set (setElems db id), et⟩ else none := by
  obtain ⟨r, hf, hid, hty, het⟩ := h
  simp only [SetRef.view, hf, Option.bind_some, rowEntry, KeyRow.live, absVal_set hty, het, hid,
    Option.map_some]

theorem IsSetRow.stale {db : DB} {k : Bytes} {id : Int} {et : Option Int} (h : IsSetRow db k id et)
    (now : Int) : staleKey db now k = !liveAt now et := by
  obtain ⟨r, hf, _, _, het⟩ := h
  simp [staleKey, hf, KeyRow.live, het]

section mod
variable {db : DB} {r r' : KeyRow} {sets' : List SetRow}

theorem mod_findKey (hw : db.WF) (hr : r ∈ db.keys) (hc : core r' = core r) (k' : Bytes) :
    (modDb db r.id r' sets').findKey k' = if r.key == k' then some r' else db.findKey k' :=
  findKey_updKey hw.names hw.ids hr (core_key hc) k'

theorem mod_frame (hw : db.WF) (hr : r ∈ db.keys) (hc : core r' = core r)
    (hs : ∀ j, j ≠ r.id → sets'.filter (fun x => x.kid == j) = db.sets.filter (fun x => x.kid == j)) :
    Frame db (modDb db r.id r' sets') r.key := by
  refine ⟨?_, ?_, rfl, rfl, rfl, rfl⟩
  · intro k' hk
    rw [mod_findKey hw hr hc]
    have : (r.key == k') = false := by simpa using fun h : r.key = k' => hk h.symm
    simp [this]
  · intro k' r2 hk hf
    obtain ⟨hm, hmk⟩ := findKey_mem hf
    apply hs
    intro he
    exact hk (by rw [← hmk, id_inj hw.ids hm hr he])

theorem mod_isSetRow (hw : db.WF) (hr : r ∈ db.keys) (hc : core r' = core r) (ht : r.ty = TSet) :
    IsSetRow (modDb db r.id r' sets') r.key r.id r.etime := by
  refine ⟨r', ?_, core_id hc, (core_ty hc).trans ht, core_etime hc⟩
  rw [mod_findKey hw hr hc]; simp

theorem mod_setwf (hw : SetWF db) (hr : r ∈ db.keys) (hc : core r' = core r)
    (hs : ∀ j, j ≠ r.id → sets'.filter (fun x => x.kid == j) = db.sets.filter (fun x => x.kid == j))
    (hu : (sets'.map (fun x => (x.kid, x.elem))).Nodup)
    (ho : ∀ x ∈ sets', x.kid ∈ db.keys.map (·.id))
    (hl : r.ty = TSet → r'.len = some ((sets'.filter (fun x => x.kid == r.id)).length : Int)) :
    SetWF (modDb db r.id r' sets') := by
  have hkeys : (modDb db r.id r' sets').keys = (db.updKey r.id (fun _ => r')).keys := rfl
  have hids : (modDb db r.id r' sets').keys.map (·.id) = db.keys.map (·.id) := by
    rw [hkeys]; exact updKey_ids hw.ids hr (core_id hc)
  refine { names := ?_, ids := ?_, tyOk := ?_, strRow := ?_, strKids := hw.strKids, setUniq := hu,
           setOwner := ?_, setLen := ?_ }
  · rw [hkeys, updKey_names hw.ids hr (core_key hc)]; exact hw.names
  · rw [hids]; exact hw.ids
  · intro x hx
    rcases mem_updKey hw.ids hr hx with hx | ⟨hx, _⟩
    · rw [hx, core_ty hc]; exact hw.tyOk r hr
    · exact hw.tyOk x hx
  · intro x hx hty
    rcases mem_updKey hw.ids hr hx with hx | ⟨hx, _⟩
    · rw [hx, core_id hc]
      exact hw.strRow r hr (by rw [← core_ty hc, ← hx]; exact hty)
    · exact hw.strRow x hx hty
  · intro x hx
    rw [hids]; exact ho x hx
  · intro x hx hty
    rcases mem_updKey hw.ids hr hx with hx | ⟨hx, hne⟩
    · rw [hx, core_id hc]
      exact hl (by rw [← core_ty hc, ← hx]; exact hty)
    · have : x.id ≠ r.id := fun he => hne (id_inj hw.ids hx hr he)
      show x.len = some ((sets'.filter (fun y => y.kid == x.id)).length : Int)
      rw [hs x.id this]
      exact hw.setLen x hx hty

end mod

/-! ### the statements of `internal/rset/tx.go` -/

/-- the row `sqlAdd1` inserts for a new set key -/
def setNewRow (k : Bytes) (now : Int) (id : Int) : KeyRow :=
  { id := id, key := k, ty := TSet, version := 1, etime := none, mtime := now, len := some 0 }

/-- `sqlAdd1` on a name that is not stored: a fresh, empty set key is appended -/
theorem setAddKey_new {db : DB} (hw : SetWF db) {k : Bytes} (h : db.findKey k = none) (now : Int) :
    ∃ db1 r, setAddKey db k now = .ok (db1, r) ∧ SetWF db1 ∧ Frame db db1 k ∧
      IsSetRow db1 k r.id none ∧ setElems db1 r.id = [] := by
  let r := setNewRow k now db.nextKeyId
  have hnone : db.findKey r.key = none := h
  have hf1 : ∀ k', ({ db with keys := db.keys ++ [r] } : DB).findKey k'
      = if k == k' then some r else db.findKey k' := fun k' => findKey_append hnone k'
  have hfresh : ∀ x ∈ db.sets, x.kid ≠ r.id := by
    intro x hx he
    obtain ⟨q, hq, hqx⟩ := List.mem_map.1 (hw.setOwner x hx)
    exact nextKeyId_fresh db q hq (hqx.trans he)
  have hnoRows : db.sets.filter (fun x => x.kid == r.id) = [] := by
    rw [List.filter_eq_nil_iff]
    intro x hx
    simpa using hfresh x hx
  refine ⟨{ db with keys := db.keys ++ [r] }, r, by simp only [setAddKey, keyUpsert_new h]; rfl, ?_, ?_,
    ⟨r, by rw [hf1]; simp, rfl, rfl, rfl⟩, ?_⟩
  · refine { names := names_append hw.names hnone, ids := ids_append hw.ids rfl, tyOk := ?_,
             strRow := ?_, strKids := hw.strKids, setUniq := hw.setUniq, setOwner := ?_, setLen := ?_ }
    · exact List.forall_mem_append.2
        ⟨hw.tyOk, List.forall_mem_singleton.2 (by decide : 1 ≤ TSet ∧ TSet ≤ 5)⟩
    · exact List.forall_mem_append.2
        ⟨hw.strRow, List.forall_mem_singleton.2 (fun h : TSet = TString => absurd h (by decide))⟩
    · intro x hx
      show x.kid ∈ (db.keys ++ [r]).map (·.id)
      rw [List.map_append]
      exact List.mem_append_left _ (hw.setOwner x hx)
    · refine List.forall_mem_append.2 ⟨hw.setLen, List.forall_mem_singleton.2 (fun _ => ?_)⟩
      show some (0 : Int) = some ((db.sets.filter (fun x => x.kid == r.id)).length : Int)
      rw [hnoRows]; rfl
  · refine ⟨?_, fun _ _ _ _ => rfl, rfl, rfl, rfl, rfl⟩
    intro k' hk
    rw [hf1]
    have : (k == k') = false := by simpa using fun h : k = k' => hk h.symm
    simp [this]
  · show setElems db r.id = []
    unfold setElems setRows
    rw [hnoRows]; rfl

/-- `sqlAdd1` on a stored set key (live or not): version and mtime are bumped, nothing else -/
theorem setAddKey_old {db : DB} (hw : SetWF db) {k : Bytes} {old : KeyRow}
    (h : db.findKey k = some old) (ht : old.ty = TSet) (now : Int) :
    ∃ db1 r, setAddKey db k now = .ok (db1, r) ∧ SetWF db1 ∧ Frame db db1 k ∧ r.id = old.id ∧
      IsSetRow db1 k old.id old.etime ∧ setElems db1 old.id = setElems db old.id := by
  obtain ⟨ho, hok⟩ := findKey_mem h
  let r : KeyRow := { old with version := old.version + 1, mtime := now }
  have hc : core r = core old := rfl
  have hs : ∀ j, j ≠ old.id →
      db.sets.filter (fun x => x.kid == j) = db.sets.filter (fun x => x.kid == j) := fun _ _ => rfl
  refine ⟨modDb db old.id r db.sets, r, by simp only [setAddKey, keyUpsert_old h ht]; rfl, ?_, ?_, rfl,
    ?_, rfl⟩
  · exact mod_setwf hw ho hc hs hw.setUniq hw.setOwner (hw.setLen old ho)
  · rw [← hok]; exact mod_frame hw.wf ho hc hs
  · rw [← hok]; exact mod_isSetRow hw.wf ho hc ht

theorem setAddKey_other {db : DB} {k : Bytes} {old : KeyRow} (h : db.findKey k = some old)
    (ht : old.ty ≠ TSet) (now : Int) : setAddKey db k now = .error .keyType := by
  simp only [setAddKey, keyUpsert_other h ht]

/-- `sqlAdd2` on a member: `on conflict do nothing` -/
theorem setInsertRow_mem {db : DB} {id : Int} {e : Bytes} (h : e ∈ setElems db id) :
    setInsertRow db id e = none := by
  have : db.sets.any (fun r => r.kid == id && r.elem == e) = true := by
    rw [any_eq_mem_setElems, List.contains_iff_mem]; exact h
  simp [setInsertRow, this]

/-- `sqlAdd2` on a new element: one row more, the trigger adds one to the cached length -/
theorem setInsertRow_new {db : DB} (hw : SetWF db) {k : Bytes} {id : Int} {et : Option Int}
    (hrow : IsSetRow db k id et) {e : Bytes} (h : e ∉ setElems db id) :
    ∃ db', setInsertRow db id e = some db' ∧ SetWF db' ∧ Frame db db' k ∧ IsSetRow db' k id et ∧
      setElems db' id = sinsert (setElems db id) e := by
  obtain ⟨r, hf, hid, hty, het⟩ := hrow
  obtain ⟨hr, hrk⟩ := findKey_mem hf
  subst hid
  let row : SetRow := { rowid := db.nextSetRowid, kid := r.id, elem := e }
  let r' : KeyRow := { r with len := r.len.map (· + 1) }
  have hc : core r' = core r := rfl
  have hany : db.sets.any (fun x => x.kid == r.id && x.elem == e) = false := by
    rw [any_eq_mem_setElems]
    simpa using h
  have heq : setInsertRow db r.id e = some (modDb db r.id r' (db.sets ++ [row])) := by
    simp only [setInsertRow, hany, Bool.false_eq_true, if_false]
    congr 1
    exact updKey_const (db := { db with sets := db.sets ++ [row] }) hw.ids hr _
  have hs : ∀ j, j ≠ r.id → (db.sets ++ [row]).filter (fun x => x.kid == j)
      = db.sets.filter (fun x => x.kid == j) := by
    intro j hj
    have : (r.id == j) = false := by simpa using fun h : r.id = j => hj h.symm
    simp [List.filter_append, row, this]
  have hw' : SetWF (modDb db r.id r' (db.sets ++ [row])) := by
    refine mod_setwf hw hr hc hs ?_ ?_ ?_
    · refine nodup_map_append_one _ hw.setUniq fun x hx he => ?_
      simp only [row, Prod.mk.injEq] at he
      exact h (mem_setElems.2 ⟨x, hx, he.1, he.2⟩)
    · intro x hx
      rcases List.mem_append.1 hx with hx | hx
      · exact hw.setOwner x hx
      · have : x = row := by simpa using hx
        rw [this]; exact List.mem_map.2 ⟨r, hr, rfl⟩
    · intro _
      have := hw.setLen r hr hty
      show r.len.map (· + 1) = _
      rw [this]
      simp [List.filter_append, row]
  refine ⟨_, heq, hw', ?_, ?_, ?_⟩
  · rw [← hrk]; exact mod_frame hw.wf hr hc hs
  · rw [← hrk, ← het]; exact mod_isSetRow hw.wf hr hc hty
  · apply ssorted_ext (hw'.elems_sorted _) ((hw.elems_sorted _).sinsert e)
    intro y
    rw [mem_sinsert, mem_setElems, mem_setElems]
    show (∃ x ∈ db.sets ++ [row], _) ↔ _
    constructor
    · rintro ⟨x, hx, hk, he⟩
      rcases List.mem_append.1 hx with hx | hx
      · exact Or.inr ⟨x, hx, hk, he⟩
      · have : x = row := by simpa using hx
        rw [this] at he
        exact Or.inl he.symm
    · rintro (rfl | ⟨x, hx, hk, he⟩)
      · exact ⟨row, by simp, rfl, rfl⟩
      · exact ⟨x, List.mem_append_left _ hx, hk, he⟩

/-- the loop over `sqlAdd2`: the set becomes the union, the count is the number of new members -/
theorem setAddElems_spec {k : Bytes} {id : Int} {et : Option Int} : ∀ (es : List Bytes) (db : DB)
    (n0 : Int), SetWF db → IsSetRow db k id et →
    ∃ db', setAddElems db id es n0
        = (db', n0 + (((sunion (setElems db id) es).length : Int) - (setElems db id).length)) ∧
      SetWF db' ∧ Frame db db' k ∧ IsSetRow db' k id et ∧
      setElems db' id = sunion (setElems db id) es
  | [], db, n0, hw, hrow => ⟨db, by simp [setAddElems, sunion_nil], hw, Frame.refl _ _, hrow, rfl⟩
  | e :: es, db, n0, hw, hrow => by
    by_cases he : e ∈ setElems db id
    · obtain ⟨db', h1, h2, h3, h4, h5⟩ := setAddElems_spec es db n0 hw hrow
      refine ⟨db', ?_, h2, h3, h4, ?_⟩
      · simp only [setAddElems, setInsertRow_mem he]
        rw [h1, sunion_cons, sinsert_of_mem (hw.elems_sorted id) he]
      · rw [h5, sunion_cons, sinsert_of_mem (hw.elems_sorted id) he]
    · obtain ⟨db1, g1, g2, g3, g4, g5⟩ := setInsertRow_new hw hrow he
      obtain ⟨db', h1, h2, h3, h4, h5⟩ := setAddElems_spec es db1 (n0 + 1) g2 g4
      refine ⟨db', ?_, h2, g3.trans h3, h4, ?_⟩
      · simp only [setAddElems, g1]
        rw [h1, sunion_cons, g5]
        have := length_sinsert_of_not_mem e _ he
        congr 1
        omega
      · rw [h5, g5, sunion_cons]

/-- the `insert … select` of the storing variants: without a conflict clause, it succeeds when the
rows are new and pairwise different -/
theorem setInsertAll_spec {k : Bytes} {id : Int} {et : Option Int} : ∀ (es : List Bytes) (db : DB)
    (n0 : Int), SetWF db → IsSetRow db k id et → es.Nodup → (∀ e ∈ es, e ∉ setElems db id) →
    ∃ db', setInsertAll db id es n0 = .ok (db', n0 + es.length) ∧
      SetWF db' ∧ Frame db db' k ∧ IsSetRow db' k id et ∧
      setElems db' id = sunion (setElems db id) es
  | [], db, n0, hw, hrow, _, _ => ⟨db, by simp [setInsertAll], hw, Frame.refl _ _, hrow, rfl⟩
  | e :: es, db, n0, hw, hrow, hnd, hnew => by
    have hnd' := List.nodup_cons.1 hnd
    have he : e ∉ setElems db id := hnew e (by simp)
    obtain ⟨db1, g1, g2, g3, g4, g5⟩ := setInsertRow_new hw hrow he
    have hnew1 : ∀ x ∈ es, x ∉ setElems db1 id := by
      intro x hx
      rw [g5, mem_sinsert]
      rintro (rfl | h)
      · exact hnd'.1 hx
      · exact hnew x (List.mem_cons_of_mem _ hx) h
    obtain ⟨db', h1, h2, h3, h4, h5⟩ := setInsertAll_spec es db1 (n0 + 1) g2 g4 hnd'.2 hnew1
    refine ⟨db', ?_, h2, g3.trans h3, h4, ?_⟩
    · simp only [setInsertAll, g1]
      rw [h1]
      simp only [List.length_cons]
      congr 2
      omega
    · rw [h5, g5, sunion_cons]

theorem setInsertAll_wf {k : Bytes} {id : Int} {et : Option Int} : ∀ (es : List Bytes) (db : DB)
    (n0 : Int), SetWF db → IsSetRow db k id et →
    ∀ db' n, setInsertAll db id es n0 = .ok (db', n) → SetWF db'
  | [], db, n0, hw, _, db', n, h => by
    simp only [setInsertAll, Except.ok.injEq, Prod.mk.injEq] at h
    rw [← h.1]; exact hw
  | e :: es, db, n0, hw, hrow, db', n, h => by
    by_cases he : e ∈ setElems db id
    · simp [setInsertAll, setInsertRow_mem he] at h
    · obtain ⟨db1, g1, g2, _, g4, _⟩ := setInsertRow_new hw hrow he
      simp only [setInsertAll, g1] at h
      exact setInsertAll_wf es db1 (n0 + 1) g2 g4 db' n h

/-- `delete from rset where kid = ? and <p elem>` followed by an update of the key row that keeps
id, name, type and expiry and sets the cached length to the number of rows left -/
theorem delRows_spec {db : DB} (hw : SetWF db) {k : Bytes} {r r' : KeyRow} (hf : db.findKey k = some r)
    (ht : r.ty = TSet) (p : Bytes → Bool) (hc : core r' = core r)
    (hl : r'.len = some (((db.sets.filter (fun x => !(x.kid == r.id && p x.elem))).filter
      (fun x => x.kid == r.id)).length : Int)) :
    let db' := modDb db r.id r' (db.sets.filter (fun x => !(x.kid == r.id && p x.elem)))
    SetWF db' ∧ Frame db db' k ∧ IsSetRow db' k r.id r.etime ∧
      setElems db' r.id = (setElems db r.id).filter (fun e => !p e) := by
  obtain ⟨hr, hrk⟩ := findKey_mem hf
  have hs : ∀ j, j ≠ r.id →
      (db.sets.filter (fun x => !(x.kid == r.id && p x.elem))).filter (fun x => x.kid == j)
        = db.sets.filter (fun x => x.kid == j) := by
    intro j hj
    rw [List.filter_filter]
    apply List.filter_congr
    intro x _
    by_cases hx : x.kid = j
    · have : ¬ x.kid = r.id := fun h => hj (hx ▸ h)
      simp [this]
    · simp [hx]
  have hw' : SetWF (modDb db r.id r' (db.sets.filter (fun x => !(x.kid == r.id && p x.elem)))) :=
    mod_setwf hw hr hc hs
      (List.Nodup.sublist (List.Sublist.map _ List.filter_sublist) hw.setUniq)
      (fun x hx => hw.setOwner x (List.mem_filter.1 hx).1) (fun _ => hl)
  refine ⟨hw', ?_, ?_, ?_⟩
  · rw [← hrk]; exact mod_frame hw.wf hr hc hs
  · rw [← hrk]; exact mod_isSetRow hw.wf hr hc ht
  · apply ssorted_ext (hw'.elems_sorted _) ((hw.elems_sorted _).filter _)
    intro y
    rw [List.mem_filter, mem_setElems, mem_setElems]
    show (∃ x ∈ db.sets.filter _, _) ↔ _
    constructor
    · rintro ⟨x, hx, hk, he⟩
      obtain ⟨hx1, hx2⟩ := List.mem_filter.1 hx
      refine ⟨⟨x, hx1, hk, he⟩, ?_⟩
      simpa [hk, he] using hx2
    · rintro ⟨⟨x, hx, hk, he⟩, hp⟩
      refine ⟨x, List.mem_filter.2 ⟨hx, ?_⟩, hk, he⟩
      simpa [hk, he] using hp

end Redka.Model.SetRef
