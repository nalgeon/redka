import RedkaModel.Basic

namespace Redka

theorem digitChar_toNat (d : Nat) : (digitChar d).toNat = 48 + d % 10 := by
  simp [digitChar]
  omega

theorem isDigit_iff (c : UInt8) : isDigit c = true ↔ 48 ≤ c.toNat ∧ c.toNat ≤ 57 := by
  simp [isDigit, UInt8.le_iff_toNat_le]

theorem isDigit_digitChar (d : Nat) : isDigit (digitChar d) = true := by
  rw [isDigit_iff, digitChar_toNat]; omega

theorem natDigits_all_digit (n : Nat) : (natDigits n).all isDigit = true := by
  fun_induction natDigits n with
  | case1 n h => simp [isDigit_digitChar]
  | case2 n h ih => simp [List.all_append, ih, isDigit_digitChar]

theorem natDigits_ne_nil (n : Nat) : natDigits n ≠ [] := by
  rw [natDigits]; split <;> simp

theorem natDigits_of_lt {n : Nat} (h : n < 10) : natDigits n = [digitChar n] := by
  rw [natDigits]; simp [h]

theorem natDigits_of_ge {n : Nat} (h : 10 ≤ n) :
    natDigits n = natDigits (n / 10) ++ [digitChar n] := by
  rw [natDigits]; simp [Nat.not_lt.mpr h]

theorem digitsVal_append (a b : Bytes) (acc : Nat) :
    digitsVal (a ++ b) acc = digitsVal b (digitsVal a acc) := by
  induction a generalizing acc with
  | nil => rfl
  | cons c cs ih => simp [digitsVal, ih]

theorem digitsVal_natDigits (n : Nat) : digitsVal (natDigits n) 0 = n := by
  fun_induction natDigits n with
  | case1 n h => simp [digitsVal, digitChar_toNat]; omega
  | case2 n h ih => simp [digitsVal_append, ih, digitsVal, digitChar_toNat]; omega

theorem natDigits_mem_digit {n : Nat} {c : UInt8} (h : c ∈ natDigits n) : isDigit c = true :=
  List.all_eq_true.mp (natDigits_all_digit n) c h

theorem natDigits_head_ne {n : Nat} {c : UInt8} {t : Bytes} (hc : isDigit c = false) :
    natDigits n ≠ c :: t := by
  intro h
  have := natDigits_mem_digit (n := n) (c := c) (by simp [h])
  simp [hc] at this

theorem natDigits_injective {a b : Nat} (h : natDigits a = natDigits b) : a = b := by
  rw [← digitsVal_natDigits a, ← digitsVal_natDigits b, h]

theorem itoa_natCast (n : Nat) : itoa (n : Int) = natDigits n := by
  simp [itoa]

theorem itoa_neg {i : Int} (h : i < 0) : itoa i = 45 :: natDigits i.natAbs := by
  simp [itoa, h]

theorem itoa_nonneg {i : Int} (h : 0 ≤ i) : itoa i = natDigits i.natAbs := by
  simp [itoa]; omega

theorem itoa_injective (a b : Int) (h : itoa a = itoa b) : a = b := by
  by_cases ha : a < 0 <;> by_cases hb : b < 0
  · rw [itoa_neg ha, itoa_neg hb] at h
    have := natDigits_injective (List.cons.inj h).2
    omega
  · rw [itoa_neg ha, itoa_nonneg (by omega)] at h
    exact absurd h.symm (natDigits_head_ne (by decide))
  · rw [itoa_nonneg (by omega), itoa_neg hb] at h
    exact absurd h (natDigits_head_ne (by decide))
  · rw [itoa_nonneg (by omega), itoa_nonneg (by omega)] at h
    have := natDigits_injective h
    omega

theorem atoi_digits {ds : Bytes} (hne : ds ≠ []) (hall : ds.all isDigit = true)
    (hmax : (digitsVal ds 0 : Int) ≤ maxInt64) : atoi ds = some (digitsVal ds 0 : Int) := by
  have hmin : ¬ ((digitsVal ds 0 : Int) < minInt64) := by
    have : (0 : Int) ≤ digitsVal ds 0 := Int.natCast_nonneg _
    simp [minInt64]
  have hmax' : ¬ ((digitsVal ds 0 : Int) > maxInt64) := by omega
  have hemp : ds.isEmpty = false := by cases ds <;> simp_all
  unfold atoi
  split
  rename_i x neg ds' heq
  split at heq
  · have : isDigit 45 = true := List.all_eq_true.mp hall 45 (by simp)
    simp [isDigit] at this
  · have : isDigit 43 = true := List.all_eq_true.mp hall 43 (by simp)
    simp [isDigit] at this
  · cases heq
    simp [hemp, hall, hmin, hmax']

theorem atoi_neg_digits {ds : Bytes} (hne : ds ≠ []) (hall : ds.all isDigit = true)
    (hmin : minInt64 ≤ -(digitsVal ds 0 : Int)) : atoi (45 :: ds) = some (-(digitsVal ds 0 : Int)) := by
  have hmin' : ¬ (-(digitsVal ds 0 : Int) < minInt64) := by omega
  have hmax' : ¬ (-(digitsVal ds 0 : Int) > maxInt64) := by
    have : (0 : Int) ≤ digitsVal ds 0 := Int.natCast_nonneg _
    simp [maxInt64]
  have hemp : ds.isEmpty = false := by cases ds <;> simp_all
  simp [atoi, hemp, hall, hmin', hmax']

theorem atoi_itoa (n : Int) (hlo : minInt64 ≤ n) (hhi : n ≤ maxInt64) : atoi (itoa n) = some n := by
  by_cases hn : n < 0
  · rw [itoa_neg hn, atoi_neg_digits (natDigits_ne_nil _) (natDigits_all_digit _)]
    · rw [digitsVal_natDigits]; congr 1; omega
    · rw [digitsVal_natDigits]; omega
  · rw [itoa_nonneg (by omega), atoi_digits (natDigits_ne_nil _) (natDigits_all_digit _)]
    · rw [digitsVal_natDigits]; congr 1; omega
    · rw [digitsVal_natDigits]; omega

end Redka
