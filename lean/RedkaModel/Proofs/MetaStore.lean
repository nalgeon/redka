/-
  C19 — the storing methods (`SDIFFSTORE`/`SINTERSTORE`/`SUNIONSTORE`, `ZINTERSTORE`/`ZUNIONSTORE`):
  reset of a live destination, key upsert, bulk insert.  Rows not named like the destination and
  their children are untouched; the destination row is classified by `DestCase`.
-/
import RedkaModel.Proofs.MetaEff
import RedkaModel.Proofs.MetaSet
import RedkaModel.Proofs.MetaZSet
import RedkaModel.Proofs.InvStr

namespace Redka.MetaProofs

open Redka Redka.Model Redka.InvP

/-- does the key id hold rows in the child table of the storing family? -/
def destHasChildren (db : DB) (ty : Int) (id : Int) : Bool :=
  if ty == TSet then db.sets.any (fun x => x.kid == id) else db.zsets.any (fun x => x.kid == id)

/-- what became of the row named like the destination of a store -/
inductive DestCase (now : Int) (d : Bytes) (ty : Int) (db post : DB) (isE : Bool) (r' : KeyRow) : Prop
  /-- the name was free: a new row with a fresh id -/
  | new (hfree : ∀ r ∈ db.keys, r.key ≠ d ∧ r.id ≠ r'.id) (hv : r'.version = 1)
  /-- the name was held by a stored row of the type whose expiry has passed: it is bumped like
  by any other write (D05) -/
  | stale (r : KeyRow) (hr : r ∈ db.keys) (hk : r.key = d) (hid : r'.id = r.id) (hty : r'.ty = r.ty)
      (hv : r'.version = r.version + 1) (hlive : r.live now = false)
  /-- the name was held by a live key of the type: reset, then bumped to version 1 -/
  | live (r0 : KeyRow) (hl : db.liveKeyT d ty now = some r0)
      (hs : SameMeta { r0 with version := 1, mtime := now } r')
      (hval : isE = true → destHasChildren db ty r0.id = false → Spec.absVal db r0 = Spec.absVal post r')
      (hemp : isE = true → destHasChildren post ty r0.id = false)

/-- the state after the reset phase (`deleteKey` / `sqlDeleteAll`) -/
def ResetShape (now : Int) (d : Bytes) (ty : Int) (db a1 : DB) : Prop :=
  (db.liveKeyT d ty now = none ∧ a1 = db) ∨
  (∃ r0, db.liveKeyT d ty now = some r0 ∧
    a1.keys = db.keys.map (fun r => if r.id == r0.id then { r with version := 0, mtime := 0, len := some 0 } else r) ∧
    (∀ i, i ≠ r0.id → ChildEq db a1 i) ∧
    (destHasChildren db ty r0.id = false → ChildEq db a1 r0.id) ∧
    destHasChildren a1 ty r0.id = false)

theorem liveKeyT_none_dead {db : DB} {d : Bytes} {ty now : Int} (h : db.liveKeyT d ty now = none)
    {r : KeyRow} (hr : r ∈ db.keys) (hk : r.key = d) (hty : r.ty = ty) : r.live now = false := by
  unfold DB.liveKeyT at h
  have := List.find?_eq_none.1 h r hr
  simpa [hk, hty] using this

theorem reset_findKey {now : Int} {d : Bytes} {ty : Int} {db a1 : DB} {r0 : KeyRow} (h1 : WF a1)
    (hl : db.liveKeyT d ty now = some r0)
    (hk : a1.keys = db.keys.map
      (fun r => if r.id == r0.id then { r with version := 0, mtime := 0, len := some 0 } else r)) :
    a1.findKey d = some { r0 with version := 0, mtime := 0, len := some 0 } := by
  obtain ⟨hr0, hk0, _⟩ := liveKeyT_some hl
  have hmem : ({ r0 with version := 0, mtime := 0, len := some 0 } : KeyRow) ∈ a1.keys := by
    rw [hk]; exact List.mem_map.2 ⟨r0, hr0, by simp⟩
  exact hk0 ▸ findKey_of_mem h1 hmem

theorem reset_upsert_error {now : Int} {d : Bytes} {ty : Int} {db a1 : DB} {onNew : Int → KeyRow}
    {onOld : KeyRow → KeyRow} {e : Err} (h1 : WF a1) (hres : ResetShape now d ty db a1)
    (he : keyUpsert a1 d ty onNew onOld = .error e) : a1 = db ∧ db.liveKeyT d ty now = none := by
  rcases hres with ⟨hl, e1⟩ | ⟨r0, hl, hk, _, _, _⟩
  · exact ⟨e1, hl⟩
  · exfalso
    unfold keyUpsert at he
    rw [reset_findKey h1 hl hk] at he
    simp [(liveKeyT_some hl).2.2] at he

theorem store_core {now : Int} {d : Bytes} {ty : Int} {db a1 b c : DB} {onNew : Int → KeyRow}
    {onOld : KeyRow → KeyRow} {r : KeyRow} (isE : Bool)
    (h : WF db) (h1 : WF a1) (hres : ResetShape now d ty db a1)
    (he : keyUpsert a1 d ty onNew onOld = .ok (b, r))
    (hnew : ∀ id, (onNew id).id = id ∧ (onNew id).key = d ∧ (onNew id).version = 1 ∧ (onNew id).mtime = now)
    (hold : ∀ o, onOld o = { o with version := o.version + 1, mtime := now })
    (ht : Touch r.id b c) (hc : isE = true → c = b) :
    Keep db c ∧ ∀ r' ∈ c.keys, (r'.key ≠ d → r' ∈ db.keys ∧ ChildEq db c r'.id) ∧
      (r'.key = d → r'.mtime = now ∧ DestCase now d ty db c isE r') := by
  have hoid : ∀ o, (onOld o).id = o.id := fun o => by rw [hold]
  obtain ⟨hkeep, hab, hrows, hr⟩ := upsert_touch_rows he (fun id => (hnew id).1) hoid ht
  have k1 : Keep db a1 := by
    rcases hres with ⟨_, e1⟩ | ⟨r0, _, hk, _, _, _⟩
    · rw [e1]; exact Keep.refl _
    · intro x hx
      refine ⟨_, by rw [hk]; exact List.mem_map.2 ⟨x, hx, rfl⟩, ?_⟩
      split <;> rfl
  refine ⟨k1.trans hkeep, fun r' hr' => ?_⟩
  rcases hrows r' hr' with ⟨hm, hne, hch⟩ | hs
  · -- a row of `a1` other than the upserted one is not named `d`: it is a row of `db`, children included
    have hk2 : r'.key ≠ d := by
      rcases hr with ⟨hf, _, _⟩ | ⟨old, hf, _, hr⟩
      · exact findKey_none hf r' hm
      · obtain ⟨hom, hok⟩ := findKey_some hf
        intro ek
        rw [eq_of_key_eq h1.uKey hm hom (ek.trans hok.symm), hr, hoid] at hne
        exact hne rfl
    refine ⟨fun _ => ?_, fun ek => absurd ek hk2⟩
    rcases hres with ⟨_, e1⟩ | ⟨r0, hl, hk, hch0, _, _⟩
    · subst e1; exact ⟨hm, hch⟩
    · obtain ⟨hr0, hk0, _⟩ := liveKeyT_some hl
      rw [hk] at hm
      obtain ⟨y, hy, e⟩ := List.mem_map.1 hm
      by_cases hi : y.id = r0.id
      · rw [eq_of_id_eq h.uId hy hr0 hi] at e
        simp at e
        rw [← e] at hk2
        exact absurd hk0 hk2
      · simp [hi] at e
        subst e
        exact ⟨hy, (hch0 _ hi).trans hch⟩
  · -- the upserted row, up to `len`
    rcases hr with ⟨hf, hr, fresh⟩ | ⟨old, hf, hoty, hr⟩
    · obtain ⟨_, n2, n3, n4⟩ := hnew a1.nextKeyId
      rw [← hr] at n2 n3 n4
      refine ⟨fun hne => absurd (hs.key.trans n2) hne, fun _ => ⟨hs.mtime.trans n4, ?_⟩⟩
      have ha1 : a1 = db := by
        rcases hres with ⟨_, e1⟩ | ⟨r0, hl, hk, _, _, _⟩
        · exact e1
        · rw [reset_findKey h1 hl hk] at hf; cases hf
      subst ha1
      exact .new (fun x hx => ⟨findKey_none hf x hx, by rw [hs.id]; exact fresh x hx⟩) (hs.version.trans n3)
    · obtain ⟨hom, hok⟩ := findKey_some hf
      have hr : r = { old with version := old.version + 1, mtime := now } := hr.trans (hold old)
      have hk' : r'.key = d := by rw [hs.key, hr]; exact hok
      refine ⟨fun hne => absurd hk' hne, fun _ => ⟨by rw [hs.mtime, hr], ?_⟩⟩
      rcases hres with ⟨hl, e1⟩ | ⟨r0, hl, hk, _, hval, hemp1⟩
      · subst e1
        exact .stale old hom hok (by rw [hs.id, hr]) (by rw [hs.ty, hr]) (by rw [hs.version, hr])
          (liveKeyT_none_dead hl hom hok hoty)
      · rw [reset_findKey h1 hl hk] at hf
        have hold0 := (Option.some.inj hf).symm
        have hsm : SameMeta { r0 with version := 1, mtime := now } r' := by
          unfold SameMeta at hs ⊢
          rw [hs, hr, hold0]
          simp
        refine .live r0 hl hsm (fun hE hnc => ?_) (fun hE => ?_)
        · rw [absVal_congr ((hval hnc).trans (hc hE ▸ hab _))]
          exact (absVal_row hsm.id hsm.ty).symm
        · rw [hc hE]
          rcases keyUpsert_cases he with ⟨_, _, hdb⟩ | ⟨_, _, _, _, hdb⟩ <;> (rw [hdb]; exact hemp1)

variable {db : DB}

/-- what `delete from <child table> where kid = j` does to the rows of each key id -/
theorem reset_child {α} (kidf : α → Int) (l : List α) (j : Int) :
    (l.filter (fun x => kidf x != j)).any (fun x => kidf x == j) = false ∧
    (∀ i, i ≠ j → l.filter (fun x => kidf x == i)
        = (l.filter (fun x => kidf x != j)).filter (fun x => kidf x == i)) ∧
    (l.any (fun x => kidf x == j) = false → l.filter (fun x => kidf x == j)
        = (l.filter (fun x => kidf x != j)).filter (fun x => kidf x == j)) := by
  refine ⟨?_, fun i hi => ?_, fun hnc => ?_⟩
  · rw [List.any_eq_false]
    intro x hx
    simpa using (List.mem_filter.1 hx).2
  · refine (filter_kid_filter_other kidf _ l i (fun x _ hx => ?_)).symm
    simpa [hx] using hi
  · have hno : ∀ x ∈ l, kidf x ≠ j := fun x hx => by simpa using List.any_eq_false.1 hnc x hx
    rw [filter_kid_nil kidf l j hno, filter_kid_nil kidf _ j (fun x hx => hno x (List.mem_filter.1 hx).1)]

theorem setDeleteKey_shape (d : Bytes) (now : Int) : ResetShape now d TSet db (setDeleteKey db d now) := by
  unfold setDeleteKey
  split
  · rename_i hl; exact .inl ⟨hl, rfl⟩
  · rename_i r0 hl
    obtain ⟨h1, h2, h3⟩ := reset_child (·.kid) db.sets r0.id
    exact .inr ⟨r0, hl, rfl, fun i hi => ⟨rfl, rfl, h2 i hi, rfl, rfl⟩,
      fun hnc => ⟨rfl, rfl, h3 (by simpa [destHasChildren] using hnc), rfl, rfl⟩,
      by simpa [destHasChildren] using h1⟩

theorem setInsertAll_touch {kid : Int} (es : List Bytes) :
    ∀ {db : DB} (n : Int) {db3 : DB} {m : Int}, setInsertAll db kid es n = .ok (db3, m) →
      Touch kid db db3 := by
  induction es with
  | nil =>
    intro db n db3 m he
    simp only [setInsertAll, Except.ok.injEq, Prod.mk.injEq] at he
    exact he.1 ▸ Touch.refl _ _
  | cons e es ih =>
    intro db n db3 m he
    unfold setInsertAll at he
    split at he
    · cases he
    · rename_i db' hi
      exact (setInsertRow_touch hi).trans (ih (n + 1) he)

/-- the summary of a store: nothing happened (a refusal, or the empty source list `E` of the set
stores), or the rows are as `store_core` says -/
def StoreSum (now : Int) (d : Bytes) (ty : Int) (db : DB) (res : Res) (E : Prop) : Prop :=
  (res.db = db ∧ ((Spec.isErr res.out = true ∧ db.liveKeyT d ty now = none) ∨ E)) ∨
  (¬ E ∧ Keep db res.db ∧ ∀ r' ∈ res.db.keys, (r'.key ≠ d → r' ∈ db.keys ∧ ChildEq db res.db r'.id) ∧
    (r'.key = d → r'.mtime = now ∧ DestCase now d ty db res.db (Spec.isErr res.out) r'))

theorem setStore_sum (h : WF db) (d : Bytes) (ks : List Bytes) (now : Int)
    (compute : DB → List Bytes) :
    StoreSum now d TSet db (setStore db d ks now compute) (ks.isEmpty = true) := by
  unfold setStore
  split
  · rename_i hE; exact .inl ⟨rfl, .inr hE⟩
  · rename_i hE
    have h1 := setDeleteKey_wf h d now
    have hres := setDeleteKey_shape (db := db) d now
    simp only
    split
    · rename_i e he
      exact .inl ⟨(reset_upsert_error h1 hres he).1, .inl ⟨rfl, (reset_upsert_error h1 hres he).2⟩⟩
    · rename_i db2 r he
      split
      · exact .inr ⟨hE, store_core true h h1 hres he (fun _ => ⟨rfl, rfl, rfl, rfl⟩) (fun _ => rfl)
          (Touch.refl _ _) (fun _ => rfl)⟩
      · rename_i db3 n hi
        exact .inr ⟨hE, store_core false h h1 hres he (fun _ => ⟨rfl, rfl, rfl, rfl⟩) (fun _ => rfl)
          (setInsertAll_touch _ 0 hi) (fun hE => by cases hE)⟩

theorem zDeleteAll_shape (d : Bytes) (now : Int) : ResetShape now d TZSet db (zDeleteAll db d now) := by
  unfold zDeleteAll
  split
  · rename_i hl; exact .inl ⟨hl, rfl⟩
  · rename_i r0 hl
    obtain ⟨h1, h2, h3⟩ := reset_child (·.kid) db.zsets r0.id
    exact .inr ⟨r0, hl, rfl, fun i hi => ⟨rfl, rfl, rfl, rfl, h2 i hi⟩,
      fun hnc => ⟨rfl, rfl, rfl, rfl, h3 (by simpa [destHasChildren, TZSet, TSet] using hnc)⟩,
      by simpa [destHasChildren, TZSet, TSet] using h1⟩

theorem zInsertAll_touch {kid : Int} (items : List (Bytes × Option Score)) :
    ∀ {db : DB} (n : Int) {db3 : DB} {m : Int}, zInsertAll db kid items n = .ok (db3, m) →
      Touch kid db db3 := by
  induction items with
  | nil =>
    intro db n db3 m he
    simp only [zInsertAll, Except.ok.injEq, Prod.mk.injEq] at he
    exact he.1 ▸ Touch.refl _ _
  | cons p rest ih =>
    intro db n db3 m he
    obtain ⟨e, s⟩ := p
    unfold zInsertAll at he
    split at he
    · cases he
    · rename_i s
      split at he
      · cases he
      · exact (zInsertNew_touch kid e s).trans (ih (n + 1) he)

theorem zCombineStore_sum (h : WF db) (d : Bytes) (ks : List Bytes) (agg : Agg) (inter : Bool)
    (now : Int) : StoreSum now d TZSet db (zCombineStore db d ks agg inter now) False := by
  unfold zCombineStore
  have h1 := zDeleteAll_wf h d now
  have hres := zDeleteAll_shape (db := db) d now
  simp only
  split
  · rename_i e he
    exact .inl ⟨(reset_upsert_error h1 hres he).1, .inl ⟨rfl, (reset_upsert_error h1 hres he).2⟩⟩
  · rename_i db2 r he
    split
    · exact .inr ⟨id, store_core true h h1 hres he (fun _ => ⟨rfl, rfl, rfl, rfl⟩) (fun _ => rfl)
        (Touch.refl _ _) (fun _ => rfl)⟩
    · rename_i db3 n hi
      exact .inr ⟨id, store_core false h h1 hres he (fun _ => ⟨rfl, rfl, rfl, rfl⟩) (fun _ => rfl)
        (zInsertAll_touch _ 0 hi) (fun hE => by cases hE)⟩

end Redka.MetaProofs
