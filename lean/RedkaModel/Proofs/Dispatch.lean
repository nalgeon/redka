/-
  How a `DB`-level method reaches its `Tx` method (`Model.dbRun`, `Model.wrapOf`) and what the
  `Update` wrapper does with the result, as equations to rewrite with.
-/
import RedkaModel.Model.Run
import RedkaModel.Spec.Meta

namespace Redka.Dispatch

open Redka Redka.Model

theorem update_ok {f : DB → Res} {db : DB} {v : Val} (h : (f db).out = .ok v) : update f db = f db := by
  unfold update; simp only [h]

theorem update_error {f : DB → Res} {db : DB} {e : Err} (h : (f db).out = .error e) :
    update f db = { f db with db := db } := by
  unfold update; simp only [h]

theorem update_out (f : DB → Res) (db : DB) : (update f db).out = (f db).out := by
  cases h : (f db).out with
  | ok v => rw [update_ok h, h]
  | error e => rw [update_error h]; exact h

theorem update_eq_of_err {f : DB → Res} {db : DB}
    (h : ∀ e, (f db).out = .error e → (f db).db = db) : update f db = f db := by
  cases ho : (f db).out with
  | ok v => exact update_ok ho
  | error e => exact (update_error ho).trans (congrArg (Res.mk _) (h e ho).symm)

/-- `DB.Update` keeps what its body keeps when it succeeds: on failure the tables are the old ones -/
theorem update_pres_of_ok {P : DB → Prop} {f : DB → Res} {db : DB} (h0 : P db)
    (h : ∀ v, (f db).out = .ok v → P (f db).db) : P (update f db).db := by
  cases ho : (f db).out with
  | ok v => rw [update_ok ho]; exact h v ho
  | error e => rw [update_error ho]; exact h0

theorem _root_.Redka.update_pres {P : DB → Prop} {f : DB → Res} {db : DB} (h0 : P db) (h : P (f db).db) :
    P (update f db).db :=
  update_pres_of_ok h0 fun _ _ => h

theorem dbRun_of_update {op : Op} (h : wrapOf op = .update) (now : Int) (db : DB) :
    dbRun op now db = update (tx true op now) db := by
  unfold dbRun; rw [h]

theorem dbRun_of_direct {op : Op} (h : wrapOf op ≠ .update) (now : Int) (db : DB) :
    dbRun op now db = tx false op now db := by
  unfold dbRun
  cases hw : wrapOf op <;> first | rfl | exact absurd hw h

/-- the three ways a `DB`-level call ends: its `Tx` method ran inside `Update` and was committed, ran
inside `Update` and was rolled back, or ran straight on the handle -/
theorem dbRun_cases {P : Res → Prop} (op : Op) (now : Int) (db : DB)
    (committed : wrapOf op = .update → ∀ v, (tx true op now db).out = .ok v → P (tx true op now db))
    (rolledBack : wrapOf op = .update → ∀ e, (tx true op now db).out = .error e →
      P { tx true op now db with db := db })
    (direct : wrapOf op ≠ .update → P (tx false op now db)) :
    P (dbRun op now db) := by
  by_cases hw : wrapOf op = .update
  · rw [dbRun_of_update hw]
    cases ho : (tx true op now db).out with
    | ok v => rw [update_ok ho]; exact committed hw v ho
    | error e => rw [update_error ho]; exact rolledBack hw e ho
  · rw [dbRun_of_direct hw]; exact direct hw

/-- the methods that run straight on a read-only handle are exactly the reads -/
theorem isRead_eq (op : Op) : Spec.isRead op = (wrapOf op == .roDirect) := by
  cases op <;> rfl

theorem wrapOf_of_isRead {op : Op} (h : Spec.isRead op = true) : wrapOf op = .roDirect :=
  eq_of_beq ((isRead_eq op).symm.trans h)

theorem dbRun_of_read {op : Op} (h : Spec.isRead op = true) (now : Int) (db : DB) :
    dbRun op now db = tx false op now db :=
  dbRun_of_direct (by rw [wrapOf_of_isRead h]; decide) now db

end Redka.Dispatch
