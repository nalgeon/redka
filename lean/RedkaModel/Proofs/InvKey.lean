/-
  C11 — the key repository (`internal/rkey`) preserves the invariant.
-/
import RedkaModel.Proofs.InvPrim

namespace Redka.InvP

open Redka Redka.Model

variable {db : DB}

theorem deleteKeysWhere_keys (db : DB) (p : KeyRow → Bool) :
    (db.deleteKeysWhere p).1.keys = db.keys.filter (fun r => !p r) := by
  unfold DB.deleteKeysWhere DB.cascade
  cases db.fk <;> rfl

theorem deleteKeysWhere_fk (db : DB) (p : KeyRow → Bool) :
    (db.deleteKeysWhere p).1.fk = db.fk := by
  unfold DB.deleteKeysWhere DB.cascade
  cases db.fk <;> rfl

theorem WF.deleteKeysWhere (h : WF db) (hfk : db.fk = true) (p : KeyRow → Bool) :
    WF (db.deleteKeysWhere p).1 := WFd.deleteKeysWhere h hfk p

/-- `update rkey set version = …, etime = …, mtime = …` on one id -/
theorem WF.updKey_meta (h : WF db) (id : Int) (f : KeyRow → KeyRow)
    (hf : ∀ r, (f r).id = r.id ∧ (f r).key = r.key ∧ (f r).ty = r.ty ∧ (f r).len = r.len) :
    WF (db.updKey id f) := by
  have := WFd.updKey h id f 0 (fun r _ _ => by
    obtain ⟨a, b, c, d⟩ := hf r
    refine ⟨a, b, c, ?_⟩
    rw [d]; cases r.len <;> simp) (fun _ _ _ _ => rfl)
  exact this.congr (fun r _ => by simp)

theorem keyDelete_wf (h : WF db) (hfk : db.fk = true) (ks : List Bytes) (now : Int) :
    WF (keyDelete db ks now).db := h.deleteKeysWhere hfk _

theorem keyDeleteAll_wf (h : WF db) (hfk : db.fk = true) (inTx : Bool) :
    WF (keyDeleteAll db inTx).db := by
  unfold keyDeleteAll
  cases inTx <;> exact h.deleteKeysWhere hfk _

theorem keyDeleteExpired_wf (h : WF db) (hfk : db.fk = true) (n now : Int) :
    WF (keyDeleteExpired db n now).db := h.deleteKeysWhere hfk _

theorem keyExpireAt_wf (h : WF db) (k : Bytes) (at_ now : Int) :
    WF (keyExpireAt db k at_ now).db := by
  unfold keyExpireAt
  split
  · exact h
  · exact h.updKey_meta _ _ (fun r => ⟨rfl, rfl, rfl, rfl⟩)

theorem keyExpire_wf (h : WF db) (k : Bytes) (ttl now : Int) :
    WF (keyExpire db k ttl now).db := keyExpireAt_wf h k _ now

theorem keyPersist_wf (h : WF db) (k : Bytes) (now : Int) :
    WF (keyPersist db k now).db := by
  unfold keyPersist
  split
  · exact h
  · exact h.updKey_meta _ _ (fun r => ⟨rfl, rfl, rfl, rfl⟩)

/-- `update or replace rkey set key = ?` on rows with pairwise different names and ids: once every
row of another id that holds the new name is deleted, giving that name to the row of id `i`
leaves the names pairwise different -/
theorem pairwise_renamed {l : List KeyRow} (hk : l.Pairwise (fun a b => a.key ≠ b.key))
    (hi : l.Pairwise (fun a b => a.id ≠ b.id)) (i : Int) (nk : Bytes) (f : KeyRow → KeyRow)
    (hf : ∀ x, (f x).key = nk) :
    (l.filter (fun x => !(x.key == nk && x.id != i))).Pairwise
      (fun a b => (if a.id == i then f a else a).key ≠ (if b.id == i then f b else b).key) := by
  refine ((List.pairwise_and_iff.2 ⟨hk, hi⟩).filter _).imp_of_mem ?_
  intro a b ha hb ⟨hkab, hiab⟩
  have ha := (List.mem_filter.1 ha).2
  have hb := (List.mem_filter.1 hb).2
  by_cases ea : a.id = i <;> by_cases eb : b.id = i
  · exact absurd (ea.trans eb.symm) hiab
  · have hb : b.key ≠ nk := by simpa [eb] using hb
    simpa [ea, eb, hf] using hb.symm
  · simpa [ea, eb, hf] using ha
  · simpa [ea, eb] using hkab

/-- the row holding the new name is deleted (with its children), then the live row takes the name -/
theorem renameStmt_wf (h : WF db) (hfk : db.fk = true) (k nk : Bytes) (now : Int) :
    WF (renameStmt db k nk now) := by
  unfold renameStmt
  split
  · exact h
  · rename_i r hlk
    show WF (DB.updKey (db.deleteKeysWhere (fun x => x.key == nk && x.id != r.id)).1 r.id _)
    have h1 : WF (db.deleteKeysWhere (fun x => x.key == nk && x.id != r.id)).1 :=
      h.deleteKeysWhere hfk _
    have hk1 := deleteKeysWhere_keys db (fun x => x.key == nk && x.id != r.id)
    generalize (db.deleteKeysWhere (fun x => x.key == nk && x.id != r.id)).1 = db1 at h1 hk1
    unfold DB.updKey
    refine (WFd.mapKeys h1 _ ?_ ?_ ?_ ?_)
    · intro x _; split <;> rfl
    · intro x _; split <;> rfl
    · rw [List.pairwise_map, hk1]
      exact pairwise_renamed h.uKey h.uId r.id nk _ fun _ => rfl
    · intro x hx
      split
      · exact ⟨(h1.cnt x hx).1, (h1.cnt x hx).2⟩
      · exact h1.cnt x hx

/-- `Rename` leaves the tables as they are or runs the rename statement: what holds in both cases
holds of the tables it leaves -/
theorem keyRename_db {P : DB → Prop} {k nk : Bytes} {now : Int} (h0 : P db)
    (h1 : P (renameStmt db k nk now)) : P (keyRename db k nk now).db := by
  unfold keyRename
  repeat' split
  all_goals first | exact h0 | exact h1

theorem keyRenameNX_db {P : DB → Prop} {k nk : Bytes} {now : Int} (h0 : P db)
    (h1 : P (renameStmt db k nk now)) : P (keyRenameNX db k nk now).db := by
  unfold keyRenameNX
  repeat' split
  all_goals first | exact h0 | exact h1

theorem keyRename_wf (h : WF db) (hfk : db.fk = true) (k nk : Bytes) (now : Int) :
    WF (keyRename db k nk now).db :=
  keyRename_db h (renameStmt_wf h hfk k nk now)

theorem keyRenameNX_wf (h : WF db) (hfk : db.fk = true) (k nk : Bytes) (now : Int) :
    WF (keyRenameNX db k nk now).db :=
  keyRenameNX_db h (renameStmt_wf h hfk k nk now)

end Redka.InvP
