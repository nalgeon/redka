/-
  `internal/rhash` against the abstract keyspace.

  Plan. `HWF` is the part of the C11 invariant the hash proofs use (on top of `DB.WF`: the unique
  index on `(kid, field)`, the cached `len` of every hash key, no orphan rows). `HHolder` splits on
  what sits at a name (nothing / an expired leftover / a visible hash / a visible key of another
  type) and records what the model's guarded lookup (`liveKeyT … THash`) and the abstraction make
  of it. Every write of the family is "replace the key row of the name by `r2`, replace the rows of
  its id by `hs'`" (`KeysStep`, `RowsStep`); `step_hwf_written` says that such a step keeps `HWF`
  and changes the abstraction at that one name only (`WrittenV`). `tx.set` is two such replacements
  of the key row in a row (`KeysStep.trans`): the key upsert `sqlSet1`, then `sqlSet2` with its
  trigger (`setRow_step`), on a free name (`hashSetTx_new`) as on a stored one (`hashSetTx_old`).
-/
import RedkaModel.Proofs.HashRows
import RedkaModel.Proofs.KeyRef

namespace Redka.HashRef

open Redka Redka.Model Redka.Spec Redka.DB Redka.Scan

/-- `DB.WF` plus what the invariant says about `rhash` -/
structure HWF (db : DB) : Prop where
  wf : db.WF
  /-- unique index on `(kid, field)` -/
  pairs : PairNodup db.hashes
  /-- the cached length of a hash key is its number of rows -/
  len : ∀ r ∈ db.keys, r.ty = THash →
    r.len = some ((db.hashes.filter (fun x => x.kid == r.id)).length : Int)
  /-- every row belongs to a stored hash key -/
  owner : ∀ x ∈ db.hashes, ∃ r ∈ db.keys, r.id = x.kid ∧ r.ty = THash

theorem _root_.Redka.DB.Inv.hwf {db : DB} (h : db.Inv) : HWF db := by
  have hp := InvP.WF.of_inv h
  refine ⟨DB.Inv.wf h, List.pairwise_map.2 hp.uH, ?_, fun x hx => hp.oH x hx⟩
  intro r hr ht
  rw [hp.len_eq hr (by rw [ht]; decide)]
  simp [childCount, ht, THash, TList, TSet]

theorem absVal_hash {db : DB} {r : KeyRow} (h : r.ty = THash) :
    absVal db r = some (.hash (hview db.hashes r.id)) := by
  simp [absVal, h, THash, TString, TList, TSet, hashRows_view]

/-- what a name can be for the hash repository (see `THolder`) -/
abbrev HHolder := THolder THash SVal.hash (fun db id => hview db.hashes id)

theorem hholder {db : DB} (hw : db.WF) (now : Int) (k : Bytes) : HHolder now db k :=
  tholder (ty := THash) (mk := SVal.hash) (view := fun db id => hview db.hashes id) (fun _ => rfl)
    (fun _ _ => absVal_hash) hw now k

/-- `db2` is `db` with the name `k` stored as row `r` holding the value `v`; nothing else is
different as far as the abstraction can see -/
structure WrittenV (db db2 : DB) (k : Bytes) (r : KeyRow) (v : SVal) : Prop where
  find : ∀ k', db2.findKey k' = if k == k' then some r else db.findKey k'
  val : absVal db2 r = some v
  frame : ∀ r' ∈ db.keys, r'.key ≠ k → absVal db2 r' = absVal db r'

theorem WrittenV.abs {db db2 : DB} {k : Bytes} {r : KeyRow} {v : SVal}
    (hn : (db.keys.map (·.key)).Nodup) (hn2 : (db2.keys.map (·.key)).Nodup)
    (h : WrittenV db db2 k r v) (now : Int) :
    abs now db2 = purge now (put (abs now db) k ⟨v, r.etime⟩) :=
  abs_of_written hn hn2 h.find h.val h.frame now

/-- the tables after a statement pair of the hash repository: new `rkey` rows, new `rhash` rows -/
def withKH (db : DB) (K : List KeyRow) (hs : List HashRow) : DB := { db with keys := K, hashes := hs }

/-- `K` is `db.keys` with the row named `k` replaced by (or, if there was none, extended with) the
hash key row `r2` -/
structure KeysStep (db : DB) (K : List KeyRow) (k : Bytes) (r2 : KeyRow) : Prop where
  find : ∀ k', K.find? (fun r => r.key == k') = if k == k' then some r2 else db.findKey k'
  names : (K.map (·.key)).Nodup
  ids : (K.map (·.id)).Nodup
  mem : ∀ x ∈ K, x = r2 ∨ (x ∈ db.keys ∧ x.id ≠ r2.id)
  keep : ∀ x ∈ db.keys, x.id ≠ r2.id → x ∈ K
  self : r2 ∈ K
  ty : r2.ty = THash
  key : r2.key = k

theorem keysStep_append {db : DB} (hw : db.WF) {k : Bytes} {r2 : KeyRow} (h : db.findKey k = none)
    (hid : r2.id = db.nextKeyId) (hk : r2.key = k) (ht : r2.ty = THash) :
    KeysStep db (db.keys ++ [r2]) k r2 := by
  have hnone : db.findKey r2.key = none := by rw [hk]; exact h
  refine ⟨?_, names_append hw.names hnone, ids_append hw.ids hid, ?_, ?_, by simp, ht, hk⟩
  · intro k'; rw [← hk]; exact findKey_append hnone k'
  · intro x hx
    rcases List.mem_append.1 hx with hx | hx
    · exact Or.inr ⟨hx, by rw [hid]; exact nextKeyId_fresh db x hx⟩
    · exact Or.inl (by simpa using hx)
  · intro x hx _; exact List.mem_append_left _ hx

theorem keysStep_update {db : DB} (hn : (db.keys.map (·.key)).Nodup) (hi : (db.keys.map (·.id)).Nodup)
    {k : Bytes} {old r2 : KeyRow} (h : db.findKey k = some old) (hid : r2.id = old.id) (hk : r2.key = old.key) (ht : r2.ty = THash) :
    KeysStep db (db.updKey old.id (fun _ => r2)).keys k r2 := by
  obtain ⟨ho, hok⟩ := findKey_mem h
  refine ⟨?_, ?_, ?_, ?_, ?_, ?_, ht, by rw [hk, hok]⟩
  · intro k'; rw [← hok]; exact findKey_updKey hn hi ho hk k'
  · rw [updKey_names hi ho hk]; exact hn
  · rw [updKey_ids hi ho hid]; exact hi
  · intro x hx
    rcases mem_updKey hi ho hx with hx | ⟨hx, hne⟩
    · exact Or.inl hx
    · exact Or.inr ⟨hx, fun he => hne (id_inj hi hx ho (by rw [he, hid]))⟩
  · intro x hx hne
    rw [updKey_keys hi ho]
    refine List.mem_map.2 ⟨x, hx, ?_⟩
    have : x ≠ old := fun he => hne (by rw [he, hid])
    simp [this]
  · rw [updKey_keys hi ho]
    exact List.mem_map.2 ⟨old, ho, by simp⟩

theorem KeysStep.trans {db : DB} {K K' : List KeyRow} {k : Bytes} {r1 r2 : KeyRow}
    (h1 : KeysStep db K k r1) (h2 : KeysStep { db with keys := K } K' k r2) (hid : r2.id = r1.id) :
    KeysStep db K' k r2 := by
  refine ⟨fun k' => ?_, h2.names, h2.ids, fun x hx => ?_, fun x hx hne => ?_, h2.self, h2.ty, h2.key⟩
  · rw [h2.find k']
    split
    · rfl
    · rename_i hk
      exact (h1.find k').trans (if_neg hk)
  · rcases h2.mem x hx with he | ⟨hx', hne⟩
    · exact .inl he
    · rcases h1.mem x hx' with he | ⟨hx'', _⟩
      · exact absurd (by rw [he, hid]) hne
      · exact .inr ⟨hx'', hne⟩
  · exact h2.keep x (h1.keep x hx (hid ▸ hne)) hne

/-- **The write lemma of the family.** Replacing the key row of `k` by `r2` and the rows of
`r2.id` by those of `hs'`, with the cached length kept in step, keeps the invariant part and
changes the abstraction at `k` only: afterwards `k` holds the field map of `hs'`. -/
theorem step_hwf_written {db : DB} (hw : HWF db) {K : List KeyRow} {k : Bytes} {r2 : KeyRow}
    (ks : KeysStep db K k r2) {hs' : List HashRow} (rs : RowsStep db.hashes hs' r2.id)
    (hlen : r2.len = some ((hs'.filter (fun x => x.kid == r2.id)).length : Int)) :
    HWF (withKH db K hs') ∧ WrittenV db (withKH db K hs') k r2 (.hash (hview hs' r2.id)) := by
  have hmemK : ∀ r' ∈ db.keys, r'.key ≠ k → r' ∈ K ∧ r'.id ≠ r2.id := by
    intro r' hr' hne
    have hf : K.find? (fun r => r.key == r'.key) = some r' := by
      rw [ks.find]
      have : (k == r'.key) = false := by simpa using fun he : k = r'.key => hne he.symm
      simp only [this, Bool.false_eq_true, if_false]
      exact findKey_of_mem hw.wf.names hr'
    have hin := List.mem_of_find?_eq_some hf
    refine ⟨hin, ?_⟩
    rcases ks.mem r' hin with he | ⟨_, hne'⟩
    · exact absurd (by rw [he, ks.key]) hne
    · exact hne'
  refine ⟨⟨⟨ks.names, ks.ids, ?_, ?_, hw.wf.strKids⟩, rs.pairs, ?_, ?_⟩, ⟨ks.find, ?_, ?_⟩⟩
  · intro x hx
    rcases ks.mem x hx with he | ⟨hx', _⟩
    · rw [he, ks.ty]; decide
    · exact hw.wf.tyOk x hx'
  · intro x hx hty
    rcases ks.mem x hx with he | ⟨hx', _⟩
    · rw [he, ks.ty] at hty; cases hty
    · exact hw.wf.strRow x hx' hty
  · intro x hx hty
    rcases ks.mem x hx with he | ⟨hx', hne⟩
    · rw [he]; exact hlen
    · show x.len = some ((hs'.filter (fun y => y.kid == x.id)).length : Int)
      rw [rs.other x.id hne]
      exact hw.len x hx' hty
  · intro x hx
    rcases rs.kids x hx with he | ⟨y, hy, hyk⟩
    · exact ⟨r2, ks.self, he.symm, ks.ty⟩
    · obtain ⟨r, hr, hrid, hrty⟩ := hw.owner y hy
      by_cases hc : r.id = r2.id
      · exact ⟨r2, ks.self, by rw [← hc, hrid, hyk], ks.ty⟩
      · exact ⟨r, ks.keep r hr hc, by rw [hrid, hyk], hrty⟩
  · exact absVal_hash (db := withKH db K hs') ks.ty
  · intro r' hr' hne
    obtain ⟨_, hid⟩ := hmemK r' hr' hne
    apply absVal_congr <;> try rfl
    exact rs.other r'.id hid

/-- the row `sqlSet1` inserts -/
def hNew (k : Bytes) (now id : Int) : KeyRow :=
  { id := id, key := k, ty := THash, version := 1, etime := none, mtime := now, len := some 0 }

/-- the `do update` assignments of `sqlSet1` -/
def hTouch (now : Int) (o : KeyRow) : KeyRow := { o with version := o.version + 1, mtime := now }

/-- the trigger `rhash_on_insert`: `len + 1` when `sqlSet2` inserted a row -/
def bump (isNew : Bool) (o : KeyRow) : KeyRow :=
  { o with len := if isNew then o.len.map (· + 1) else o.len }

theorem hashSetRow_eq (db : DB) (kid : Int) (f v : Bytes) :
    hashSetRow db kid f v
      = withKH db
          (db.updKey kid (bump (!db.hashes.any (fun r => r.kid == kid && r.field == f)))).keys
          (hashPut db.hashes db.nextHashRowid kid f v) := by
  unfold hashSetRow withKH hashPut
  split
  · rename_i h
    have hk : (db.updKey kid (bump (!db.hashes.any (fun r => r.kid == kid && r.field == f)))).keys
        = db.keys := by
      unfold updKey
      simp only [h, Bool.not_true]
      conv => rhs; rw [← List.map_id db.keys]
      apply List.map_congr_left
      intro x _
      split <;> rfl
    rw [hk]
  · rename_i h
    have h : db.hashes.any (fun r => r.kid == kid && r.field == f) = false := by simpa using h
    simp only [h, Bool.not_false]
    rfl

/-- `sqlSet2` and its trigger, once `sqlSet1` has brought the key row of `k` to `r1` -/
theorem setRow_step {db : DB} (hw : HWF db) {K : List KeyRow} {k : Bytes} {r1 : KeyRow}
    (ks : KeysStep db K k r1)
    (hl1 : r1.len = some ((db.hashes.filter (fun x => x.kid == r1.id)).length : Int)) (f v : Bytes) :
    ∃ r2, r2.etime = r1.etime ∧ HWF (hashSetRow { db with keys := K } r1.id f v) ∧
      WrittenV db (hashSetRow { db with keys := K } r1.id f v) k r2
        (.hash (aput (hview db.hashes r1.id) f v)) := by
  have hf1 : DB.findKey { db with keys := K } k = some r1 :=
    (ks.find k).trans (if_pos (beq_self_eq_true k))
  let isNew := !db.hashes.any (fun r => r.kid == r1.id && r.field == f)
  have ks2 := ks.trans (keysStep_update (db := { db with keys := K }) ks.names ks.ids hf1
    (r2 := bump isNew r1) rfl rfl ks.ty) rfl
  have hlen : (bump isNew r1).len = some (((hashPut db.hashes db.nextHashRowid r1.id f v).filter
      (fun x => x.kid == r1.id)).length : Int) := by
    show (if isNew = true then r1.len.map (· + 1) else r1.len) = _
    rw [length_filter_hashPut_self, hl1]
    cases hany : db.hashes.any (fun r => r.kid == r1.id && r.field == f) <;>
      simp [isNew, hany]
  obtain ⟨hw2, hwr⟩ := step_hwf_written hw ks2 (rowsStep_put hw.pairs db.nextHashRowid r1.id f v) hlen
  rw [show (bump isNew r1).id = r1.id from rfl, hview_hashPut hw.pairs] at hwr
  have heq : hashSetRow { db with keys := K } r1.id f v
      = withKH db (({ db with keys := K } : DB).updKey r1.id (fun _ => bump isNew r1)).keys
          (hashPut db.hashes db.nextHashRowid r1.id f v) := by
    rw [hashSetRow_eq, updKey_const (db := { db with keys := K }) ks.ids ks.self]
    rfl
  rw [heq]
  exact ⟨bump isNew r1, rfl, hw2, hwr⟩

/-- `sqlSet1` does not look at `etime`: the stored hash key may be an expired leftover, and keeps
its expiry -/
theorem hashSetTx_old {db : DB} (hw : HWF db) {k : Bytes} {old : KeyRow}
    (h : db.findKey k = some old) (ht : old.ty = THash) (f v : Bytes) (now : Int) :
    ∃ db2 r2, hashSetTx db k f v now = .ok db2 ∧ HWF db2 ∧ r2.etime = old.etime ∧
      WrittenV db db2 k r2 (.hash (aput (hview db.hashes old.id) f v)) := by
  obtain ⟨r2, het, hw2, hwr⟩ := setRow_step hw
    (keysStep_update hw.wf.names hw.wf.ids h (r2 := hTouch now old) rfl rfl ht)
    (hw.len old (findKey_mem h).1 ht) f v
  refine ⟨_, r2, ?_, hw2, het, hwr⟩
  simp only [hashSetTx, show hashSetKey db k now = .ok (_, hTouch now old) from keyUpsert_old h ht]
  rfl

theorem hashSetTx_new {db : DB} (hw : HWF db) {k : Bytes} (h : db.findKey k = none)
    (f v : Bytes) (now : Int) :
    ∃ db2 r2, hashSetTx db k f v now = .ok db2 ∧ HWF db2 ∧ r2.etime = none ∧
      WrittenV db db2 k r2 (.hash [(f, v)]) := by
  have hfresh : ∀ x ∈ db.hashes, x.kid ≠ db.nextKeyId := by
    intro x hx he
    obtain ⟨r, hr, hrid, _⟩ := hw.owner x hx
    exact nextKeyId_fresh db r hr (by rw [hrid, he])
  have hfil : db.hashes.filter (fun x => x.kid == db.nextKeyId) = [] := by
    rw [List.filter_eq_nil_iff]
    intro x hx; simpa using hfresh x hx
  obtain ⟨r2, het, hw2, hwr⟩ := setRow_step hw
    (keysStep_append hw.wf h (r2 := hNew k now db.nextKeyId) rfl rfl rfl)
    (congrArg (fun l : List HashRow => some (l.length : Int)) hfil).symm f v
  rw [show hview db.hashes (hNew k now db.nextKeyId).id = [] from hview_nil_of_no_rows hfresh] at hwr
  refine ⟨_, r2, ?_, hw2, het, hwr⟩
  simp only [hashSetTx, show hashSetKey db k now = .ok (_, hNew k now db.nextKeyId) from keyUpsert_new h]
  rfl

theorem hashSetTx_hwf {db : DB} (hw : HWF db) (k f v : Bytes) (now : Int) :
    ∀ d, hashSetTx db k f v now = .ok d → HWF d := by
  intro d hd
  cases hf : db.findKey k with
  | none =>
    obtain ⟨db2, _, he, hw2, _⟩ := hashSetTx_new hw hf f v now
    rw [he] at hd; cases hd; exact hw2
  | some old =>
    by_cases ht : old.ty = THash
    · obtain ⟨db2, _, he, hw2, _⟩ := hashSetTx_old hw hf ht f v now
      rw [he] at hd; cases hd; exact hw2
    · simp [hashSetTx, hashSetKey, keyUpsert_other hf ht] at hd

end Redka.HashRef
