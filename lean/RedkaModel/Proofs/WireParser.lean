/-
  Lemmas about the argument pipeline of `internal/parser` as modelled in
  `RedkaModel/Model/Wire/Parser.lean`: for EVERY grammar built from the combinators and EVERY
  argument vector.

  * unfolding lemmas for `runP` / `runNamed` / `runOneOf`;
  * `LeafSteps`: what a combinator other than `Named` / `OneOf` does, in one statement; its no-panic, footprint
    and environment-congruence facts are read off it;
  * no combinator, no loop and no grammar ever panics (since the repair of D11: `parser.StringsN`
    refuses a negative count with `ErrInvalidArgNum`); `hasStringsN` says where `StringsN` occurs;
  * the footprint of a combinator (`EnvStep`): which slots it may write, and that every `int` it
    stores was read by `strconv.Atoi` from one of the arguments;
  * `equalFold` is invariant under ASCII case changes of either side; `Flag`, `Named` and `OneOf`
    of those look at the head argument only through `equalFold`;
  * the positional prefix of a grammar.

 
-/
import RedkaModel.Model.Wire.Parser

namespace Redka.WireProofs

open Redka Redka.Wire

theorem forall_uint8 {p : UInt8 → Prop} (h : ∀ n : Fin 256, p (UInt8.ofNat n.val)) : ∀ c, p c := by
  intro c
  have := h ⟨c.toNat, c.toNat_lt⟩
  simpa using this

/-- `c - 32` for `a..z` -/
def upperAscii (c : UInt8) : UInt8 := if 97 ≤ c && c ≤ 122 then c - 32 else c

theorem lowerAscii_idem : ∀ c : UInt8, lowerAscii (lowerAscii c) = lowerAscii c := by
  apply forall_uint8; decide +kernel

theorem lowerAscii_upperAscii : ∀ c : UInt8, lowerAscii (upperAscii c) = lowerAscii c := by
  apply forall_uint8; decide +kernel

theorem lowerAscii_lt_128 : ∀ c : UInt8, (lowerAscii c < 128) = (c < 128) := by
  apply forall_uint8; decide +kernel

theorem lowerAscii_of_ge : ∀ c : UInt8, ¬ c < 128 → lowerAscii c = c := by
  intro c h
  unfold lowerAscii
  split
  · next hc =>
    exact absurd (UInt8.lt_of_le_of_lt (of_decide_eq_true (Bool.and_eq_true _ _ ▸ hc).2) (by decide)) h
  · rfl

/-- two byte strings that differ at most in the case of ASCII letters -/
def CaseVariant (a b : Bytes) : Prop := a.map lowerAscii = b.map lowerAscii

instance (a b : Bytes) : Decidable (CaseVariant a b) := by unfold CaseVariant; infer_instance

theorem CaseVariant.refl (a : Bytes) : CaseVariant a a := rfl
theorem CaseVariant.symm {a b : Bytes} (h : CaseVariant a b) : CaseVariant b a := Eq.symm h
theorem CaseVariant.trans {a b c : Bytes} (h : CaseVariant a b) (h' : CaseVariant b c) :
    CaseVariant a c := Eq.trans h h'

theorem caseVariant_lower (a : Bytes) : CaseVariant (a.map lowerAscii) a := by
  simp [CaseVariant, List.map_map, Function.comp_def, lowerAscii_idem]

theorem caseVariant_upper (a : Bytes) : CaseVariant (a.map upperAscii) a := by
  simp [CaseVariant, List.map_map, Function.comp_def, lowerAscii_upperAscii]

theorem equalFold_cons (a : UInt8) (as : Bytes) (n : UInt8) (ns : Bytes) :
    equalFold (a :: as) (n :: ns) =
      if a < 128 then lowerAscii a == lowerAscii n && equalFold as ns
      else if a == 0xE2 then
        match as with
        | b :: c :: rest => b == 0x84 && c == 0xAA && lowerAscii n == 107 && equalFold rest ns
        | _ => false
      else if a == 0xC5 then
        match as with
        | b :: rest => b == 0xBF && lowerAscii n == 115 && equalFold rest ns
        | _ => false
      else false := by
  rw [equalFold.eq_def]; rfl

/-- a byte outside ASCII is the lower case of itself only -/
theorem lowerAscii_beq_of_ge (b k : UInt8) (hk : ¬ k < 128) : (lowerAscii b == k) = (b == k) := by
  by_cases hb : b < 128
  · have h1 : lowerAscii b < 128 := by rw [lowerAscii_lt_128]; exact hb
    have n1 : lowerAscii b ≠ k := fun e => hk (e ▸ h1)
    have n2 : b ≠ k := fun e => hk (e ▸ hb)
    rw [beq_eq_false_iff_ne.mpr n1, beq_eq_false_iff_ne.mpr n2]
  · rw [lowerAscii_of_ge b hb]

theorem equalFold_lower_left (a n : Bytes) : equalFold (a.map lowerAscii) n = equalFold a n := by
  fun_induction equalFold a n with
  | case1 => rfl
  | case2 => rfl
  | case3 => rfl
  | case4 a as n ns h ih =>
    have h' : lowerAscii a < 128 := by rw [lowerAscii_lt_128]; exact h
    rw [List.map_cons, equalFold_cons, if_pos h', lowerAscii_idem, ih]
  | case5 a n ns h h2 b c rest ih =>
    have e : lowerAscii a = a := lowerAscii_of_ge a h
    rw [List.map_cons, equalFold_cons, e, if_neg h, if_pos h2]
    simp only [List.map_cons]
    rw [lowerAscii_beq_of_ge _ _ (by decide), lowerAscii_beq_of_ge _ _ (by decide), ih]
  | case6 a as n ns h h2 hno =>
    have e : lowerAscii a = a := lowerAscii_of_ge a h
    rw [List.map_cons, equalFold_cons, e, if_neg h, if_pos h2]
    match as, hno with
    | [], _ => rfl
    | [_], _ => rfl
    | b :: c :: rest, hno => exact absurd rfl (hno b c rest)
  | case7 a n ns h h2 h3 b rest ih =>
    have e : lowerAscii a = a := lowerAscii_of_ge a h
    rw [List.map_cons, equalFold_cons, e, if_neg h, if_neg h2, if_pos h3]
    simp only [List.map_cons]
    rw [lowerAscii_beq_of_ge _ _ (by decide), ih]
  | case8 a as n ns h h2 h3 hno =>
    have e : lowerAscii a = a := lowerAscii_of_ge a h
    rw [List.map_cons, equalFold_cons, e, if_neg h, if_neg h2, if_pos h3]
    match as, hno with
    | [], _ => rfl
    | b :: rest, hno => exact absurd rfl (hno b rest)
  | case9 a as n ns h h2 h3 =>
    have e : lowerAscii a = a := lowerAscii_of_ge a h
    rw [List.map_cons, equalFold_cons, e, if_neg h, if_neg h2, if_neg h3]

theorem equalFold_lower_right (a n : Bytes) : equalFold a (n.map lowerAscii) = equalFold a n := by
  fun_induction equalFold a n with
  | case1 => rfl
  | case2 => rfl
  | case3 => rfl
  | case4 a as n ns h ih =>
    rw [List.map_cons, equalFold_cons, if_pos h, lowerAscii_idem, ih]
  | case5 a n ns h h2 b c rest ih =>
    rw [List.map_cons, equalFold_cons, if_neg h, if_pos h2]
    simp only []
    rw [lowerAscii_idem, ih]
  | case6 a as n ns h h2 hno =>
    rw [List.map_cons, equalFold_cons, if_neg h, if_pos h2]
    match as, hno with
    | [], _ => rfl
    | [_], _ => rfl
    | b :: c :: rest, hno => exact absurd rfl (hno b c rest)
  | case7 a n ns h h2 h3 b rest ih =>
    rw [List.map_cons, equalFold_cons, if_neg h, if_neg h2, if_pos h3]
    simp only []
    rw [lowerAscii_idem, ih]
  | case8 a as n ns h h2 h3 hno =>
    rw [List.map_cons, equalFold_cons, if_neg h, if_neg h2, if_pos h3]
    match as, hno with
    | [], _ => rfl
    | b :: rest, hno => exact absurd rfl (hno b rest)
  | case9 a as n ns h h2 h3 =>
    rw [List.map_cons, equalFold_cons, if_neg h, if_neg h2, if_neg h3]

theorem equalFold_caseVariant_left {a a' : Bytes} (h : CaseVariant a a') (n : Bytes) :
    equalFold a n = equalFold a' n := by
  rw [← equalFold_lower_left a, ← equalFold_lower_left a', h]

theorem equalFold_caseVariant_right {n n' : Bytes} (a : Bytes) (h : CaseVariant n n') :
    equalFold a n = equalFold a n' := by
  rw [← equalFold_lower_right a n, ← equalFold_lower_right a n', h]

theorem equalFold_ascii_lower (a n : Bytes) :
    equalFold (a.map lowerAscii) n = equalFold a n ∧ equalFold a (n.map lowerAscii) = equalFold a n :=
  ⟨equalFold_lower_left a n, equalFold_lower_right a n⟩

theorem equalFold_ascii_upper (a n : Bytes) :
    equalFold (a.map upperAscii) n = equalFold a n ∧ equalFold a (n.map upperAscii) = equalFold a n :=
  ⟨equalFold_caseVariant_left (caseVariant_upper a) n, equalFold_caseVariant_right a (caseVariant_upper n)⟩

theorem runP_named (name : String) (ps : List P) (args : List Bytes) (env : Env) :
    runP (.named name ps) args env =
      match args with
      | [] => .ret false args env
      | a :: r => if !equalFold a (asciiBytes name) then .ret false args env
        else runNamed ps r env 0 ps.length := by
  cases args <;> simp [runP]

theorem runP_flag (name slot : String) (args : List Bytes) (env : Env) :
    runP (.flag name slot) args env =
      match args with
      | [] => .ret false args env
      | a :: r => if !equalFold a (asciiBytes name) then .ret false args env
        else .ret true r (setSlot env slot (.bool true)) := by
  cases args <;> simp [runP]

theorem runP_oneOf (ps : List P) (args : List Bytes) (env : Env) :
    runP (.oneOf ps) args env = runOneOf ps args env 0 := by
  cases args <;> simp [runP]

theorem runNamed_nil (args : List Bytes) (env : Env) (n t : Nat) :
    runNamed [] args env n t = if n != t then .fail .syntaxError else .ret true args env := by
  rw [runNamed]

theorem runNamed_cons (p : P) (ps : List P) (args : List Bytes) (env : Env) (n t : Nat) :
    runNamed (p :: ps) args env n t =
      match runP p args env with
      | .ret fired rest env' =>
        if rest.isEmpty then
          (if (if fired then n + 1 else n) != t then .fail .syntaxError else .ret true rest env')
        else runNamed ps rest env' (if fired then n + 1 else n) t
      | other => other := by
  rw [runNamed]; rfl

theorem runOneOf_nil (args : List Bytes) (env : Env) (n : Nat) :
    runOneOf [] args env n = if n > 1 then .fail .syntaxError else .ret (n > 0) args env := by
  rw [runOneOf]

theorem runOneOf_cons (p : P) (ps : List P) (args : List Bytes) (env : Env) (n : Nat) :
    runOneOf (p :: ps) args env n =
      match runP p args env with
      | .ret fired rest env' => runOneOf ps rest env' (if fired then n + 1 else n)
      | other => other := by
  rw [runOneOf]; rfl

/-- a combinator that is not `Named` / `OneOf` -/
def isLeaf : P → Bool
  | .named _ _ => false
  | .oneOf _ => false
  | _ => true

mutual
/-- the destination variables a combinator may assign -/
def slotsOf : P → List String
  | .string s => [s]
  | .bytes s => [s]
  | .int s => [s]
  | .float s => [s]
  | .enum s _ => [s]
  | .strings s => [s]
  | .anys s => [s]
  | .stringsN s _ => [s]
  | .anyMap s => [s]
  | .floatMap s => [s]
  | .flag _ s => [s]
  | .named _ ps => slotsOfL ps
  | .oneOf ps => slotsOfL ps
  | .unknown _ => []
def slotsOfL : List P → List String
  | [] => []
  | p :: ps => slotsOf p ++ slotsOfL ps
end

mutual
/-- `parser.StringsN` occurs in the combinator, at any depth -/
def hasStringsN : P → Bool
  | .stringsN _ _ => true
  | .named _ ps => hasStringsNL ps
  | .oneOf ps => hasStringsNL ps
  | _ => false
def hasStringsNL : List P → Bool
  | [] => false
  | p :: ps => hasStringsN p || hasStringsNL ps
end

mutual
/-- `parser.Enum` occurs in the combinator, at any depth -/
def hasEnum : P → Bool
  | .enum _ _ => true
  | .named _ ps => hasEnumL ps
  | .oneOf ps => hasEnumL ps
  | _ => false
def hasEnumL : List P → Bool
  | [] => false
  | p :: ps => hasEnum p || hasEnumL ps
end

mutual
/-- a construct the extractor did not recognise occurs in the combinator -/
def hasUnknown : P → Bool
  | .unknown _ => true
  | .named _ ps => hasUnknownL ps
  | .oneOf ps => hasUnknownL ps
  | _ => false
def hasUnknownL : List P → Bool
  | [] => false
  | p :: ps => hasUnknown p || hasUnknownL ps
end

def stepIsPanic : Step → Bool
  | .panic => true
  | _ => false

/-- an `int` stored in a slot was read by `strconv.Atoi` from one of the arguments `src` -/
def IntOK (src : List Bytes) (v : SlotVal) : Prop := ∀ i, v = .int i → ∃ a ∈ src, atoi a = some i

/-- What a combinator other than `Named` and `OneOf` does, run in two environments that agree on the `int` slots
(`StringsN` reads its count from one): nothing; or one assignment to its own slot, leaving a suffix of the arguments;
or no return — the same one in both, and never a panic. -/
inductive LeafSteps (S : List String) (args : List Bytes) (e e' : Env) : Step → Step → Prop
  | unfired : LeafSteps S args e e' (.ret false args e) (.ret false args e')
  | set {rest : List Bytes} {s : String} (v : SlotVal) (hr : rest <:+ args) (hs : s ∈ S) (hv : IntOK args v) :
    LeafSteps S args e e' (.ret true rest (setSlot e s v)) (.ret true rest (setSlot e' s v))
  | fail (x : PErr) : LeafSteps S args e e' (.fail x) (.fail x)
  | outOfDomain : LeafSteps S args e e' .outOfDomain .outOfDomain
  | unsupported (t : String) : LeafSteps S args e e' (.unsupported t) (.unsupported t)

theorem leaf_steps (p : P) (hl : isLeaf p = true) (args : List Bytes) (e e' : Env)
    (h : ∀ k, getInt e k = getInt e' k) :
    LeafSteps (slotsOf p) args e e' (runP p args e) (runP p args e') := by
  have noInt : ∀ {v : SlotVal}, (∀ i, v ≠ .int i) → IntOK args v := fun hv i hi => absurd hi (hv i)
  cases p with
  | named _ _ => cases hl
  | oneOf _ => cases hl
  | unknown t => exact .unsupported t
  | string s | bytes s =>
    cases args with
    | nil => exact .unfired
    | cons a r => exact .set _ (List.suffix_cons a r) (List.mem_singleton_self s) (noInt nofun)
  | int s =>
    cases args with
    | nil => exact .unfired
    | cons a r =>
      simp only [runP]
      cases ha : atoi a with
      | none => exact .fail _
      | some i =>
        refine .set _ (List.suffix_cons a r) (List.mem_singleton_self s) fun j hj => ?_
        cases hj
        exact ⟨a, List.mem_cons_self, ha⟩
  | float s =>
    cases args with
    | nil => exact .unfired
    | cons a r =>
      simp only [runP]
      cases parseFloat a with
      | ok x => exact .set _ (List.suffix_cons a r) (List.mem_singleton_self s) (noInt nofun)
      | invalid => exact .fail _
      | outOfDomain => exact .outOfDomain
  | enum s al =>
    cases args with
    | nil => exact .unfired
    | cons a r =>
      simp only [runP]
      split
      · exact .outOfDomain
      · split
        · exact .set _ (List.suffix_cons a r) (List.mem_singleton_self s) (noInt nofun)
        · exact .fail _
  | strings s | anys s =>
    cases args with
    | nil => exact .unfired
    | cons a r => exact .set _ List.nil_suffix (List.mem_singleton_self s) (noInt nofun)
  | stringsN s ns =>
    cases args with
    | nil => exact .unfired
    | cons a r =>
      simp only [runP, h ns]
      split
      · exact .fail _
      · exact .set _ (List.drop_suffix _ _) (List.mem_singleton_self s) (noInt nofun)
  | anyMap s =>
    simp only [runP]
    split
    · exact .unfired
    · exact .set _ List.nil_suffix (List.mem_singleton_self s) (noInt nofun)
  | floatMap s =>
    simp only [runP]
    split
    · exact .unfired
    · split
      · exact .unfired
      · exact .fail _
      · exact .outOfDomain
      · exact .set _ List.nil_suffix (List.mem_singleton_self s) (noInt nofun)
  | flag n s =>
    rw [runP_flag, runP_flag]
    split
    · exact .unfired
    · split
      · exact .unfired
      · exact .set _ (List.suffix_cons _ _) (List.mem_singleton_self s) (noInt nofun)

theorem LeafSteps.noPanic {S : List String} {args : List Bytes} {e e' : Env} {s s' : Step}
    (h : LeafSteps S args e e' s s') : stepIsPanic s = false := by
  cases h <;> rfl

/-! ### A.1 nothing panics -/

mutual
theorem runP_noPanic (p : P) (args : List Bytes) (env : Env) :
    stepIsPanic (runP p args env) = false := by
  cases p with
  | named name ps =>
    rw [runP_named]
    split
    · rfl
    · split
      · rfl
      · exact runNamed_noPanic ps _ _ _ _
  | oneOf ps =>
    rw [runP_oneOf]
    exact runOneOf_noPanic ps _ _ _
  | _ => exact (leaf_steps _ rfl args env env fun _ => rfl).noPanic
theorem runNamed_noPanic (ps : List P) (args : List Bytes) (env : Env) (n t : Nat) :
    stepIsPanic (runNamed ps args env n t) = false := by
  cases ps with
  | nil => rw [runNamed_nil]; split <;> rfl
  | cons p ps =>
    rw [runNamed_cons]
    have hp := runP_noPanic p args env
    cases hr : runP p args env with
    | ret fired rest env' =>
      simp only []
      split
      · split <;> (try split) <;> rfl
      · exact runNamed_noPanic ps _ _ _ _
    | panic => rw [hr] at hp; cases hp
    | _ => rfl
theorem runOneOf_noPanic (ps : List P) (args : List Bytes) (env : Env) (n : Nat) :
    stepIsPanic (runOneOf ps args env n) = false := by
  cases ps with
  | nil => rw [runOneOf_nil]; split <;> rfl
  | cons p ps =>
    rw [runOneOf_cons]
    have hp := runP_noPanic p args env
    cases hr : runP p args env with
    | ret fired rest env' => exact runOneOf_noPanic ps _ _ _
    | panic => rw [hr] at hp; cases hp
    | _ => rfl
end

theorem runP_ne_panic (p : P) (args : List Bytes) (env : Env) : runP p args env ≠ .panic := by
  intro e
  have := runP_noPanic p args env
  rw [e] at this
  cases this

def outcomeIsPanic : Outcome → Bool
  | .panic => true
  | _ => false

def tryIsPanic : TryRes → Bool
  | .stop .panic => true
  | _ => false

theorem tryAll_noPanic (ps : List P) (i : Nat) (args : List Bytes) (env : Env) :
    tryIsPanic (tryAll ps i args env) = false := by
  induction ps generalizing i env with
  | nil => rfl
  | cons p ps ih =>
    have hp := runP_noPanic p args env
    rw [tryAll]
    split
    · rfl
    · exact ih _ _
    · rfl
    · next hpan => rw [hpan] at hp; cases hp
    · rfl
    · rfl

theorem finish_noPanic (args : List Bytes) (env : Env) : outcomeIsPanic (finish args env) = false := by
  unfold finish; split <;> rfl

theorem runLoop_noPanic (fuel : Nat) (ps : List P) (args : List Bytes) (env : Env) :
    outcomeIsPanic (runLoop fuel ps args env) = false := by
  induction fuel generalizing ps args env with
  | zero => rw [runLoop]; exact finish_noPanic _ _
  | succ fuel ih =>
    rw [runLoop]
    split
    · exact finish_noPanic _ _
    · have ht := tryAll_noPanic ps 0 args env
      split
      · exact ih _ _ _
      · exact finish_noPanic _ _
      · next o hstop =>
        rw [hstop] at ht
        cases o <;> first | rfl | cases ht

theorem runGrammar_noPanic (g : Grammar) (args : List Bytes) :
    outcomeIsPanic (runGrammar g args) = false := by
  unfold runGrammar
  split
  · rfl
  · exact runLoop_noPanic _ _ _ _

theorem runGrammar_ne_panic (g : Grammar) (args : List Bytes) : runGrammar g args ≠ .panic := by
  intro e
  have := runGrammar_noPanic g args
  rw [e] at this
  cases this

theorem getSlot_setSlot (env : Env) (k : String) (v : SlotVal) (k' : String) :
    getSlot (setSlot env k v) k' = if k = k' then some v else getSlot env k' := by
  induction env with
  | nil => simp [setSlot, getSlot]
  | cons kv r ih =>
    obtain ⟨k0, v0⟩ := kv
    by_cases h0 : k0 = k
    · subst h0; simp only [setSlot, getSlot, beq_self_eq_true, if_true, beq_iff_eq]; split <;> simp [*]
    · simp only [setSlot, beq_iff_eq, h0, if_false, getSlot, ih]
      by_cases h1 : k0 = k'
      · subst h1
        have : ¬ k = k0 := fun e => h0 e.symm
        simp [this]
      · simp [h1]

/-- `env'` is `env` after some assignments, each to a slot of `S`, each `int` read from `src` -/
inductive EnvStep (S : List String) (src : List Bytes) : Env → Env → Prop
  | refl (env : Env) : EnvStep S src env env
  | set {env env' : Env} (s : String) (v : SlotVal) :
      EnvStep S src env env' → s ∈ S → IntOK src v → EnvStep S src env (setSlot env' s v)

theorem EnvStep.mono {S S' : List String} {src src' : List Bytes} {env env' : Env}
    (h : EnvStep S src env env') (hS : ∀ s ∈ S, s ∈ S') (hsrc : ∀ a ∈ src, a ∈ src') :
    EnvStep S' src' env env' := by
  induction h with
  | refl => exact .refl _
  | set s v _ hs hv ih =>
    refine .set s v ih (hS s hs) ?_
    intro i hi
    obtain ⟨a, ha, hat⟩ := hv i hi
    exact ⟨a, hsrc a ha, hat⟩

theorem EnvStep.trans {S : List String} {src : List Bytes} {e1 e2 e3 : Env}
    (h1 : EnvStep S src e1 e2) (h2 : EnvStep S src e2 e3) : EnvStep S src e1 e3 := by
  induction h2 with
  | refl => exact h1
  | set s v _ hs hv ih => exact .set s v ih hs hv

theorem EnvStep.single {S : List String} {src : List Bytes} (env : Env) {s : String} (v : SlotVal)
    (hs : s ∈ S) (hv : IntOK src v) : EnvStep S src env (setSlot env s v) :=
  .set s v (.refl env) hs hv

theorem EnvStep.frame {S : List String} {src : List Bytes} {env env' : Env}
    (h : EnvStep S src env env') (k : String) (hk : k ∉ S) : getSlot env' k = getSlot env k := by
  induction h with
  | refl => rfl
  | set s v _ hs _ ih =>
    rw [getSlot_setSlot]
    have : ¬ s = k := fun e => hk (e ▸ hs)
    simp [this, ih]

/-- what a returning combinator did: it left a suffix of its input, assigned only its own slots,
and when it did not fire it changed nothing -/
def Foot (S : List String) (args : List Bytes) (env : Env) (f : Bool) (rest : List Bytes)
    (env' : Env) : Prop :=
  rest <:+ args ∧ EnvStep S args env env' ∧ (f = false → rest = args ∧ env' = env)

theorem foot_unfired (S : List String) (args : List Bytes) (env : Env) : Foot S args env false args env :=
  ⟨List.suffix_refl _, .refl _, fun _ => ⟨rfl, rfl⟩⟩

theorem leaf_foot {p : P} (hl : isLeaf p = true) {args : List Bytes} {env : Env} {f : Bool} {rest : List Bytes}
    {env' : Env} (h : runP p args env = .ret f rest env') : Foot (slotsOf p) args env f rest env' := by
  have hs := leaf_steps p hl args env env fun _ => rfl
  rw [h] at hs
  cases hs with
  | unfired => exact foot_unfired _ _ _
  | set v hr hs hv => exact ⟨hr, .single _ v hs hv, nofun⟩

theorem Foot.mono {S S' : List String} {args args' : List Bytes} {env env' : Env} {rest : List Bytes}
    (h : Foot S args env true rest env') (hS : ∀ s ∈ S, s ∈ S') (hsuf : args <:+ args') :
    Foot S' args' env true rest env' :=
  ⟨h.1.trans hsuf, h.2.1.mono hS (fun _ ha => hsuf.subset ha), fun h => by cases h⟩

mutual
theorem runP_foot (p : P) (args : List Bytes) (env : Env) (f : Bool) (rest : List Bytes) (env' : Env)
    (h : runP p args env = .ret f rest env') : Foot (slotsOf p) args env f rest env' := by
  cases p with
  | named name ps =>
    rw [runP_named] at h
    split at h
    · cases h; exact foot_unfired _ _ _
    · next a r =>
      split at h
      · cases h; exact foot_unfired _ _ _
      · have := runNamed_foot ps r env 0 ps.length f rest env' h
        obtain ⟨rfl, hf⟩ := this
        exact hf.mono (fun _ hs => by simpa [slotsOf] using hs) (List.suffix_cons _ _)
  | oneOf ps =>
    rw [runP_oneOf] at h
    have := runOneOf_foot ps args env 0 f rest env' h
    refine ⟨this.1, by simpa [slotsOf] using this.2.1, fun hf => (this.2.2 hf).2⟩
  | _ => exact leaf_foot rfl h
/-- `Named` never returns "not fired" from its loop -/
theorem runNamed_foot (ps : List P) (args : List Bytes) (env : Env) (n t : Nat) (f : Bool)
    (rest : List Bytes) (env' : Env) (h : runNamed ps args env n t = .ret f rest env') :
    f = true ∧ Foot (slotsOfL ps) args env true rest env' := by
  cases ps with
  | nil =>
    rw [runNamed_nil] at h
    split at h
    · cases h
    · cases h; exact ⟨rfl, List.suffix_refl _, .refl _, fun h => by cases h⟩
  | cons p ps =>
    rw [runNamed_cons] at h
    cases hr : runP p args env with
    | ret f1 rest1 env1 =>
      rw [hr] at h
      simp only [] at h
      have h1 := runP_foot p args env f1 rest1 env1 hr
      have hS1 : ∀ s ∈ slotsOf p, s ∈ slotsOfL (p :: ps) := fun s hs => by simp [slotsOfL, hs]
      have hS2 : ∀ s ∈ slotsOfL ps, s ∈ slotsOfL (p :: ps) := fun s hs => by simp [slotsOfL, hs]
      by_cases he : rest1.isEmpty = true
      · rw [if_pos he] at h
        by_cases hc : ((if f1 = true then n + 1 else n) != t) = true
        · rw [if_pos hc] at h; cases h
        · rw [if_neg hc] at h; cases h
          exact ⟨rfl, h1.1, h1.2.1.mono hS1 (fun _ h => h), fun h => by cases h⟩
      · rw [if_neg he] at h
        obtain ⟨rfl, h2⟩ := runNamed_foot ps rest1 env1 _ t f rest env' h
        refine ⟨rfl, h2.1.trans h1.1, ?_, fun h => by cases h⟩
        exact (h1.2.1.mono hS1 (fun _ h => h)).trans
          (h2.2.1.mono hS2 (fun _ ha => h1.1.subset ha))
    | _ => rw [hr] at h; cases h
theorem runOneOf_foot (ps : List P) (args : List Bytes) (env : Env) (n : Nat) (f : Bool)
    (rest : List Bytes) (env' : Env) (h : runOneOf ps args env n = .ret f rest env') :
    rest <:+ args ∧ EnvStep (slotsOfL ps) args env env' ∧
      (f = false → n = 0 ∧ rest = args ∧ env' = env) := by
  cases ps with
  | nil =>
    rw [runOneOf_nil] at h
    split at h
    · cases h
    · cases h
      refine ⟨List.suffix_refl _, .refl _, fun hf => ⟨?_, rfl, rfl⟩⟩
      simpa using hf
  | cons p ps =>
    rw [runOneOf_cons] at h
    cases hr : runP p args env with
    | ret f1 rest1 env1 =>
      rw [hr] at h
      simp only [] at h
      have h1 := runP_foot p args env f1 rest1 env1 hr
      have hS1 : ∀ s ∈ slotsOf p, s ∈ slotsOfL (p :: ps) := fun s hs => by simp [slotsOfL, hs]
      have hS2 : ∀ s ∈ slotsOfL ps, s ∈ slotsOfL (p :: ps) := fun s hs => by simp [slotsOfL, hs]
      have h2 := runOneOf_foot ps rest1 env1 _ f rest env' h
      refine ⟨h2.1.trans h1.1, ?_, ?_⟩
      · exact (h1.2.1.mono hS1 (fun _ h => h)).trans
          (h2.2.1.mono hS2 (fun _ ha => h1.1.subset ha))
      · intro hf
        obtain ⟨hn, hrest, henv⟩ := h2.2.2 hf
        cases f1 with
        | true => simp at hn
        | false =>
          obtain ⟨e1, e2⟩ := h1.2.2 rfl
          subst e1 e2
          exact ⟨by simpa using hn, hrest, henv⟩
    | _ => rw [hr] at h; cases h
end

theorem tryAll_cons (p : P) (ps : List P) (i : Nat) (args : List Bytes) (env : Env) :
    tryAll (p :: ps) i args env =
      match runP p args env with
      | .ret true rest env' => .fired i rest env'
      | .ret false _ env' => tryAll ps (i + 1) args env'
      | .fail e => .stop (.error e)
      | .panic => .stop .panic
      | .outOfDomain => .stop .outOfDomain
      | .unsupported t => .stop (.unsupported t) := by
  rw [tryAll]; rfl

theorem runP_unfired {p : P} {args : List Bytes} {env : Env} {rest : List Bytes} {env' : Env}
    (h : runP p args env = .ret false rest env') : rest = args ∧ env' = env :=
  (runP_foot p args env false rest env' h).2.2 rfl

/-- "try all parsers until one fires": the parser at index `k` fired, the earlier ones did not -/
theorem tryAll_fired (ps : List P) (i : Nat) (args : List Bytes) (env : Env) (j : Nat)
    (rest : List Bytes) (env' : Env) (h : tryAll ps i args env = .fired j rest env') :
    ∃ k p, j = i + k ∧ ps[k]? = some p ∧ runP p args env = .ret true rest env' ∧
      ∀ m, m < k → ∃ q, ps[m]? = some q ∧ runP q args env = .ret false args env := by
  induction ps generalizing i with
  | nil => rw [tryAll] at h; cases h
  | cons p ps ih =>
    rw [tryAll_cons] at h
    cases hr : runP p args env with
    | ret f1 rest1 env1 =>
      rw [hr] at h
      cases f1 with
      | true =>
        simp only [] at h
        cases h
        exact ⟨0, p, rfl, rfl, hr, fun m hm => absurd hm (Nat.not_lt_zero _)⟩
      | false =>
        simp only [] at h
        obtain ⟨e1, e2⟩ := runP_unfired hr
        subst e1 e2
        obtain ⟨k, q, hj, hq, hrun, hbefore⟩ := ih (i + 1) h
        refine ⟨k + 1, q, by omega, by simpa using hq, hrun, ?_⟩
        intro m hm
        cases m with
        | zero => exact ⟨p, rfl, hr⟩
        | succ m =>
          obtain ⟨q', hq', hr'⟩ := hbefore m (by omega)
          exact ⟨q', by simpa using hq', hr'⟩
    | _ => rw [hr] at h; cases h

theorem mem_slotsOfL {p : P} {ps : List P} (hp : p ∈ ps) : ∀ s ∈ slotsOf p, s ∈ slotsOfL ps := by
  induction ps with
  | nil => cases hp
  | cons q qs ih =>
    intro s hs
    rcases List.mem_cons.mp hp with rfl | hq
    · simp [slotsOfL, hs]
    · simp [slotsOfL, ih hq s hs]

theorem tryAll_fired_foot (ps : List P) (i : Nat) (args : List Bytes) (env : Env) (j : Nat)
    (rest : List Bytes) (env' : Env) (h : tryAll ps i args env = .fired j rest env') :
    rest <:+ args ∧ EnvStep (slotsOfL ps) args env env' := by
  obtain ⟨k, p, _, hp, hrun, _⟩ := tryAll_fired ps i args env j rest env' h
  have hf := runP_foot p args env true rest env' hrun
  exact ⟨hf.1, hf.2.1.mono (mem_slotsOfL (List.mem_of_getElem? hp)) (fun _ h => h)⟩

/-! ### A.1 `StringsN` refuses a negative count (D11, repaired) -/

/-- `parser.StringsN` answers `ErrInvalidArgNum` exactly when something is left to parse and the
count parsed earlier is negative or larger than what is left (`n < 0 || len(args) < n`) -/
theorem stringsN_fail_iff (slot nSlot : String) (args : List Bytes) (env : Env) (e : PErr) :
    runP (.stringsN slot nSlot) args env = .fail e ↔
      e = .invalidArgNum ∧ args ≠ [] ∧ (getInt env nSlot < 0 ∨ (args.length : Int) < getInt env nSlot) := by
  cases args with
  | nil => simp [runP]
  | cons a r =>
    simp only [runP]
    constructor
    · intro h
      split at h
      · next hc =>
        cases h
        refine ⟨rfl, by simp, ?_⟩
        simpa using hc
      · cases h
    · rintro ⟨rfl, _, hn⟩
      have hc : (getInt env nSlot < 0 || ((a :: r).length : Int) < getInt env nSlot) = true := by
        simpa using hn
      rw [if_pos hc]

theorem stringsN_negative_refused (slot nSlot : String) (args : List Bytes) (env : Env)
    (hne : args ≠ []) (hn : getInt env nSlot < 0) :
    runP (.stringsN slot nSlot) args env = .fail .invalidArgNum :=
  (stringsN_fail_iff slot nSlot args env .invalidArgNum).mpr ⟨rfl, hne, .inl hn⟩

theorem finish_ne_panic (args : List Bytes) (env : Env) : finish args env ≠ .panic := by
  unfold finish; split <;> simp

/-! ### A.2 `Flag`, `Named` and `OneOf` of them see the head argument only through `equalFold` -/

theorem flag_step (name slot : String) (a : Bytes) (r : List Bytes) (env : Env) :
    runP (.flag name slot) (a :: r) env =
      if equalFold a (asciiBytes name) then .ret true r (setSlot env slot (.bool true))
      else .ret false (a :: r) env := by
  rw [runP_flag]; cases h : equalFold a (asciiBytes name) <;> simp [h]

theorem named_step (name : String) (ps : List P) (a : Bytes) (r : List Bytes) (env : Env) :
    runP (.named name ps) (a :: r) env =
      if equalFold a (asciiBytes name) then runNamed ps r env 0 ps.length
      else .ret false (a :: r) env := by
  rw [runP_named]; cases h : equalFold a (asciiBytes name) <;> simp [h]

mutual
/-- a combinator guarded by a keyword: `Flag`, `Named`, or `OneOf` of such -/
def kwGuarded : P → Bool
  | .flag _ _ => true
  | .named _ _ => true
  | .oneOf ps => kwGuardedL ps
  | _ => false
def kwGuardedL : List P → Bool
  | [] => true
  | p :: ps => kwGuarded p && kwGuardedL ps
end

theorem kwGuardedL_eraseIdx (ps : List P) (i : Nat) (h : kwGuardedL ps = true) :
    kwGuardedL (ps.eraseIdx i) = true := by
  induction ps generalizing i with
  | nil => simpa using h
  | cons p ps ih =>
    simp only [kwGuardedL, Bool.and_eq_true] at h
    cases i with
    | zero => simpa using h.2
    | succ i => simp [kwGuardedL, h.1, ih i h.2]

mutual
/-- a keyword-guarded combinator that fires consumes the head argument -/
theorem kw_fired_suffix (p : P) (hk : kwGuarded p = true) (a : Bytes) (r : List Bytes) (env : Env)
    (rest : List Bytes) (env' : Env) (h : runP p (a :: r) env = .ret true rest env') : rest <:+ r := by
  cases p with
  | flag name slot =>
    rw [flag_step] at h
    split at h
    · cases h; exact List.suffix_refl _
    · cases h
  | named name ps =>
    rw [named_step] at h
    split at h
    · exact (runNamed_foot ps r env 0 ps.length true rest env' h).2.1
    · cases h
  | oneOf ps =>
    simp only [kwGuarded] at hk
    rw [runP_oneOf] at h
    rcases kwL_fired_suffix ps hk a r env 0 true rest env' h with h1 | ⟨_, _, hf⟩
    · exact h1
    · simp at hf
  | _ => cases hk
theorem kwL_fired_suffix (ps : List P) (hk : kwGuardedL ps = true) (a : Bytes) (r : List Bytes)
    (env : Env) (n : Nat) (f : Bool) (rest : List Bytes) (env' : Env)
    (h : runOneOf ps (a :: r) env n = .ret f rest env') :
    rest <:+ r ∨ (rest = a :: r ∧ env' = env ∧ f = decide (n > 0)) := by
  cases ps with
  | nil =>
    rw [runOneOf_nil] at h
    split at h
    · cases h
    · cases h; exact .inr ⟨rfl, rfl, rfl⟩
  | cons p ps =>
    simp only [kwGuardedL, Bool.and_eq_true] at hk
    rw [runOneOf_cons] at h
    cases hr : runP p (a :: r) env with
    | ret f1 rest1 env1 =>
      rw [hr] at h
      simp only [] at h
      cases f1 with
      | false =>
        obtain ⟨e1, e2⟩ := runP_unfired hr
        rw [e1, e2] at h
        simpa using kwL_fired_suffix ps hk.2 a r env n f rest env' h
      | true =>
        have h1 := kw_fired_suffix p hk.1 a r env rest1 env1 hr
        have h2 := runOneOf_foot ps rest1 env1 _ f rest env' h
        exact .inl (h2.1.trans h1)
    | _ => rw [hr] at h; cases h
end

/-- what changing the head argument does to a step that did not touch it -/
def headSwap (a' : Bytes) (r : List Bytes) : Step → Step
  | .ret f rest env => if rest.length = r.length + 1 then .ret f (a' :: r) env else .ret f rest env
  | s => s

theorem headSwap_of_suffix {a' : Bytes} {r rest : List Bytes} (f : Bool) (env : Env) (h : rest <:+ r) :
    headSwap a' r (.ret f rest env) = .ret f rest env := by
  have := h.length_le
  simp only [headSwap]
  rw [if_neg (by omega)]

theorem headSwap_head (a a' : Bytes) (r : List Bytes) (f : Bool) (env : Env) :
    headSwap a' r (.ret f (a :: r) env) = .ret f (a' :: r) env := by
  simp [headSwap]

mutual
/-- A keyword-guarded combinator gives the same result on a head argument and on any ASCII case
variant of it (when it does not fire it hands back the arguments it was given). -/
theorem kw_caseVariant (p : P) (hk : kwGuarded p = true) (a a' : Bytes) (hv : CaseVariant a a')
    (r : List Bytes) (env : Env) :
    runP p (a' :: r) env = headSwap a' r (runP p (a :: r) env) := by
  cases p with
  | flag name slot =>
    rw [flag_step, flag_step, ← equalFold_caseVariant_left hv]
    split
    · rw [headSwap_of_suffix _ _ (List.suffix_refl _)]
    · rw [headSwap_head]
  | named name ps =>
    rw [named_step, named_step, ← equalFold_caseVariant_left hv]
    split
    · cases hn : runNamed ps r env 0 ps.length with
      | ret f rest env' =>
        rw [headSwap_of_suffix _ _ (runNamed_foot ps r env 0 ps.length f rest env' hn).2.1]
      | _ => rfl
    · rw [headSwap_head]
  | oneOf ps =>
    simp only [kwGuarded] at hk
    rw [runP_oneOf, runP_oneOf]
    exact kwL_caseVariant ps hk a a' hv r env 0
  | _ => cases hk
theorem kwL_caseVariant (ps : List P) (hk : kwGuardedL ps = true) (a a' : Bytes)
    (hv : CaseVariant a a') (r : List Bytes) (env : Env) (n : Nat) :
    runOneOf ps (a' :: r) env n = headSwap a' r (runOneOf ps (a :: r) env n) := by
  cases ps with
  | nil =>
    rw [runOneOf_nil, runOneOf_nil]
    split
    · rfl
    · rw [headSwap_head]
  | cons p ps =>
    simp only [kwGuardedL, Bool.and_eq_true] at hk
    rw [runOneOf_cons, runOneOf_cons, kw_caseVariant p hk.1 a a' hv r env]
    cases hr : runP p (a :: r) env with
    | ret f1 rest1 env1 =>
      cases f1 with
      | false =>
        obtain ⟨e1, e2⟩ := runP_unfired hr
        rw [e1, e2, headSwap_head]
        exact kwL_caseVariant ps hk.2 a a' hv r env _
      | true =>
        have h1 := kw_fired_suffix p hk.1 a r env rest1 env1 hr
        rw [headSwap_of_suffix _ _ h1]
        show runOneOf ps rest1 env1 (if true = true then n + 1 else n) =
          headSwap a' r (runOneOf ps rest1 env1 (if true = true then n + 1 else n))
        generalize (if true = true then n + 1 else n) = m
        cases h2 : runOneOf ps rest1 env1 m with
        | ret f rest env' =>
          rw [headSwap_of_suffix _ _ ((runOneOf_foot ps rest1 env1 _ f rest env' h2).1.trans h1)]
        | _ => rfl
    | _ => rfl
end

theorem tryAll_caseVariant (ps : List P) (hk : kwGuardedL ps = true) (a a' : Bytes)
    (hv : CaseVariant a a') (r : List Bytes) (env : Env) (i : Nat) :
    tryAll ps i (a' :: r) env = tryAll ps i (a :: r) env := by
  induction ps generalizing i with
  | nil => rw [tryAll, tryAll]
  | cons p ps ih =>
    simp only [kwGuardedL, Bool.and_eq_true] at hk
    rw [tryAll_cons, tryAll_cons, kw_caseVariant p hk.1 a a' hv r env]
    cases hr : runP p (a :: r) env with
    | ret f1 rest1 env1 =>
      cases f1 with
      | false =>
        obtain ⟨e1, e2⟩ := runP_unfired hr
        rw [e1, e2, headSwap_head]
        exact ih hk.2 _
      | true =>
        rw [headSwap_of_suffix _ _ (kw_fired_suffix p hk.1 a r env rest1 env1 hr)]
    | _ => rfl

/-- **Keywords are recognised regardless of letter case.** Whenever the pipeline stands before an
argument with only keyword-guarded parsers left (`Flag`, `Named`, `OneOf` of these), replacing
that argument by any ASCII case variant of itself does not change the final outcome. -/
theorem runLoop_caseVariant (fuel : Nat) (ps : List P) (hk : kwGuardedL ps = true) (a a' : Bytes)
    (hv : CaseVariant a a') (r : List Bytes) (env : Env) :
    runLoop fuel ps (a' :: r) env = runLoop fuel ps (a :: r) env := by
  cases fuel with
  | zero => rw [runLoop, runLoop]; rfl
  | succ fuel =>
    rw [runLoop, runLoop, tryAll_caseVariant ps hk a a' hv r env 0]
    by_cases hp : ps.isEmpty = true
    · simp [hp, finish]
    · simp only [List.isEmpty_cons, hp, Bool.or_self, Bool.false_eq_true, if_false]
      cases tryAll ps 0 (a :: r) env <;> rfl

/-! ### A.3 the positional prefix -/

/-- `String`, `Bytes`, `Int`, `Float`: exactly one argument, bound whatever else is in the grammar -/
def isPositional : P → Bool
  | .string _ => true
  | .bytes _ => true
  | .int _ => true
  | .float _ => true
  | _ => false

/-- the leading positional parsers of a grammar -/
def posParsers (g : Grammar) : List P := g.parsers.takeWhile isPositional
/-- everything after them -/
def optTail (g : Grammar) : List P := g.parsers.dropWhile isPositional
/-- how many arguments are positional -/
def positionalPrefix (g : Grammar) : Nat := (posParsers g).length

theorem mem_takeWhile_imp {α : Type} (p : α → Bool) : ∀ (l : List α) (a : α), a ∈ l.takeWhile p → p a = true
  | [], _, h => by simp at h
  | x :: xs, a, h => by
    rw [List.takeWhile_cons] at h
    split at h
    · rcases List.mem_cons.mp h with rfl | h'
      · assumption
      · exact mem_takeWhile_imp p xs a h'
    · simp at h

theorem parsers_split (g : Grammar) : g.parsers = posParsers g ++ optTail g :=
  (List.takeWhile_append_dropWhile).symm

/-- what one positional parser stores for an argument (or how it fails) -/
def posVal : P → Bytes → Except Outcome (String × SlotVal)
  | .string s, a => .ok (s, .bytes a)
  | .bytes s, a => .ok (s, .bytes a)
  | .int s, a => match atoi a with
    | none => .error (.error .invalidInt)
    | some i => .ok (s, .int i)
  | .float s, a => match parseFloat a with
    | .invalid => .error (.error .invalidFloat)
    | .outOfDomain => .error .outOfDomain
    | .ok f => .ok (s, .float f)
  | _, _ => .error (.unsupported "not positional")

/-- bind the positional arguments one after the other -/
def bindPos : List P → List Bytes → Env → Except Outcome Env
  | p :: ps, a :: as, env =>
    match posVal p a with
    | .ok (s, v) => bindPos ps as (setSlot env s v)
    | .error o => .error o
  | _, _, env => .ok env

theorem positional_step (p : P) (hp : isPositional p = true) (a : Bytes) (r : List Bytes) (env : Env) :
    runP p (a :: r) env =
      match posVal p a with
      | .ok (s, v) => .ret true r (setSlot env s v)
      | .error (.error e) => .fail e
      | .error .outOfDomain => .outOfDomain
      | .error _ => .unsupported "not positional" := by
  cases p with
  | string s => simp [runP, posVal]
  | bytes s => simp [runP, posVal]
  | int s => simp only [runP, posVal]; cases atoi a <;> rfl
  | float s => simp only [runP, posVal]; cases parseFloat a <;> rfl
  | _ => cases hp

theorem posVal_error_shape (p : P) (hp : isPositional p = true) (a : Bytes) (o : Outcome)
    (h : posVal p a = .error o) : (∃ e, o = .error e) ∨ o = .outOfDomain := by
  cases p with
  | string s => cases h
  | bytes s => cases h
  | int s =>
    simp only [posVal] at h
    cases ha : atoi a <;> rw [ha] at h <;> cases h
    exact .inl ⟨_, rfl⟩
  | float s =>
    simp only [posVal] at h
    cases ha : parseFloat a <;> rw [ha] at h <;> cases h
    · exact .inl ⟨_, rfl⟩
    · exact .inr rfl
  | _ => cases hp

theorem runLoop_nil_args (fuel : Nat) (ps : List P) (env : Env) : runLoop fuel ps [] env = .ok env := by
  cases fuel <;> simp [runLoop, finish]

/-- the loop over a positional prefix: the `k`-th positional parser takes the `k`-th argument -/
theorem runLoop_positional (pos tail : List P) (hpos : ∀ p ∈ pos, isPositional p = true)
    (vals rest : List Bytes) (hlen : vals.length = pos.length) (fuel : Nat) (env : Env) :
    runLoop (pos.length + fuel) (pos ++ tail) (vals ++ rest) env =
      match bindPos pos vals env with
      | .ok env' => runLoop fuel tail rest env'
      | .error o => o := by
  induction pos generalizing vals env with
  | nil =>
    cases vals with
    | nil => simp [bindPos]
    | cons _ _ => simp at hlen
  | cons p pos ih =>
    cases vals with
    | nil => simp at hlen
    | cons v vals =>
      have hp := hpos p (by simp)
      have hstep := positional_step p hp v (vals ++ rest) env
      rw [show (p :: pos).length + fuel = (pos.length + fuel) + 1 by simp; omega]
      rw [runLoop]
      simp only [List.cons_append, List.isEmpty_cons, Bool.or_self, Bool.false_eq_true, if_false,
        tryAll_cons, hstep, bindPos]
      cases hv : posVal p v with
      | ok sv =>
        obtain ⟨s, x⟩ := sv
        simp only [List.eraseIdx_zero, List.tail_cons]
        exact ih (fun q hq => hpos q (by simp [hq])) vals (by simpa using hlen) _
      | error o =>
        rcases posVal_error_shape p hp v o hv with ⟨e, rfl⟩ | rfl <;> rfl

/-- **The positional prefix.** If the grammar starts with `n` positional parsers and at least `n`
arguments are given, the first `n` arguments are bound to those `n` slots, whatever their bytes;
the options loop then runs on the remaining arguments only. -/
theorem runGrammar_positional (g : Grammar) (args : List Bytes)
    (hn : positionalPrefix g ≤ args.length) (hreq : g.required ≤ args.length) :
    runGrammar g args =
      match bindPos (posParsers g) (args.take (positionalPrefix g)) [] with
      | .ok env => runLoop (optTail g).length (optTail g) (args.drop (positionalPrefix g)) env
      | .error o => o := by
  unfold runGrammar
  rw [if_neg (by omega)]
  have hsplit := parsers_split g
  have hl : g.parsers.length = (posParsers g).length + (optTail g).length := by
    rw [hsplit]; simp [List.length_append]
  have ha : args = args.take (positionalPrefix g) ++ args.drop (positionalPrefix g) :=
    (List.take_append_drop _ _).symm
  rw [hl]
  conv => lhs; rw [hsplit, ha]
  refine runLoop_positional (posParsers g) (optTail g) ?_ _ _ ?_ _ _
  · intro p hp
    exact mem_takeWhile_imp _ _ _ hp
  · simp [positionalPrefix] at hn ⊢
    omega

theorem slotsOfL_append (ps qs : List P) : slotsOfL (ps ++ qs) = slotsOfL ps ++ slotsOfL qs := by
  induction ps with
  | nil => simp [slotsOfL]
  | cons p ps ih => simp [slotsOfL, ih]

theorem slotsOfL_eraseIdx (ps : List P) (i : Nat) : ∀ s ∈ slotsOfL (ps.eraseIdx i), s ∈ slotsOfL ps := by
  induction ps generalizing i with
  | nil => intro s hs; simpa using hs
  | cons p ps ih =>
    intro s hs
    cases i with
    | zero => simp only [List.eraseIdx_zero, List.tail_cons] at hs; simp [slotsOfL, hs]
    | succ i =>
      simp only [List.eraseIdx_cons_succ, slotsOfL, List.mem_append] at hs ⊢
      rcases hs with h | h
      · exact .inl h
      · exact .inr (ih i s h)

theorem finish_ok {args : List Bytes} {env env' : Env} (h : finish args env = .ok env') : env' = env := by
  unfold finish at h
  split at h
  · cases h; rfl
  · cases h

theorem tryAll_stop_ne_ok (ps : List P) (i : Nat) (args : List Bytes) (env env' : Env) :
    tryAll ps i args env ≠ .stop (.ok env') := by
  induction ps generalizing i env with
  | nil => rw [tryAll]; simp
  | cons p ps ih =>
    rw [tryAll_cons]
    cases hr : runP p args env with
    | ret f1 rest1 env1 =>
      cases f1 with
      | true => simp
      | false => exact ih _ _
    | _ => simp

theorem bindPos_error_shape (pos : List P) (hpos : ∀ p ∈ pos, isPositional p = true)
    (vals : List Bytes) (env : Env) (o : Outcome) (h : bindPos pos vals env = .error o) :
    (∃ e, o = .error e) ∨ o = .outOfDomain := by
  induction pos generalizing vals env with
  | nil => simp only [bindPos] at h; cases h
  | cons p pos ih =>
    cases vals with
    | nil => simp only [bindPos] at h; cases h
    | cons a vals =>
      simp only [bindPos] at h
      cases hv : posVal p a with
      | error o' =>
        rw [hv] at h
        cases h
        exact posVal_error_shape p (hpos p (by simp)) a o hv
      | ok sv =>
        obtain ⟨s, v⟩ := sv
        rw [hv] at h
        exact ih (fun q hq => hpos q (by simp [hq])) vals _ h

theorem runLoop_foot (fuel : Nat) (ps : List P) (args : List Bytes) (env env' : Env)
    (h : runLoop fuel ps args env = .ok env') : EnvStep (slotsOfL ps) args env env' := by
  induction fuel generalizing ps args env with
  | zero => rw [runLoop] at h; rw [finish_ok h]; exact .refl _
  | succ fuel ih =>
    rw [runLoop] at h
    split at h
    · rw [finish_ok h]; exact .refl _
    · cases ht : tryAll ps 0 args env with
      | fired j rest env1 =>
        rw [ht] at h
        simp only [] at h
        obtain ⟨hsuf, hstep⟩ := tryAll_fired_foot ps 0 args env j rest env1 ht
        exact hstep.trans ((ih _ rest env1 h).mono (slotsOfL_eraseIdx ps j) (fun _ ha => hsuf.subset ha))
      | noneFired => rw [ht] at h; simp only [] at h; rw [finish_ok h]; exact .refl _
      | stop o => rw [ht] at h; simp only [] at h; subst h; exact absurd ht (tryAll_stop_ne_ok _ _ _ _ _)

theorem posVal_slot {p : P} {a : Bytes} {s : String} {v : SlotVal} (h : posVal p a = .ok (s, v)) :
    slotsOf p = [s] := by
  cases p with
  | string s' => simp only [posVal] at h; cases h; rfl
  | bytes s' => simp only [posVal] at h; cases h; rfl
  | int s' =>
    simp only [posVal] at h
    cases ha : atoi a <;> rw [ha] at h <;> cases h
    rfl
  | float s' =>
    simp only [posVal] at h
    cases ha : parseFloat a <;> rw [ha] at h <;> cases h
    rfl
  | _ => cases h

theorem bindPos_frame (pos : List P) (vals : List Bytes) (env env' : Env)
    (h : bindPos pos vals env = .ok env') (k : String) (hk : k ∉ slotsOfL pos) :
    getSlot env' k = getSlot env k := by
  induction pos generalizing vals env with
  | nil => simp only [bindPos] at h; cases h; rfl
  | cons p pos ih =>
    cases vals with
    | nil => simp only [bindPos] at h; cases h; rfl
    | cons a vals =>
      simp only [bindPos] at h
      cases hv : posVal p a with
      | error o => rw [hv] at h; cases h
      | ok sv =>
        obtain ⟨s, v⟩ := sv
        rw [hv] at h
        simp only [] at h
        have hs := posVal_slot hv
        simp only [slotsOfL, hs, List.mem_append, List.mem_singleton, not_or] at hk
        rw [ih vals _ h hk.2, getSlot_setSlot]
        have : ¬ s = k := fun e => hk.1 e.symm
        simp [this]

theorem bindPos_get (pos : List P) (hnd : (slotsOfL pos).Nodup) (vals : List Bytes) (env env' : Env)
    (h : bindPos pos vals env = .ok env') (k : Nat) (p : P) (a : Bytes)
    (hp : pos[k]? = some p) (ha : vals[k]? = some a) :
    ∃ s v, posVal p a = .ok (s, v) ∧ getSlot env' s = some v := by
  induction pos generalizing vals env k with
  | nil => simp at hp
  | cons q pos ih =>
    cases vals with
    | nil => simp at ha
    | cons b vals =>
      simp only [bindPos] at h
      cases hv : posVal q b with
      | error o => rw [hv] at h; cases h
      | ok sv =>
        obtain ⟨s, v⟩ := sv
        rw [hv] at h
        simp only [] at h
        have hs := posVal_slot hv
        simp only [slotsOfL, hs, List.singleton_append, List.nodup_cons] at hnd
        cases k with
        | zero =>
          simp only [List.getElem?_cons_zero, Option.some.injEq] at hp ha
          subst hp ha
          refine ⟨s, v, hv, ?_⟩
          rw [bindPos_frame pos vals _ _ h s hnd.1, getSlot_setSlot]
          simp
        | succ k =>
          simp only [List.getElem?_cons_succ] at hp ha
          exact ih hnd.2 vals _ h k hp ha

/-- **A value that happens to spell a keyword is still treated as a value** (positional values).
In a successful run of a grammar with pairwise distinct slot names, the `k`-th positional slot
holds what the positional parser made of the `k`-th argument — for `String` and `Bytes` parsers
the argument itself, byte for byte — whatever keywords the rest of the grammar knows. -/
theorem positional_bound (g : Grammar) (args : List Bytes) (env : Env)
    (hnd : (slotsOfL g.parsers).Nodup) (hn : positionalPrefix g ≤ args.length)
    (hok : runGrammar g args = .ok env) (k : Nat) (p : P) (a : Bytes)
    (hp : (posParsers g)[k]? = some p) (ha : args[k]? = some a) :
    ∃ s v, posVal p a = .ok (s, v) ∧ getSlot env s = some v := by
  have hreq : g.required ≤ args.length := by
    unfold runGrammar at hok
    split at hok
    · cases hok
    · omega
  rw [runGrammar_positional g args hn hreq] at hok
  rw [parsers_split g, slotsOfL_append] at hnd
  cases hb : bindPos (posParsers g) (args.take (positionalPrefix g)) [] with
  | error o =>
    rw [hb] at hok
    simp only [] at hok
    subst hok
    rcases bindPos_error_shape _ (fun q hq => mem_takeWhile_imp _ _ _ hq) _ _ _ hb with ⟨e, he⟩ | he <;>
      cases he
  | ok env0 =>
    rw [hb] at hok
    simp only [] at hok
    have hk : k < positionalPrefix g := by
      have := (List.getElem?_eq_some_iff.mp hp).1
      simpa [positionalPrefix] using this
    have ha' : (args.take (positionalPrefix g))[k]? = some a := by
      rw [List.getElem?_take]; simp [hk, ha]
    obtain ⟨s, v, hv, hg⟩ := bindPos_get (posParsers g) (List.nodup_append.mp hnd).1 _ _ _ hb k p a hp ha'
    refine ⟨s, v, hv, ?_⟩
    have hmem : s ∈ slotsOfL (posParsers g) :=
      mem_slotsOfL (List.mem_of_getElem? hp) s (by rw [posVal_slot hv]; simp)
    have hnot : s ∉ slotsOfL (optTail g) := fun h2 => (List.nodup_append.mp hnd).2.2 s hmem s h2 rfl
    rw [(runLoop_foot _ _ _ _ _ hok).frame s hnot, hg]

/-- For a grammar whose parsers after the positional prefix are all keyword-guarded: the argument
right after the positional values may be given in any ASCII case. (Later keyword positions are
states of the same loop: `runLoop_caseVariant`.) -/
theorem runGrammar_caseVariant (g : Grammar) (hk : kwGuardedL (optTail g) = true)
    (vals : List Bytes) (hv : vals.length = positionalPrefix g) (a a' : Bytes) (hc : CaseVariant a a')
    (r : List Bytes) :
    runGrammar g (vals ++ a' :: r) = runGrammar g (vals ++ a :: r) := by
  by_cases hreq : g.required ≤ (vals ++ a :: r).length
  · have hreq' : g.required ≤ (vals ++ a' :: r).length := by simpa using hreq
    rw [runGrammar_positional g _ (by simp [hv]) hreq, runGrammar_positional g _ (by simp [hv]) hreq']
    simp only [← hv, List.take_left', List.drop_left']
    cases bindPos (posParsers g) vals [] with
    | error o => rfl
    | ok env => exact runLoop_caseVariant _ _ hk a a' hc r env
  · have hreq' : ¬ g.required ≤ (vals ++ a' :: r).length := by simpa using hreq
    unfold runGrammar
    rw [if_pos (by omega), if_pos (by omega)]

/-- **A value that spells a keyword is still a value** (values of `Named` options): once the name
matched, a `String` body takes the next argument whatever it is. -/
theorem named_string_value (name slot : String) (kw v : Bytes) (r : List Bytes) (env : Env)
    (hkw : equalFold kw (asciiBytes name) = true) :
    runP (.named name [.string slot]) (kw :: v :: r) env = .ret true r (setSlot env slot (.bytes v)) := by
  rw [named_step, if_pos hkw, runNamed_cons]
  simp only [runP]
  cases r with
  | nil => simp
  | cons x xs => simp [runNamed_nil]

end Redka.WireProofs
