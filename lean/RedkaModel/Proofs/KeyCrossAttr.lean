import Lean

/-- the one-key methods of the five types and the statements they are composed of, as unfolding
rules: with these a method is rewritten down to its look-up of the key row (`DB.liveKeyT`) or its
upsert of it (`keyUpsert`) -/
register_simp_attr one_key
