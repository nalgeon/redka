/-
  Reply framing: the tokens a command writes form exactly one complete RESP value.

  * the counter `owed` and what the reply writers produce are in `WireFrame.lean`;
  * every `Run` of `Cmd/Run.lean` writes one complete value unless the model has no claim (`ood`);
  * `EXEC` writes `*n` and then one complete value per queued command — every one of them runs, also after a
    failing one (D12, repaired: the reply used to be short by the number of commands after the first failing one);
  * a well-formed token list is the encoding of a `Resp.Reply` tree, so the strict decoder of
    `Resp.lean` reads it back as exactly one reply with nothing left over.

 
-/
import RedkaModel.Model.Wire.Server
import RedkaModel.Proofs.Resp
import RedkaModel.Proofs.WirePanic
import RedkaModel.Proofs.WireApi

namespace Redka.WireProofs

open Redka Redka.Wire

/-- the tokens of one `Run` are one complete value, unless the model makes no claim -/
def RunOK (r : RunRes) : Prop := r.ood = false → wellFormedOne r.toks

theorem runOK_ood (db : DB) : RunOK (.outOfDomain db) := fun h => by cases h

/-- the common shape of `Run`: every path writes one complete value -/
theorem call_ok (c : ParsedCmd) (run : Runner) (op : Op) (now : Int) (db : DB)
    (onOk : Val → Option (List Token)) (onErr : Err → Option (List Token × Bool)) (bag : Nat)
    (hok : ∀ v toks, onOk v = some toks → wellFormedOne toks)
    (herr : ∀ e toks f, onErr e = some (toks, f) → wellFormedOne toks) :
    RunOK (call c run op now db onOk onErr bag) := by
  unfold call
  simp only []
  split
  · exact runOK_ood _
  · next e _ _ =>
    split
    · next toks failed he => exact fun _ => herr e toks failed he
    · split
      · exact runOK_ood _
      · exact fun _ => wf_scalar _ rfl
  · next v _ =>
    split
    · next toks ho => exact fun _ => hok v toks ho
    · exact runOK_ood _


theorem _root_.Redka.Wire.RunShape.runOK {c : ParsedCmd} {now : Int} {o : Option Bytes} {f : Runner → DB → RunRes}
    (hs : RunShape c now o f) (r : Runner) (db : DB) : RunOK (f r db) := by
  cases hs with
  | write toks failed h => exact fun _ => h
  | noClaim => exact runOK_ood db
  | call op onOk onErr bag _ hok herr => exact call_ok c r op now db onOk onErr bag hok herr

/-- **Every command writes exactly one complete value** (or the model makes no claim). -/
theorem run_ok (c : ParsedCmd) (r : Runner) (now : Int) (db : DB) (oracle : Option Bytes) :
    RunOK (run c r now db oracle) :=
  (run_shape c now oracle).runOK r db

theorem pop_push (st : ConnState) (pc : ParsedCmd) : (st.push pc).pop = (st, some pc) := by
  simp [ConnState.push, ConnState.pop]

theorem segs_single_toks (toks : List Token) (bag : Nat) :
    List.flatMap (fun s : Seg => s.toks) [{ toks := toks, bag := bag }] = toks := by
  simp

/-- what the chain writes when the request parses and no transaction is open, and that an ordinary command is
outside the model exactly when its `Run` is -/
theorem handleX_single (st : ConnState) (db : DB) (now : Int) (req : List Bytes) (pc : ParsedCmd)
    (hm : st.inMulti = false) (hp : parse req = .ok pc) :
    (handleX st db now req []).toks =
      (if isName pc.name "multi" then [okTok]
      else if isName pc.name "exec" then [plainErr .notInMulti]
      else if isName pc.name "discard" then [plainErr .notInMulti]
      else (run pc Model.dbRun now db none).toks) ∧
    (isName pc.name "multi" = false → isName pc.name "exec" = false → isName pc.name "discard" = false →
      (handleX st db now req []).ood = (run pc Model.dbRun now db none).ood) := by
  have hm' : (st.push pc).inMulti = false := hm
  unfold handleX
  rw [hp]
  simp only [afterParse, multiStage, hm', Bool.false_eq_true, if_false]
  refine ⟨?_, fun h1 h2 h3 => by simp [h1, h2, h3, handleNext, hm', handleSingle, pop_push, oracleAt]⟩
  split
  · rfl
  · split
    · rfl
    · split
      · rfl
      · simp [handleNext, hm', handleSingle, pop_push, Out.toks, oracleAt]

/-- the request is inside what the model covers: no numeric out-of-domain case, nothing the
extractor did not recognise (and not the empty request, which redcon never delivers). A panic need not be
excluded: `handleX_noPanic` shows there is none. -/
def InModel (o : Wire.Out) : Prop := o.ood = false ∧ o.unsupported = none

/-- **One reply per request**, outside MULTI. -/
theorem handle_one_reply (st : ConnState) (db : DB) (now : Int) (req : List Bytes)
    (hm : st.inMulti = false) (hin : InModel (handleX st db now req [])) :
    wellFormedOne (handle st db now req).2.2 := by
  show wellFormedOne (handleX st db now req []).toks
  cases hp : parse req with
  | error e => simp only [handleX, hp, Out.toks]; exact wf_scalar _ rfl
  | panic => exact absurd hp (parse_ne_panic req)
  | outOfDomain => have := hin.1; simp [handleX, hp] at this
  | unsupported t => have := hin.2; simp [handleX, hp] at this
  | ok pc =>
    obtain ⟨htoks, hood⟩ := handleX_single st db now req pc hm hp
    rw [htoks]
    split
    · exact wf_scalar _ rfl
    · split
      · exact wf_scalar _ rfl
      · split
        · exact wf_scalar _ rfl
        · next h1 h2 h3 =>
          apply run_ok pc Model.dbRun now db none
          rw [← hood (by simpa using h1) (by simpa using h2) (by simpa using h3)]
          exact hin.1

/-- **A malformed invocation is answered with an error and changes nothing**: when
`command.Parse` fails, the handler chain writes exactly one error token and leaves the tables and
the connection state (open transaction and queue included) as they were. -/
theorem handle_parse_error (st : ConnState) (db : DB) (now : Int) (req : List Bytes) (e : RErr)
    (h : parse req = .error e) :
    handle st db now req = (st, db, [.err (errorText (asciiBytes e.text) [])]) := by
  simp [handle, handleX, h, Out.toks]

theorem handleNext_push_noPanic (st : ConnState) (pc : ParsedCmd) (db : DB) (now : Int) (obs : List Token)
    (pos : Nat) : (handleNext (st.push pc) db now obs pos).panic = false := by
  unfold handleNext
  split
  · rfl
  · simp only [handleSingle, pop_push]

theorem multiStage_push_noPanic (st : ConnState) (pc : ParsedCmd) (db : DB) (now : Int) (obs : List Token) :
    (multiStage (st.push pc) pc.name db now obs).panic = false := by
  unfold multiStage
  rw [pop_push]
  split
  · next hm =>
    split
    · rfl
    · split
      · simp only [handleNext, show st.inMulti = true from hm, if_true, handleMulti]
      · split <;> rfl
  · split
    · rfl
    · split
      · rfl
      · split
        · rfl
        · exact handleNext_push_noPanic st pc db now obs 0

/-- **No request makes the handler chain panic**: the parser never does (`parse_ne_panic`), and
the one modelled panic of the chain itself — `handleSingle` calling `Run` on the `nil` command that
`state.pop()` returns for an empty queue — is unreachable, because `parse` has just pushed the
command (`pop_push`) and `EXEC` inside MULTI goes to `handleMulti`. -/
theorem handleX_noPanic (st : ConnState) (db : DB) (now : Int) (req : List Bytes) :
    (handleX st db now req []).panic = false := by
  unfold handleX
  split
  · rfl
  · next h => exact absurd h (parse_ne_panic req)
  · rfl
  · rfl
  · exact multiStage_push_noPanic st _ db now []

theorem handleX_panic (st : ConnState) (db : DB) (now : Int) (req : List Bytes)
    (h : (handleX st db now req []).panic = true) : parse req = .panic := by
  rw [handleX_noPanic] at h; cases h

/-- After `runQueue` (inside the model's domain): one segment per queued command — every command runs, also
after a failing one (D12, repaired) — and together they are exactly the `n` announced values. -/
theorem runQueue_owed (cmds : List ParsedCmd) (now : Int) (db : DB) (obs : List Token) (pos c : Nat)
    (hood : (runQueue cmds now db obs pos).ood = false) :
    (runQueue cmds now db obs pos).segs.length = cmds.length ∧
    owed ((runQueue cmds now db obs pos).segs.flatMap (·.toks)) (cmds.length + c) = some c := by
  induction cmds generalizing db pos with
  | nil => simp [runQueue, owed]
  | cons pc cs ih =>
    rw [runQueue] at hood ⊢
    simp only [] at hood ⊢
    have hrun := run_ok pc (Model.tx true) now db (oracleAt obs pos)
    by_cases ho : (run pc (Model.tx true) now db (oracleAt obs pos)).ood = true
    · rw [if_pos ho] at hood; cases hood
    · rw [if_neg ho] at hood ⊢
      have hwf := hrun (by simpa using ho)
      obtain ⟨h1, h2⟩ := ih _ _ hood
      refine ⟨by simp [h1], ?_⟩
      simp only [List.flatMap_cons, List.length_cons]
      rw [owed_append, show cs.length + 1 + c = 1 + (cs.length + c) by omega,
        owed_add _ 1 0 (cs.length + c) hwf]
      simp only [Option.bind_some, Nat.zero_add]
      exact h2

theorem handleX_exec (st : ConnState) (db : DB) (now : Int) (req : List Bytes) (pc : ParsedCmd)
    (hm : st.inMulti = true) (hp : parse req = .ok pc) (hname : pc.name = asciiBytes "exec") :
    (handleX st db now req []).toks =
      .arrayHdr st.cmds.length :: (runQueue st.cmds now db [] 1).segs.flatMap (·.toks) ∧
    (handleX st db now req []).ood = (runQueue st.cmds now db [] 1).ood := by
  unfold handleX
  rw [hp]
  simp only [afterParse, multiStage]
  have hm' : (st.push pc).inMulti = true := hm
  have h1 : isName pc.name "multi" = false := by rw [hname]; decide
  have h2 : isName pc.name "exec" = true := by rw [hname]; decide
  rw [hm']
  simp [h1, h2, pop_push, handleNext, hm, handleMulti, Out.toks]

/-- **EXEC replies.** Inside MULTI, `EXEC` announces `n` values and writes exactly `n`: its reply is one
complete RESP value whether or not a queued command fails (D12, repaired). -/
theorem exec_owed (st : ConnState) (db : DB) (now : Int) (req : List Bytes) (pc : ParsedCmd)
    (hm : st.inMulti = true) (hp : parse req = .ok pc) (hname : pc.name = asciiBytes "exec")
    (hood : (handleX st db now req []).ood = false) :
    owed (handle st db now req).2.2 1 = some 0 ∧
    (runQueue st.cmds now db [] 1).segs.length = st.cmds.length ∧
    wellFormedOne (handle st db now req).2.2 := by
  obtain ⟨ht, ho⟩ := handleX_exec st db now req pc hm hp hname
  have hq := runQueue_owed st.cmds now db [] 1 0 (by rw [← ho]; exact hood)
  have e : owed (handle st db now req).2.2 1 = some 0 := by
    show owed (handleX st db now req []).toks (0 + 1) = _
    rw [ht, owed_hdr]
    simpa using hq.2
  exact ⟨e, hq.1, e⟩

/-- Inside MULTI a request that parses is answered with exactly one token and never touches the
tables: `QUEUED` (the command is appended to the queue), an error for a nested `MULTI`, `OK` for
`DISCARD` (the queue is dropped). -/
theorem handleX_in_multi (st : ConnState) (db : DB) (now : Int) (req : List Bytes) (pc : ParsedCmd)
    (hm : st.inMulti = true) (hp : parse req = .ok pc) (hne : isName pc.name "exec" = false) :
    handle st db now req =
      if isName pc.name "multi" then (st, db, [plainErr .nestedMulti])
      else if isName pc.name "discard" then ({ inMulti := false, cmds := [] }, db, [okTok])
      else ({ st with cmds := st.cmds ++ [pc] }, db, [.str (asciiBytes "QUEUED")]) := by
  unfold handle handleX
  rw [hp]
  simp only [afterParse, multiStage]
  have hm' : (st.push pc).inMulti = true := hm
  rw [hm']
  simp only [if_true, hne, Bool.false_eq_true, if_false]
  split
  · simp [pop_push, Out.toks]
  · split
    · simp [Out.toks, ConnState.clear, ConnState.push]
    · simp [Out.toks, ConnState.push]

theorem handle_in_multi_one_reply (st : ConnState) (db : DB) (now : Int) (req : List Bytes)
    (pc : ParsedCmd) (hm : st.inMulti = true) (hp : parse req = .ok pc)
    (hne : isName pc.name "exec" = false) :
    wellFormedOne (handle st db now req).2.2 ∧ (handle st db now req).2.1 = db := by
  rw [handleX_in_multi st db now req pc hm hp hne]
  split
  · exact ⟨wf_scalar _ rfl, rfl⟩
  · split
    · exact ⟨wf_scalar _ rfl, rfl⟩
    · exact ⟨wf_scalar _ rfl, rfl⟩

theorem wellFormed_flatten (l : List (List Token)) (h : ∀ ts ∈ l, wellFormedOne ts) :
    WellFormed l.length l.flatten := by
  induction l with
  | nil => rfl
  | cons ts l ih =>
    have h1 : WellFormed 1 ts := h ts (by simp)
    have := WellFormed.append h1 (ih (fun us hus => h us (by simp [hus])))
    simpa [Nat.add_comm] using this

/-! ### from tokens to bytes (redcon `resp.go`) -/

open Redka.Resp in
/-- the bytes one `redis.Writer` call appends -/
def encodeToken : Token → Bytes
  | .str s => 43 :: (stripNewlines s ++ crlf)
  | .err s => 45 :: (stripNewlines s ++ crlf)
  | .int i => appendPrefix 58 i
  | .bulk b => appendPrefix 36 (b.length : Int) ++ (b ++ crlf)
  | .null => [36, 45, 49, 13, 10]
  | .arrayHdr n => appendPrefix 42 n
  | .raw b => b

/-- the bytes of a token list on the wire -/
def encodeTokens (ts : List Token) : Bytes := ts.flatMap encodeToken

open Redka.Resp in
/-- the reply a scalar token is (with CR and LF in status and error lines already replaced, as
redcon's writer does) -/
def scalarReply : Token → Reply
  | .str s => .simple (stripNewlines s)
  | .err s => .err (stripNewlines s)
  | .int i => .int i
  | .bulk b => .bulk b
  | _ => .null

theorem strip_clean (s : Bytes) :
    (Resp.stripNewlines s).contains 13 = false ∧ (Resp.stripNewlines s).contains 10 = false := by
  have key : ∀ c ∈ Resp.stripNewlines s, c ≠ 13 ∧ c ≠ 10 := by
    intro c hc
    unfold Resp.stripNewlines at hc
    obtain ⟨d, _, rfl⟩ := List.mem_map.mp hc
    by_cases h : d = 13 ∨ d = 10
    · rw [if_pos h]; decide
    · rw [if_neg h]; exact ⟨fun e => h (.inl e), fun e => h (.inr e)⟩
  constructor
  · cases hh : (Resp.stripNewlines s).contains 13 with
    | false => rfl
    | true => exact absurd rfl (key 13 (by simpa using hh)).1
  · cases hh : (Resp.stripNewlines s).contains 10 with
    | false => rfl
    | true => exact absurd rfl (key 10 (by simpa using hh)).2

theorem scalarReply_spec (t : Token) (ht : isScalar t = true) :
    Resp.Clean (scalarReply t) ∧ Resp.encode (scalarReply t) = encodeToken t := by
  cases t with
  | str s =>
    have := strip_clean s
    refine ⟨by show Resp.isClean _ = true; simp only [scalarReply, Resp.isClean, this.1, this.2]; rfl, ?_⟩
    simp [scalarReply, Resp.encode, encodeToken, Resp.stripNewlines_of_clean this.1 this.2]
  | err s =>
    have := strip_clean s
    refine ⟨by show Resp.isClean _ = true; simp only [scalarReply, Resp.isClean, this.1, this.2]; rfl, ?_⟩
    simp [scalarReply, Resp.encode, encodeToken, Resp.stripNewlines_of_clean this.1 this.2]
  | int i => exact ⟨rfl, rfl⟩
  | bulk b => exact ⟨rfl, rfl⟩
  | null => exact ⟨rfl, rfl⟩
  | arrayHdr n => cases ht
  | raw b => cases ht

/-- **Tokens to reply trees.** A token list that is `k` complete values is, byte for byte, the
encoding of `k` reply trees, each free of CR/LF in its status and error lines. -/
theorem wellFormed_replies (ts : List Token) (k : Nat) (h : WellFormed k ts) :
    ∃ rs : List Resp.Reply, rs.length = k ∧ (∀ r ∈ rs, Resp.Clean r) ∧
      encodeTokens ts = rs.flatMap Resp.encode := by
  unfold WellFormed at h
  induction ts generalizing k with
  | nil => simp only [owed] at h; cases h; exact ⟨[], rfl, by simp, rfl⟩
  | cons t ts ih =>
    cases k with
    | zero => simp [owed] at h
    | succ k =>
      by_cases hs : isScalar t = true
      · rw [owed_scalar t hs] at h
        obtain ⟨rs, hl, hc, he⟩ := ih k h
        obtain ⟨hc1, he1⟩ := scalarReply_spec t hs
        refine ⟨scalarReply t :: rs, by simp [hl], ?_, ?_⟩
        · intro r hr
          rcases List.mem_cons.mp hr with rfl | hr
          · exact hc1
          · exact hc r hr
        · simp [encodeTokens, he1] at he ⊢
          exact he
      · cases t with
        | arrayHdr n =>
          simp only [owed] at h
          split at h
          · cases h
          · next hn =>
            obtain ⟨rs, hl, hc, he⟩ := ih _ h
            have hlen : (rs.take n.toNat).length = n.toNat := by simp [hl]
            refine ⟨.array (rs.take n.toNat) :: rs.drop n.toNat, by simp [hl], ?_, ?_⟩
            · intro r hr
              rcases List.mem_cons.mp hr with rfl | hr
              · show Resp.isClean (.array _) = true
                rw [Resp.isClean, Resp.isCleanList_iff]
                exact fun r hr => hc r (List.mem_of_mem_take hr)
              · exact hc r (List.mem_of_mem_drop hr)
            · have hn' : ((n.toNat : Nat) : Int) = n := Int.toNat_of_nonneg (by omega)
              simp only [encodeTokens, List.flatMap_cons, encodeToken, Resp.encode, hlen, hn',
                Resp.encodeList_eq_flatMap] at he ⊢
              rw [he, List.append_assoc, ← List.flatMap_append, List.take_append_drop]
        | raw b => simp [owed] at h
        | _ => exact absurd rfl hs

/-- **On the wire.** A token list that is exactly one complete value is read by the strict RESP
decoder as exactly one reply, and whatever bytes follow it are left untouched. -/
theorem wellFormedOne_decodes (ts : List Token) (h : wellFormedOne ts) :
    ∃ r : Resp.Reply, Resp.Clean r ∧ encodeTokens ts = Resp.encode r ∧
      ∀ rest : Bytes, Resp.decode (encodeTokens ts ++ rest) = some (r, rest) := by
  obtain ⟨rs, hl, hc, he⟩ := wellFormed_replies ts 1 h
  match rs, hl with
  | [r], _ =>
    have hcr := hc r (by simp)
    refine ⟨r, hcr, by simpa using he, fun rest => ?_⟩
    rw [he]
    simpa using Resp.decode_encode_append r hcr rest

/-- a stream of `k` complete values is read as exactly `k` replies, to the last byte -/
theorem wellFormed_stream (ts : List Token) (k : Nat) (h : WellFormed k ts) :
    ∃ rs : List Resp.Reply, rs.length = k ∧ Resp.decodeAll (encodeTokens ts) = some rs := by
  obtain ⟨rs, hl, hc, he⟩ := wellFormed_replies ts k h
  exact ⟨rs, hl, by rw [he]; exact Resp.decodeAll_flatMap rs hc⟩

end Redka.WireProofs
