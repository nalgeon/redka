/-
  The `rhash` table as a list of rows: what the rows of one key id stand for (`hview`, the
  field-to-value map in field order), the pointwise reading of that map (`hfind`), and what the
  two statements that change the table — the upsert `sqlSet2` (`hashPut`) and the delete of
  `sqlDelete` (`hashDel`) — do to both (`RowsStep`: the rows of the other key ids stay, the unique
  index stays). Everything here is independent of `rkey`.
-/
import RedkaModel.Proofs.RowsLib

namespace Redka.HashRef

open Redka Redka.Model Redka.Spec Redka.Scan

/-- the unique index on `(kid, field)` -/
def PairNodup (hs : List HashRow) : Prop := (hs.map (fun r => (r.kid, r.field))).Nodup

/-- `select value from rhash where kid = ? and field = ?` -/
def hfind (hs : List HashRow) (id : Int) (f : Bytes) : Option Bytes :=
  (hs.find? (fun x => x.kid == id && x.field == f)).map (·.value)

/-- the fields and values of one key id in field order: what `absVal` reads for a hash key -/
def hview (hs : List HashRow) (id : Int) : List (Bytes × Bytes) :=
  (sortBy (fun a b => bytesLt a.field b.field) (hs.filter (fun r => r.kid == id))).map
    (fun h => (h.field, h.value))

theorem hashRows_view (db : DB) (id : Int) :
    (hashRows db id).map (fun h => (h.field, h.value)) = hview db.hashes id := rfl

theorem fields_nodup {hs : List HashRow} (h : PairNodup hs) (id : Int) :
    ((hs.filter (fun r => r.kid == id)).map (·.field)).Nodup :=
  nodup_of_pair_nodup HashRow.kid HashRow.field h id

theorem hview_sorted {hs : List HashRow} (h : PairNodup hs) (id : Int) : Sorted (hview hs id) := by
  unfold hview Sorted
  rw [List.pairwise_map]
  exact pairwise_sortBy (fun r : HashRow => r.field) strictTotal_bytes _ (fields_nodup h id)

theorem mem_hview {hs : List HashRow} {id : Int} {f v : Bytes} :
    (f, v) ∈ hview hs id ↔ ∃ x ∈ hs, x.kid = id ∧ x.field = f ∧ x.value = v := by
  simp only [hview, List.mem_map, mem_sortBy, List.mem_filter, beq_iff_eq, Prod.mk.injEq]
  constructor
  · rintro ⟨x, ⟨hx, hk⟩, hf, hv⟩; exact ⟨x, hx, hk, hf, hv⟩
  · rintro ⟨x, hx, hk, hf, hv⟩; exact ⟨x, ⟨hx, hk⟩, hf, hv⟩

theorem length_hview (hs : List HashRow) (id : Int) :
    (hview hs id).length = (hs.filter (fun r => r.kid == id)).length := by
  simp [hview, length_sortBy]

theorem pair_inj {hs : List HashRow} (h : PairNodup hs) {a b : HashRow} (ha : a ∈ hs) (hb : b ∈ hs)
    (hk : a.kid = b.kid) (hf : a.field = b.field) : a = b :=
  inj_of_nodup_map (fun r : HashRow => (r.kid, r.field)) hs h a ha b hb (by simp [hk, hf])

theorem aget_hview {hs : List HashRow} (h : PairNodup hs) (id : Int) (f : Bytes) :
    aget (hview hs id) f = hfind hs id f := by
  apply Option.ext
  intro v
  rw [aget_eq_some_iff (hview_sorted h id).nodup_keys, mem_hview]
  unfold hfind
  rw [Option.map_eq_some_iff]
  have hfound : ∀ {y}, hs.find? (fun x => x.kid == id && x.field == f) = some y →
      y ∈ hs ∧ y.kid = id ∧ y.field = f := fun hy =>
    ⟨List.mem_of_find?_eq_some hy, by simpa using List.find?_some hy⟩
  constructor
  · rintro ⟨x, hx, hk, hf, hv⟩
    have hsome : (hs.find? (fun x => x.kid == id && x.field == f)).isSome :=
      List.find?_isSome.2 ⟨x, hx, by simp [hk, hf]⟩
    obtain ⟨y, hy⟩ := Option.isSome_iff_exists.1 hsome
    obtain ⟨hyin, hyk, hyf⟩ := hfound hy
    exact ⟨y, hy, by rw [pair_inj h hyin hx (hyk.trans hk.symm) (hyf.trans hf.symm), hv]⟩
  · rintro ⟨y, hy, hv⟩
    obtain ⟨hyin, hyk, hyf⟩ := hfound hy
    exact ⟨y, hyin, hyk, hyf, hv⟩

theorem hview_ext {hs : List HashRow} (h : PairNodup hs) (id : Int) {H : List (Bytes × Bytes)}
    (hH : Sorted H) (hp : ∀ f, hfind hs id f = aget H f) : hview hs id = H :=
  sorted_ext (hview_sorted h id) hH (fun f => by rw [aget_hview h, hp])

theorem hview_congr {hs hs' : List HashRow} {id : Int}
    (h : hs'.filter (fun r => r.kid == id) = hs.filter (fun r => r.kid == id)) :
    hview hs' id = hview hs id := by
  unfold hview; rw [h]

theorem hview_nil_of_no_rows {hs : List HashRow} {id : Int} (h : ∀ x ∈ hs, x.kid ≠ id) :
    hview hs id = [] := by
  have : hs.filter (fun r => r.kid == id) = [] := by
    rw [List.filter_eq_nil_iff]
    intro x hx; simpa using h x hx
  simp [hview, this, sortBy]

/-! ### `sqlSet2`: insert … on conflict (kid, field) do update set value -/

def hashPut (hs : List HashRow) (rid kid : Int) (f v : Bytes) : List HashRow :=
  if hs.any (fun r => r.kid == kid && r.field == f) then
    hs.map (fun r => if r.kid == kid && r.field == f then { r with value := v } else r)
  else hs ++ [{ rowid := rid, kid := kid, field := f, value := v }]

/-- the `do update` assignment -/
def putVal (kid : Int) (f v : Bytes) (r : HashRow) : HashRow :=
  if r.kid == kid && r.field == f then { r with value := v } else r

theorem putVal_kid (kid : Int) (f v : Bytes) (r : HashRow) : (putVal kid f v r).kid = r.kid := by
  unfold putVal; split <;> rfl

theorem putVal_field (kid : Int) (f v : Bytes) (r : HashRow) : (putVal kid f v r).field = r.field := by
  unfold putVal; split <;> rfl

theorem hashPut_eq (hs : List HashRow) (rid kid : Int) (f v : Bytes) :
    hashPut hs rid kid f v
      = if hs.any (fun r => r.kid == kid && r.field == f) then hs.map (putVal kid f v)
        else hs ++ [{ rowid := rid, kid := kid, field := f, value := v }] := rfl

theorem any_iff_hfind (hs : List HashRow) (kid : Int) (f : Bytes) :
    hs.any (fun r => r.kid == kid && r.field == f) = (hfind hs kid f).isSome := by
  unfold hfind
  rw [Option.isSome_map, Bool.eq_iff_iff, List.any_eq_true, List.find?_isSome]

theorem hfind_hashPut (hs : List HashRow) (rid kid : Int) (f v : Bytes) (id' : Int) (f' : Bytes) :
    hfind (hashPut hs rid kid f v) id' f'
      = if kid = id' ∧ f = f' then some v else hfind hs id' f' := by
  rw [hashPut_eq]
  unfold hfind
  split
  · rename_i hany
    rw [List.find?_map]
    have hpc : ((fun x : HashRow => x.kid == id' && x.field == f') ∘ putVal kid f v)
        = (fun x => x.kid == id' && x.field == f') := by
      funext x; simp only [Function.comp, putVal_kid, putVal_field]
    rw [hpc]
    by_cases hc : kid = id' ∧ f = f'
    · obtain ⟨rfl, rfl⟩ := hc
      rw [if_pos ⟨rfl, rfl⟩]
      cases hfd : hs.find? (fun x => x.kid == kid && x.field == f) with
      | none =>
        obtain ⟨x, hx, hp⟩ := List.any_eq_true.1 hany
        rw [List.find?_eq_none] at hfd
        exact absurd hp (hfd x hx)
      | some y =>
        have hp := List.find?_some hfd
        simp [putVal, hp]
    · rw [if_neg hc]
      cases hfd : hs.find? (fun x => x.kid == id' && x.field == f') with
      | none => rfl
      | some y =>
        have hp := List.find?_some hfd
        simp only [Bool.and_eq_true, beq_iff_eq] at hp
        have : ¬ (y.kid = kid ∧ y.field = f) := fun h => hc ⟨h.1 ▸ hp.1, h.2 ▸ hp.2⟩
        simp [putVal, this]
  · rename_i hany
    rw [List.find?_append]
    by_cases hc : kid = id' ∧ f = f'
    · obtain ⟨rfl, rfl⟩ := hc
      have : hs.find? (fun x => x.kid == kid && x.field == f) = none := by
        rw [List.find?_eq_none]
        intro x hx hp
        exact hany (List.any_eq_true.2 ⟨x, hx, hp⟩)
      simp [this]
    · rw [if_neg hc]
      have : (((⟨rid, kid, f, v⟩ : HashRow).kid == id' && (⟨rid, kid, f, v⟩ : HashRow).field == f'))
          = false := by
        simpa using hc
      simp [this]

/-- `hs'` differs from `hs` only in rows of key id `id`, and keeps the unique index -/
structure RowsStep (hs hs' : List HashRow) (id : Int) : Prop where
  pairs : PairNodup hs'
  other : ∀ id', id' ≠ id → hs'.filter (fun r => r.kid == id') = hs.filter (fun r => r.kid == id')
  kids : ∀ x ∈ hs', x.kid = id ∨ ∃ y ∈ hs, y.kid = x.kid

theorem rowsStep_put {hs : List HashRow} (h : PairNodup hs) (rid kid : Int) (f v : Bytes) :
    RowsStep hs (hashPut hs rid kid f v) kid := by
  rw [hashPut_eq]
  split
  · refine ⟨?_, fun id' hne => ?_, fun x hx => ?_⟩
    · unfold PairNodup
      rw [List.map_map]
      have : (fun r : HashRow => (r.kid, r.field)) ∘ putVal kid f v = (fun r => (r.kid, r.field)) := by
        funext r; simp only [Function.comp, putVal_kid, putVal_field]
      rw [this]; exact h
    · rw [List.filter_map]
      have hpc : ((fun r : HashRow => r.kid == id') ∘ putVal kid f v) = (fun r => r.kid == id') := by
        funext x; simp only [Function.comp, putVal_kid]
      rw [hpc]
      conv => rhs; rw [← List.map_id (hs.filter (fun r => r.kid == id'))]
      apply List.map_congr_left
      intro x hx
      have hk := (List.mem_filter.1 hx).2
      simp only [beq_iff_eq] at hk
      have : ¬ x.kid = kid := by rw [hk]; exact hne
      simp [putVal, this]
    · obtain ⟨y, hy, rfl⟩ := List.mem_map.1 hx
      exact Or.inr ⟨y, hy, (putVal_kid kid f v y).symm⟩
  · rename_i hany
    refine ⟨?_, fun id' hne => ?_, fun x hx => ?_⟩
    · unfold PairNodup at h ⊢
      refine nodup_map_append_one _ h fun x hx he => ?_
      simp only [Prod.mk.injEq] at he
      exact hany (List.any_eq_true.2 ⟨x, hx, by simp [he.1, he.2]⟩)
    · rw [List.filter_append]
      have : (kid == id') = false := by simpa using fun h : kid = id' => hne h.symm
      simp [this]
    · rcases List.mem_append.1 hx with hx | hx
      · exact Or.inr ⟨x, hx, rfl⟩
      · have : x = ⟨rid, kid, f, v⟩ := by simpa using hx
        exact Or.inl (by rw [this])

theorem length_filter_hashPut_self (hs : List HashRow) (rid kid : Int) (f v : Bytes) :
    ((hashPut hs rid kid f v).filter (fun r => r.kid == kid)).length
      = (hs.filter (fun r => r.kid == kid)).length
        + (if hs.any (fun r => r.kid == kid && r.field == f) then 0 else 1) := by
  rw [hashPut_eq]
  split
  · rw [List.filter_map, List.length_map]
    have hpc : ((fun r : HashRow => r.kid == kid) ∘ putVal kid f v) = (fun r => r.kid == kid) := by
      funext x; simp only [Function.comp, putVal_kid]
    rw [hpc]; rfl
  · rw [List.filter_append]
    simp

theorem hview_hashPut {hs : List HashRow} (h : PairNodup hs) (rid kid : Int) (f v : Bytes) :
    hview (hashPut hs rid kid f v) kid = aput (hview hs kid) f v := by
  apply hview_ext (rowsStep_put h rid kid f v).pairs kid ((hview_sorted h kid).aput f v)
  intro f'
  rw [hfind_hashPut, aget_aput, aget_hview h]
  by_cases hf : f = f'
  · simp [hf]
  · have : (f == f') = false := by simpa using hf
    simp [hf, this]

/-! ### `sqlDelete`: delete from rhash where kid = ? and field in (…) -/

def hashDel (hs : List HashRow) (id : Int) (fs : List Bytes) : List HashRow :=
  hs.filter (fun x => !(x.kid == id && fs.contains x.field))

theorem find?_congr {α : Type} {p q : α → Bool} : ∀ (l : List α), (∀ x ∈ l, p x = q x) →
    l.find? p = l.find? q
  | [], _ => rfl
  | x :: l, h => by
    rw [List.find?_cons, List.find?_cons, h x (by simp),
      find?_congr l (fun y hy => h y (List.mem_cons_of_mem _ hy))]

theorem hfind_hashDel (hs : List HashRow) (id : Int) (fs : List Bytes) (id' : Int) (f' : Bytes) :
    hfind (hashDel hs id fs) id' f'
      = if id = id' ∧ fs.contains f' = true then none else hfind hs id' f' := by
  unfold hfind hashDel
  rw [find?_filter']
  split
  · rename_i hc
    rw [List.find?_eq_none.2, Option.map_none]
    intro x _ hp
    obtain ⟨rfl, hcf⟩ := hc
    simp only [Bool.and_eq_true, beq_iff_eq, Bool.not_eq_eq_eq_not, Bool.not_true,
      Bool.and_eq_false_imp] at hp
    have := hp.2 hp.1.1
    rw [hp.1.2, hcf] at this
    cases this
  · rename_i hc
    congr 1
    apply find?_congr
    intro x _
    by_cases hx : x.kid = id' ∧ x.field = f'
    · obtain ⟨rfl, rfl⟩ := hx
      simp only [beq_self_eq_true, Bool.and_self, Bool.true_and, Bool.not_eq_eq_eq_not, Bool.not_true,
        Bool.and_eq_false_imp, beq_iff_eq]
      exact fun h1 => Bool.eq_false_iff.2 (fun h2 => hc ⟨h1.symm, h2⟩)
    · have : (x.kid == id' && x.field == f') = false := by simpa using hx
      simp [this]
theorem rowsStep_del {hs : List HashRow} (h : PairNodup hs) (id : Int) (fs : List Bytes) :
    RowsStep hs (hashDel hs id fs) id := by
  refine ⟨List.Nodup.sublist (List.Sublist.map _ List.filter_sublist) h, fun id' hne => ?_,
    fun x hx => Or.inr ⟨x, (List.mem_filter.1 hx).1, rfl⟩⟩
  unfold hashDel
  rw [List.filter_filter]
  apply List.filter_congr
  intro x _
  by_cases hk : x.kid = id'
  · simp [hk, hne]
  · simp [hk]

theorem length_filter_hashDel (hs : List HashRow) (id : Int) (fs : List Bytes) :
    (hs.filter (fun r => r.kid == id)).length
      = (hs.filter (fun x => x.kid == id && fs.contains x.field)).length
        + ((hashDel hs id fs).filter (fun r => r.kid == id)).length :=
  InvP.length_filter_split (fun r : HashRow => r.kid == id) (fun r => fs.contains r.field) hs

theorem hview_hashDel {hs : List HashRow} (h : PairNodup hs) (id : Int) (fs : List Bytes) :
    hview (hashDel hs id fs) id = (hview hs id).filter (fun p => !fs.contains p.1) := by
  apply hview_ext (rowsStep_del h id fs).pairs id ((hview_sorted h id).filter _)
  intro f'
  rw [hfind_hashDel, aget_filter (hview_sorted h id), aget_hview h]
  cases hfd : hfind hs id f' with
  | none => simp
  | some v => by_cases hc : f' ∈ fs <;> simp [hc]

theorem count_listed {hs : List HashRow} (h : PairNodup hs) (id : Int) {fs : List Bytes}
    (hfs : fs.Nodup) :
    (hs.filter (fun x => x.kid == id && fs.contains x.field)).length
      = (fs.filter (fun f => (hfind hs id f).isSome)).length := by
  have h1 : (hs.filter (fun x => x.kid == id && fs.contains x.field)).length
      = (((hs.filter (fun r => r.kid == id)).map (·.field)).filter (fun f => fs.contains f)).length := by
    rw [List.filter_map, List.length_map, List.filter_filter]
    congr 2
    funext x
    simp only [Function.comp, Bool.and_comm]
  rw [h1, length_inter_comm (fields_nodup h id) hfs]
  congr 1
  apply List.filter_congr
  intro f _
  rw [← any_iff_hfind, Bool.eq_iff_iff]
  simp [and_assoc]

end Redka.HashRef
