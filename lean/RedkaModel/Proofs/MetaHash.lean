/-
  C19 — the hash repository: every `Tx` method is an `Eff` step.
-/
import RedkaModel.Proofs.MetaEff
import RedkaModel.Proofs.InvHash

namespace Redka.MetaProofs

open Redka Redka.Model Redka.InvP

variable {db : DB}

theorem hashSetRow_touch (kid : Int) (f v : Bytes) : Touch kid db (hashSetRow db kid f v) := by
  unfold hashSetRow
  split
  · refine Touch.setHashes kid db _ (fun i hi => ?_)
    refine (filter_kid_map_other (·.kid) _ db.hashes i (fun x _ hx => ?_) (fun x _ => ?_)).symm
    · have : (x.kid == kid) = false := by simpa [hx] using hi
      simp [this]
    · show (if x.kid == kid && x.field == f then _ else x).kid = x.kid
      split <;> rfl
  · refine (Touch.setHashes kid db _ (fun i hi => ?_)).trans (Touch.updLen kid _ _ (fun _ => rfl))
    exact (filter_kid_append_other (·.kid) db.hashes
      ({ rowid := db.nextHashRowid, kid := kid, field := f, value := v } : HashRow) (i := i)
      (fun (e : kid = i) => hi e.symm)).symm

theorem hashSetTx_eff {k f v : Bytes} {now : Int} {d : DB} (he : hashSetTx db k f v now = .ok d) :
    Eff now db d ∧ Keep db d := by
  unfold hashSetTx at he
  cases hk : hashSetKey db k now with
  | error e => rw [hk] at he; cases he
  | ok p =>
    obtain ⟨db1, r⟩ := p
    rw [hk] at he
    simp only [Except.ok.injEq] at he
    subst he
    exact eff_upsert_touch hk (fun _ => ⟨rfl, rfl, rfl⟩)
      (isBump_succ now)
      (hashSetRow_touch r.id f v)

theorem _root_.Redka.Model.SetSteps.eff {k : Bytes} {now : Int} {d : DB} (hs : SetSteps k now db d) : Eff now db d :=
  (hs.pres (P := fun d => Eff now db d ∧ Keep db d) ⟨Eff.refl _ _, Keep.refl _⟩
    (fun _ _ _ _ h he => ⟨h.1.trans h.2 (hashSetTx_eff he).1, h.2.trans (hashSetTx_eff he).2⟩)).1

theorem hashSet_eff (k f v : Bytes) (now : Int) : Eff now db (hashSet db k f v now).db :=
  (hashSet_steps f v).eff

theorem hashSetMany_eff (k : Bytes) (items : List (Bytes × Bytes)) (now : Int) :
    Eff now db (hashSetMany db k items now).db :=
  (hashSetMany_steps items).eff

theorem hashSetNotExists_eff (k f v : Bytes) (now : Int) :
    Eff now db (hashSetNotExists db k f v now).db :=
  (hashSetNotExists_steps f v).eff

theorem hashIncr_eff (k f : Bytes) (d now : Int) : Eff now db (hashIncr db k f d now).db :=
  (hashIncr_steps f d).eff

theorem hashIncrFloat_eff (k f : Bytes) (d : Dyadic) (now : Int) :
    Eff now db (hashIncrFloat db k f d now).db :=
  (hashIncrFloat_steps f d).eff

theorem hashDelete_eff (k : Bytes) (fs : List Bytes) (now : Int) :
    Eff now db (hashDelete db k fs now).db := by
  unfold hashDelete
  split
  · exact Eff.refl _ _
  · rename_i r hl
    simp only
    split
    · exact Eff.refl _ _
    · have ht : Touch r.id db { db with hashes := db.hashes.filter (fun x => !(x.kid == r.id && fs.contains x.field)) } := by
        refine Touch.setHashes r.id db _ (fun i hi => ?_)
        refine (filter_kid_filter_other (·.kid) _ db.hashes i (fun x _ hx => ?_)).symm
        have : (x.kid == r.id) = false := by simpa [hx] using hi
        simp [this]
      exact (eff_touch_updKey ht (isBump_len now _)).1

end Redka.MetaProofs
