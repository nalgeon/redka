/-
  Position arithmetic of `rlist`: when the `Spacious` side condition of the list refinement
  (`pushRoom`, `insertRoom` of Proofs/ListRef.lean) is guaranteed.

  The statements `sqlPushBack`, `sqlPushFront`, `sqlInsertAfter`, `sqlInsertBefore` compute the new
  position in IEEE doubles: `max + 1`, `min - 1`, `(a + b) / 2`, `pivot ± 1`. The model computes the
  exact `Dyadic` sum and rounds it to 53 significant bits (`round53`); halving is exact. Whenever
  the rounding step is the identity (`pushExact`, `insertExact`: the exact sum is a double) the new
  position lies strictly where it should (`pushRoom_of_exact`, `insertRoom_of_exact`) — pure order
  reasoning on `Dyadic`: room follows from the order of the new position relative to the end, or to the
  pivot and its neighbour (`pushRoom_of_order`, `insertRoom_of_order`; `Proofs/ListRound.lean` supplies
  the same order facts for positions that are doubles). The rounding step is the identity for every
  dyadic whose odd numerator has at most 53 bits (`round53_of_bits`), in particular for `m * 2^(-j)` with `|m| < 2^53`
  (`round53_grid`) and hence for sums of two grid points with `|m₁| + |m₂| < 2^53`
  (`round53_grid_add`), and for integers below 2^53 (`round53_int`). So a list whose positions are
  integers of magnitude below 2^52 — every list built by pushes alone with fewer than 2^52
  elements — always has room for a push (`pushRoom_of_small_ints`).
-/
import RedkaModel.Proofs.ListRef

namespace Redka.ListPos

open Redka Redka.Model Redka.ListOrd

/-! ### order facts on `Dyadic` -/

theorem dy_lt_add_one (m : Dyadic) : m < m + 1 := by grind

theorem dy_sub_one_lt (m : Dyadic) : m - 1 < m := by grind

/-- halving is exact -/
theorem dyHalf_add_self (x : Dyadic) : dyHalf x + dyHalf x = x := by
  apply Dyadic.toRat_inj.1
  rw [Dyadic.toRat_add]
  cases x with
  | zero =>
    show (Dyadic.toRat 0) + (Dyadic.toRat 0) = Dyadic.toRat 0
    rw [Dyadic.toRat_zero]; grind
  | ofOdd n k hn =>
    show (Dyadic.ofOdd n (k + 1) hn).toRat + (Dyadic.ofOdd n (k + 1) hn).toRat = _
    rw [Dyadic.toRat_ofOdd_eq_mul_two_pow, Dyadic.toRat_ofOdd_eq_mul_two_pow]
    have : (-(k + 1) : Int) = -k - 1 := by omega
    rw [this, Rat.zpow_sub_one (by decide)]
    grind

theorem dyHalf_between {a b : Dyadic} (h : a < b) : a < dyHalf (a + b) ∧ dyHalf (a + b) < b := by
  have := dyHalf_add_self (a + b)
  grind

/-! ### push -/

/-- a push has room once the new position is beyond the end it goes to -/
theorem pushRoom_of_order (L : List ListRow) (kid : Int) (front : Bool)
    (hmin : front = true → ∀ m, dyMin ((L.filter (fun x => x.kid == kid)).map (·.pos)) = some m →
      round53 (m - 1) < m)
    (hmax : front = false → ∀ m, dyMax ((L.filter (fun x => x.kid == kid)).map (·.pos)) = some m →
      m < round53 (m + 1)) :
    pushRoom L kid front = true := by
  unfold pushRoom
  rw [List.all_eq_true]
  intro x hx
  have hxp : x.pos ∈ (L.filter (fun x => x.kid == kid)).map (·.pos) := List.mem_map.2 ⟨x, hx, rfl⟩
  unfold pushPos
  cases front with
  | true =>
    simp only [if_true]
    cases hm : dyMin ((L.filter (fun x => x.kid == kid)).map (·.pos)) with
    | none => rw [dyMin_eq_none.1 hm] at hxp; cases hxp
    | some m =>
      simp only [decide_eq_true_eq]
      exact dy_lt_of_lt_of_le (hmin rfl m hm) ((dyMin_spec hm).2 _ hxp)
  | false =>
    simp only [Bool.false_eq_true, if_false]
    cases hm : dyMax ((L.filter (fun x => x.kid == kid)).map (·.pos)) with
    | none => rw [dyMax_eq_none.1 hm] at hxp; cases hxp
    | some m =>
      simp only [decide_eq_true_eq]
      exact dy_lt_of_le_of_lt ((dyMax_spec hm).2 _ hxp) (hmax rfl m hm)

/-- no rounding happened in `max + 1` / `min - 1` -/
def pushExact (L : List ListRow) (kid : Int) (front : Bool) : Bool :=
  let ps := (L.filter (fun x => x.kid == kid)).map (·.pos)
  if front then (match dyMin ps with | none => true | some m => round53 (m - 1) == m - 1)
  else (match dyMax ps with | none => true | some m => round53 (m + 1) == m + 1)

theorem pushRoom_of_exact (L : List ListRow) (kid : Int) (front : Bool)
    (h : pushExact L kid front = true) : pushRoom L kid front = true := by
  apply pushRoom_of_order
  · rintro rfl m hm
    have he : round53 (m - 1) = m - 1 := by simpa [pushExact, hm] using h
    rw [he]; exact dy_sub_one_lt m
  · rintro rfl m hm
    have he : round53 (m + 1) = m + 1 := by simpa [pushExact, hm] using h
    rw [he]; exact dy_lt_add_one m

/-! ### insert -/

/-- the row behind the pivot: a stored position, and beyond the pivot -/
theorem dyMin_next {rows : List ListRow} {pv nx : Dyadic}
    (h : dyMin ((rows.filter (fun x => decide (pv < x.pos))).map (·.pos)) = some nx) :
    pv < nx ∧ nx ∈ rows.map (·.pos) := by
  obtain ⟨y, hy, rfl⟩ := List.mem_map.1 (dyMin_spec h).1
  have := List.mem_filter.1 hy
  exact ⟨of_decide_eq_true this.2, List.mem_map.2 ⟨y, this.1, rfl⟩⟩

theorem dyMax_prev {rows : List ListRow} {pv pr : Dyadic}
    (h : dyMax ((rows.filter (fun x => decide (x.pos < pv))).map (·.pos)) = some pr) :
    pr < pv ∧ pr ∈ rows.map (·.pos) := by
  obtain ⟨y, hy, rfl⟩ := List.mem_map.1 (dyMax_spec h).1
  have := List.mem_filter.1 hy
  exact ⟨of_decide_eq_true this.2, List.mem_map.2 ⟨y, this.1, rfl⟩⟩

/-- an insert has room once the new position lies strictly between the pivot and its neighbour on the
side it goes to (just beyond the pivot where there is no neighbour) -/
theorem insertRoom_of_order (rows : List ListRow) (p : Bytes) (after : Bool)
    (h : ∀ pv np, pivotPos rows p = some pv → insertPos rows p after = some np →
      if after then pv < np ∧
        ∀ nx, dyMin ((rows.filter (fun x => decide (pv < x.pos))).map (·.pos)) = some nx → np < nx
      else np < pv ∧
        ∀ pr, dyMax ((rows.filter (fun x => decide (x.pos < pv))).map (·.pos)) = some pr → pr < np) :
    insertRoom rows p after = true := by
  unfold insertRoom
  cases hpv : pivotPos rows p with
  | none => rfl
  | some pv =>
    cases hnp : insertPos rows p after with
    | none => rfl
    | some np =>
      have h := h pv np hpv hnp
      simp only [List.all_eq_true]
      intro x hx
      cases after with
      | true =>
        obtain ⟨h1, h2⟩ := h
        by_cases hc : pv < x.pos
        · have hxm : x.pos ∈ (rows.filter (fun x => decide (pv < x.pos))).map (·.pos) :=
            List.mem_map.2 ⟨x, List.mem_filter.2 ⟨hx, decide_eq_true hc⟩, rfl⟩
          simp only [hc, decide_true, if_true, decide_eq_true_eq]
          cases hm : dyMin ((rows.filter (fun x => decide (pv < x.pos))).map (·.pos)) with
          | none => rw [dyMin_eq_none.1 hm] at hxm; cases hxm
          | some nx => exact dy_lt_of_lt_of_le (h2 nx hm) ((dyMin_spec hm).2 _ hxm)
        · simp only [hc, decide_false, Bool.false_eq_true, if_false, if_true, decide_eq_true_eq]
          exact dy_lt_of_le_of_lt (Dyadic.not_le.1 hc) h1
      | false =>
        obtain ⟨h1, h2⟩ := h
        by_cases hc : x.pos < pv
        · have hxm : x.pos ∈ (rows.filter (fun x => decide (x.pos < pv))).map (·.pos) :=
            List.mem_map.2 ⟨x, List.mem_filter.2 ⟨hx, decide_eq_true hc⟩, rfl⟩
          simp only [hc, decide_true, Bool.false_eq_true, if_false, if_true, decide_eq_true_eq]
          cases hm : dyMax ((rows.filter (fun x => decide (x.pos < pv))).map (·.pos)) with
          | none => rw [dyMax_eq_none.1 hm] at hxm; cases hxm
          | some pr => exact dy_lt_of_le_of_lt ((dyMax_spec hm).2 _ hxm) (h2 pr hm)
        · simp only [hc, decide_false, Bool.false_eq_true, if_false, decide_eq_true_eq]
          exact dy_lt_of_lt_of_le h1 (Dyadic.not_le.1 hc)

/-- no rounding happened in `pivot + 1` / `pivot - 1` / `a + b` -/
def insertExact (rows : List ListRow) (p : Bytes) (after : Bool) : Bool :=
  match pivotPos rows p with
  | none => true
  | some pv =>
    if after then
      (match dyMin ((rows.filter (fun x => decide (pv < x.pos))).map (·.pos)) with
       | none => round53 (pv + 1) == pv + 1
       | some nx => round53 (pv + nx) == pv + nx)
    else
      (match dyMax ((rows.filter (fun x => decide (x.pos < pv))).map (·.pos)) with
       | none => round53 (pv - 1) == pv - 1
       | some pr => round53 (pr + pv) == pr + pv)

theorem insertRoom_of_exact (rows : List ListRow) (p : Bytes) (after : Bool)
    (h : insertExact rows p after = true) : insertRoom rows p after = true := by
  apply insertRoom_of_order
  intro pv np hpv hnp
  simp only [insertExact, hpv] at h
  simp only [insertPos, hpv, Option.some.injEq] at hnp
  subst hnp
  cases after with
  | true =>
    simp only [if_true] at h ⊢
    cases hm : dyMin ((rows.filter (fun x => decide (pv < x.pos))).map (·.pos)) with
    | none =>
      have he : round53 (pv + 1) = pv + 1 := by simpa [hm] using h
      rw [he]
      exact ⟨dy_lt_add_one pv, fun _ hc => by cases hc⟩
    | some nx =>
      have he : round53 (pv + nx) = pv + nx := by simpa [hm] using h
      have hb := dyHalf_between (dyMin_next hm).1
      simp only [mid53, he]
      exact ⟨hb.1, fun _ hc => by cases hc; exact hb.2⟩
  | false =>
    simp only [Bool.false_eq_true, if_false] at h ⊢
    cases hm : dyMax ((rows.filter (fun x => decide (x.pos < pv))).map (·.pos)) with
    | none =>
      have he : round53 (pv - 1) = pv - 1 := by simpa [hm] using h
      rw [he]
      exact ⟨dy_sub_one_lt pv, fun _ hc => by cases hc⟩
    | some pr =>
      have he : round53 (pr + pv) = pr + pv := by simpa [hm] using h
      have hb := dyHalf_between (dyMax_prev hm).1
      simp only [mid53, he]
      exact ⟨hb.2, fun _ hc => by cases hc; exact hb.1⟩

/-! ### when rounding is the identity -/

/-- a dyadic whose odd numerator has at most 53 bits is a double (exponent range aside) -/
theorem round53_of_bits (n k : Int) (hn : n % 2 = 1) (h : natBits n.natAbs ≤ 53) :
    round53 (.ofOdd n k hn) = .ofOdd n k hn := by
  simp [round53, h]

theorem natBits_le_iff (n k : Nat) : natBits n ≤ k ↔ n < 2 ^ k := by
  unfold natBits
  by_cases h : n = 0
  · simp [h, Nat.two_pow_pos]
  · simp only [h, if_false]
    rw [← Nat.log2_lt h]
    omega

/-- `m * 2^(-j)` with `|m| < 2^53` is a double -/
theorem round53_grid (m j : Int) (h : m.natAbs < 2 ^ 53) :
    round53 (Dyadic.ofIntWithPrec m j) = Dyadic.ofIntWithPrec m j := by
  unfold Dyadic.ofIntWithPrec
  split
  · rfl
  · apply round53_of_bits
    rw [natBits_le_iff, Int.shiftRight_eq_div_pow]
    exact Nat.lt_of_le_of_lt (Int.natAbs_ediv_le_natAbs _ _) h

theorem ofIntWithPrec_add (m₁ m₂ j : Int) :
    Dyadic.ofIntWithPrec m₁ j + Dyadic.ofIntWithPrec m₂ j = Dyadic.ofIntWithPrec (m₁ + m₂) j := by
  apply Dyadic.toRat_inj.1
  rw [Dyadic.toRat_add, Dyadic.toRat_ofIntWithPrec_eq_mul_two_pow,
    Dyadic.toRat_ofIntWithPrec_eq_mul_two_pow, Dyadic.toRat_ofIntWithPrec_eq_mul_two_pow,
    Rat.intCast_add]
  grind

/-- the sum of two points of the grid `2^(-j)` with `|m₁| + |m₂| < 2^53` is computed exactly -/
theorem round53_grid_add (m₁ m₂ j : Int) (h : m₁.natAbs + m₂.natAbs < 2 ^ 53) :
    round53 (Dyadic.ofIntWithPrec m₁ j + Dyadic.ofIntWithPrec m₂ j)
      = Dyadic.ofIntWithPrec m₁ j + Dyadic.ofIntWithPrec m₂ j := by
  rw [ofIntWithPrec_add]
  apply round53_grid
  omega

/-- integers below 2^53 are doubles -/
theorem round53_int (n : Int) (h : n.natAbs < 2 ^ 53) : round53 (n : Dyadic) = (n : Dyadic) :=
  round53_grid n 0 h

theorem int_add_one (n : Int) : (n : Dyadic) + 1 = ((n + 1 : Int) : Dyadic) :=
  ofIntWithPrec_add n 1 0

theorem int_sub_one (n : Int) : (n : Dyadic) - 1 = ((n - 1 : Int) : Dyadic) := by
  have := ofIntWithPrec_add n (-1) 0
  have h1 : (n : Dyadic) - 1 = (n : Dyadic) + Dyadic.ofIntWithPrec (-1) 0 := rfl
  rw [h1]; exact this

/-- A list whose positions are integers of magnitude below 2^52 has room for a push at either
end: every list built by pushes alone (positions 0, ±1, ±2, …) with fewer than 2^52 elements. -/
theorem pushRoom_of_small_ints (L : List ListRow) (kid : Int) (front : Bool)
    (h : ∀ x ∈ L, x.kid = kid → ∃ n : Int, x.pos = (n : Dyadic) ∧ n.natAbs < 2 ^ 52) :
    pushRoom L kid front = true := by
  apply pushRoom_of_exact
  unfold pushExact
  have hint : ∀ m ∈ (L.filter (fun x => x.kid == kid)).map (·.pos),
      ∃ n : Int, m = (n : Dyadic) ∧ n.natAbs < 2 ^ 52 := by
    intro m hm
    obtain ⟨x, hx, rfl⟩ := List.mem_map.1 hm
    have := List.mem_filter.1 hx
    exact h x this.1 (by simpa using this.2)
  cases front with
  | true =>
    simp only [if_true]
    cases hm : dyMin ((L.filter (fun x => x.kid == kid)).map (·.pos)) with
    | none => rfl
    | some m =>
      obtain ⟨n, rfl, hn⟩ := hint m (dyMin_spec hm).1
      simp only [beq_iff_eq]
      rw [int_sub_one]
      exact round53_int _ (by omega)
  | false =>
    simp only [Bool.false_eq_true, if_false]
    cases hm : dyMax ((L.filter (fun x => x.kid == kid)).map (·.pos)) with
    | none => rfl
    | some m =>
      obtain ⟨n, rfl, hn⟩ := hint m (dyMax_spec hm).1
      simp only [beq_iff_eq]
      rw [int_add_one]
      exact round53_int _ (by omega)

/-- Positions on a common grid `2^(-j)` (`0 ≤ j ≤ 51`) with numerators below 2^52 leave room for an
insert next to any pivot: the midpoint of two such positions, and `pivot ± 1`, are exact. Each
midpoint insertion uses up one bit: the new position is on the grid `2^(-(j+1))`. -/
theorem insertRoom_of_grid (rows : List ListRow) (p : Bytes) (after : Bool) (j : Nat) (hj : j ≤ 51)
    (h : ∀ x ∈ rows, ∃ m : Int, x.pos = Dyadic.ofIntWithPrec m j ∧ m.natAbs < 2 ^ 52) :
    insertRoom rows p after = true := by
  apply insertRoom_of_exact
  have hone : (1 : Dyadic) = Dyadic.ofIntWithPrec ((2 : Int) ^ j) j := by
    apply Dyadic.toRat_inj.1
    rw [Dyadic.toRat_ofIntWithPrec_eq_mul_two_pow]
    have h1 : (1 : Dyadic).toRat = 1 := Dyadic.toRat_natCast 1
    rw [h1, Rat.zpow_neg, Rat.zpow_natCast, Rat.intCast_pow]
    have h2 : ((2 : Int) : Rat) = 2 := rfl
    rw [h2]
    have h3 : (2 : Rat) ^ j ≠ 0 := Rat.ne_of_gt (Rat.pow_pos (by decide))
    exact (Rat.mul_inv_cancel _ h3).symm
  have hpow : ((2 : Int) ^ j).natAbs ≤ 2 ^ 51 := by
    rw [Int.natAbs_pow]
    exact Nat.pow_le_pow_right (by decide) hj
  have hmone : -(1 : Dyadic) = Dyadic.ofIntWithPrec (-(2 : Int) ^ j) j := by
    rw [hone, Dyadic.neg_ofIntWithPrec]
  have hgrid : ∀ pos ∈ rows.map (·.pos), ∃ m : Int, pos = Dyadic.ofIntWithPrec m j ∧ m.natAbs < 2 ^ 52 := by
    intro pos hpos
    obtain ⟨x, hx, rfl⟩ := List.mem_map.1 hpos
    exact h x hx
  have hsub : ∀ (q : ListRow → Bool) pos, pos ∈ (rows.filter q).map (·.pos) → pos ∈ rows.map (·.pos) := by
    intro q pos hpos
    obtain ⟨x, hx, rfl⟩ := List.mem_map.1 hpos
    exact List.mem_map.2 ⟨x, (List.mem_filter.1 hx).1, rfl⟩
  unfold insertExact
  cases hpv : pivotPos rows p with
  | none => rfl
  | some pv =>
    obtain ⟨mp, rfl, hmp⟩ := hgrid pv (hsub _ pv (dyMin_spec hpv).1)
    simp only []
    cases after with
    | true =>
      simp only [if_true]
      split
      · rw [hone, beq_iff_eq]
        exact round53_grid_add _ _ _ (by omega)
      · rename_i nx hnx
        obtain ⟨mn, rfl, hmn⟩ := hgrid nx (hsub _ nx (dyMin_spec hnx).1)
        rw [beq_iff_eq]
        exact round53_grid_add _ _ _ (by omega)
    | false =>
      simp only [Bool.false_eq_true, if_false]
      split
      · have hs : Dyadic.ofIntWithPrec mp j - 1 = Dyadic.ofIntWithPrec mp j + -(1 : Dyadic) := rfl
        rw [hs, hmone, beq_iff_eq]
        exact round53_grid_add _ _ _ (by rw [Int.natAbs_neg]; omega)
      · rename_i pr hpr
        obtain ⟨mn, rfl, hmn⟩ := hgrid pr (hsub _ pr (dyMax_spec hpr).1)
        rw [beq_iff_eq]
        exact round53_grid_add _ _ _ (by omega)

end Redka.ListPos
