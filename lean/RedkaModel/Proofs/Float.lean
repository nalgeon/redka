/-
  The float codec of Basic.lean (`parseFloatDec`, `formatFloatDec`): the text the model stores for
  a float sum reads back as exactly that number. `formatFloatDec` searches the decimals next to
  the value, fewest digits first, for the first one that `parseFloatDec` reads back as the value,
  so the read-back identity holds by construction; that this search IS Go's shortest formatting
  (and `ratRound53` Go's correctly rounded parsing) is validated by the correspondence, not proved.
-/
import RedkaModel.Proofs.Num

namespace Redka.Float

open Redka

/-- **Whatever `formatFloatDec` prints, `parseFloatDec` reads back as exactly that number.** -/
theorem parse_format (x : Dyadic) (txt : Bytes) (h : formatFloatDec x = some txt) :
    parseFloatDec txt = .val x := by
  unfold formatFloatDec at h
  cases x with
  | zero =>
    simp only [Option.some.injEq] at h
    subst h
    decide
  | ofOdd n k hn =>
    dsimp only at h
    split at h
    · rename_i t ht
      simp only [Option.some.injEq] at h
      subst h
      have := List.find?_some ht
      simpa using this
    · cases h

theorem format_nonempty (x : Dyadic) (txt : Bytes) (h : formatFloatDec x = some txt) : txt ≠ [] := by
  intro he
  have := parse_format x txt h
  rw [he] at this
  have h0 : parseFloatDec [] = .invalid := by decide
  rw [h0] at this
  cases this

private def b (s : String) : Bytes := s.toUTF8.toList

/-- non-vacuity: values that need rounding on the way in and 17 digits on the way out -/
example : (match parseFloatDec (b "0.1"), parseFloatDec (b "0.2") with
    | .val a, .val b => formatFloatDec (f64add a b)
    | _, _ => none) = some (b "0.30000000000000004") := by decide +kernel
example : (match parseFloatDec (b "1e23") with | .val a => formatFloatDec a | _ => none)
    = some (b "100000000000000000000000") := by decide +kernel
example : parseFloatDec (b "1e") = .invalid ∧ parseFloatDec (b "0x1p-2") = .unknown ∧
    parseFloatDec (b "-0") = .unknown ∧ parseFloatDec (b "1.5.2") = .invalid := by
  decide +kernel

end Redka.Float
