/-
  C10 — an expired key does not exist, for any operation.

  "From the moment a key's expiration time is reached the key is indistinguishable from one that
  was never created, for every read and every write of every type, whether or not the background
  cleaner has removed it yet: reads see nothing, counters and listings omit it, and a write to
  that name starts a fresh key with no old elements, no old expiry and a working result. Before
  that moment the key is fully present; setting, replacing, keeping and clearing expiry follow the
  documented rules (plain set clears it, keep-ttl and increments preserve it, rename carries it
  over), and the cleaner removes exactly the expired keys together with all their elements and
  nothing else."

  What is proved here (the cleaner clause is `Props/C10clean.lean`). This file is a COMPOSITION: it
  adds no new fact about any single operation; it puts the refinement theorems of the six families
  (C01 … C06) together with the cleaner theorems.

  `cleaned now db` is the table state after the unlimited cleaner ran at `now`: every stored row
  with `etime <= now` is physically gone, with its child rows. "Whether or not the cleaner has
  removed it yet" is then the comparison of ONE operation at clock value `now` on `db` (expired
  rows still stored) and on `cleaned now db` (expired rows removed):

      expired_uncleaned_is_absent_F   (F = str, list, set, hash, zset, key)

  says that the two runs return the same result (for key rows: the same projected result, `C06.obs`)
  and leave tables that stand for the same abstract keyspace. Each is the family's refinement
  theorem applied twice — both runs refine `Spec.step op now (Spec.abs now db)`, because
  `Spec.abs now (cleaned now db) = Spec.abs now db` (`cleaned_abs`) — and therefore carries the
  family's classifier hypotheses. On `cleaned now db` they are discharged, not assumed:

    * `Stale` (D05) and `LenStale` (D06) are empty on `cleaned now db` — it stores no expired row
      (`cleaned_no_stale`, `cleaned_no_expired`);
    * `Overflow` (D17, strings and hashes), `EmptyName`
      (D18), `Judged` (C18 domain), `Decided` read only live rows and their children, which the
      cleaner leaves alone: they have the same value on both (`*_transfers`);
    * `DestIsSource`, `SumOrder`, `BangClass`,
      `ArgsInRange`, `ArgsOk`, `DistinctFields` do not mention the tables;
    * `C02.Spacious` (room for the new list position; the lookup is by name WITHOUT guard, as
      `sqlPush` does) has the same value on both as soon as the written name is not stale — which
      the list theorem assumes anyway — for every list operation, pop-and-push included
      (`spacious_transfers`).

  So NO hypothesis is asked of `cleaned now db` in any of the six theorems.

  On `db` itself the hypotheses `Stale = false` (families str, list, set, hash, zset) and
  `LenStale = false` (`keyLen`) CANNOT be dropped: a write to a name held by an expired row, and
  the key count, do tell the two states apart — `stale_write_distinguishes_cleaning`,
  `stale_write_is_lost`, `len_distinguishes_cleaning` are kernel-checked witnesses
  (known findings D05, D06). So the clause "a write to that name starts a fresh key" is FALSE of
  the code as a universal statement; what holds universally is the read half
  (`expired_invisible_to_reads`: no staleness hypothesis, because no read writes to any name) and
  the write half for every name that is not held by an expired row.  `rename` onto an expired
  name is not a deviation (`C06.rename_onto_stale_refines`), so the key family has no `Stale`.

  The TTL rules are re-exported from C01 / C06 (`plain_set_clears_ttl`, `keepttl_preserves`,
  `incr_preserves_ttl`, `hash_incr_preserves_ttl` / `_in_range` (derived from C04 here),
  `rename_carries_ttl`, `persist_clears_ttl`, `expire_sets_ttl`, `expire_relative_sets_ttl`), and
  the boundary is stated on stored rows: `before_expiry_key_is_present`, `at_expiry_key_is_gone`,
  `visible_iff_before_expiry` (the guard is `etime > now`: gone exactly from `now = etime` on).

  `db.fk = true` is assumed throughout: with `foreign_keys` off the cleaner leaves orphan child
  rows and `cleaned now db` does not satisfy the invariant (`C10.preserves_inv_needs_fk`, D14).

  Scope: scans (`keyScan`, `setScan`, `hashScan`, `zScan`; C16) and the float increments
  (`strIncrFloat`, `hashIncrFloat`; outside the numeric domain of model and specification) are
  in no family theorem and so in none of the theorems here.
-/
import RedkaModel.Proofs.Expiry
import RedkaModel.Props.C10clean
import RedkaModel.Props.C01
import RedkaModel.Props.C02ref
import RedkaModel.Props.C03ref
import RedkaModel.Props.C04ref
import RedkaModel.Props.C05ref
import RedkaModel.Props.C06ref
import RedkaModel.Props.C12

namespace Redka.ExpiryProofs

open Redka Redka.Model Redka.Spec Redka.Clean Redka.Props

/-- how results are compared outside the key family: as they are -/
def idObs : Op → Out → Out := fun _ o => o

/-- both runs — on the tables with the expired rows and on the tables without them — answer what
the specification answers on the one abstract keyspace they both stand for -/
def BothRefine (obs : Op → Out → Out) (op : Op) (now : Int) (db : DB) : Prop :=
  (obs op (Model.dbRun op now db).out = (Spec.step op now (Spec.abs now db)).out ∧
    Spec.abs now (Model.dbRun op now db).db
      = Spec.purge now (Spec.step op now (Spec.abs now db)).st) ∧
  (obs op (Model.dbRun op now (cleaned now db)).out = (Spec.step op now (Spec.abs now db)).out ∧
    Spec.abs now (Model.dbRun op now (cleaned now db)).db
      = Spec.purge now (Spec.step op now (Spec.abs now db)).st)

theorem BothRefine.agree {obs : Op → Out → Out} {op : Op} {now : Int} {db : DB}
    (h : BothRefine obs op now db) :
    obs op (Model.dbRun op now db).out = obs op (Model.dbRun op now (cleaned now db)).out ∧
    Spec.abs now (Model.dbRun op now db).db = Spec.abs now (Model.dbRun op now (cleaned now db)).db :=
  ⟨h.1.1.trans h.2.1.symm, h.1.2.trans h.2.2.symm⟩

/-- The refinement theorem of a family, applied to `db` and to `cleaned now db`, which stands for
the same keyspace. -/
theorem BothRefine.of_refines {obs : Op → Out → Out} {op : Op} {now : Int} {db : DB}
    (hu : KeyIdsUnique db)
    (h1 : obs op (Model.dbRun op now db).out = (Spec.step op now (Spec.abs now db)).out ∧
      Spec.abs now (Model.dbRun op now db).db
        = Spec.purge now (Spec.step op now (Spec.abs now db)).st)
    (h2 : obs op (Model.dbRun op now (cleaned now db)).out
        = (Spec.step op now (Spec.abs now (cleaned now db))).out ∧
      Spec.abs now (Model.dbRun op now (cleaned now db)).db
        = Spec.purge now (Spec.step op now (Spec.abs now (cleaned now db))).st) :
    BothRefine obs op now db :=
  ⟨h1, by rw [abs_cleaned hu] at h2; exact h2⟩

theorem writeKeys_read {op : Op} (h : Spec.isRead op = true) : Spec.writeKeys op = [] := by
  unfold Spec.writeKeys
  split <;> first | rfl | cases h

/-- the catalogue's D05 on `cleaned`, for any operation -/
theorem stale_cleaned (op : Op) (now : Int) (db : DB) :
    (Spec.writeKeys op).any (Spec.staleKey (cleaned now db) now) = false :=
  stale_any_cleaned now db _

/-! ### the table-reading classifiers have the same value on `db` and `cleaned now db`

Each classifier is a `match` that looks at the tables in one or two arms only; splitting it there,
not on the operation, keeps these proofs to the arms that matter. -/

theorem str_overflow_transfers {db : DB} (hu : KeyIdsUnique db) (op : Op) (now : Int) :
    C01.Overflow op now (cleaned now db) = C01.Overflow op now db := by
  unfold C01.Overflow
  split
  · rw [strGetRaw_cleaned hu]
  · rfl

theorem hash_overflow_transfers {db : DB} (hu : KeyIdsUnique db) (op : Op) (now : Int) :
    C04.Overflow op now (cleaned now db) = C04.Overflow op now db := by
  unfold C04.Overflow
  split
  · rw [hashGetRaw_cleaned hu]
  · rfl

theorem decided_transfers {db : DB} (hu : KeyIdsUnique db) (op : Op) (now : Int) :
    C05.Decided op now (cleaned now db) = C05.Decided op now db := by
  unfold C05.Decided
  rw [abs_cleaned hu]

theorem emptyName_transfers {db : DB} (hu : KeyIdsUnique db) (op : Op) (now : Int) :
    C06.EmptyName op now (cleaned now db) = C06.EmptyName op now db := by
  unfold C06.EmptyName
  split <;> first | rw [liveKey_cleaned hu] | rfl

theorem judged_transfers {db : DB} (hu : KeyIdsUnique db) (op : Op) (now : Int) :
    C06.Judged op now (cleaned now db) = C06.Judged op now db := by
  unfold C06.Judged
  split <;> first | rw [abs_cleaned hu] | rfl

theorem lenStale_cleaned (op : Op) (now : Int) (db : DB) :
    C06.LenStale op now (cleaned now db) = false := by
  unfold C06.LenStale
  split
  · exact no_expired_cleaned now db
  · rfl

/-! ### one family at a time: both runs refine the same specification step -/

theorem str_both {op : Op} {now : Int} {db : DB} (hop : C01.IsStrOp op) (hinv : db.Inv)
    (hfk : db.fk = true) (harg : C01.ArgsInRange op = true) (hst : C01.Stale op now db = false)
    (hov : C01.Overflow op now db = false) : BothRefine idObs op now db :=
  have hu := keyIdsUnique_of_inv hinv
  .of_refines hu (C01.str_refines_partial op now db hop hinv harg hst hov)
    (C01.str_refines_partial op now (cleaned now db) hop (inv_cleaned hinv hfk now) harg
      (stale_cleaned op now db) ((str_overflow_transfers hu op now).trans hov))

/-- `Spacious` (room for the new list position) has the same value on both table states, for every
list operation whose written name is not held by an expired row -/
theorem spacious_transfers' {db : DB} (hinv : db.Inv) (hfk : db.fk = true) (op : Op) (now : Int)
    (hst : C02.Stale op now db = false) :
    C02.Spacious op now (cleaned now db) = C02.Spacious op now db := by
  have hu := keyIdsUnique_of_inv hinv
  have hw : ∀ {op' : Op} {k : Bytes}, op' = op → Spec.writeKeys op' = [k] →
      Spec.staleKey db now k = false := by
    intro op' k he hk
    subst he
    simpa [C02.Stale, hk] using hst
  unfold C02.Spacious
  split
  · exact pushSpacious_cleaned hinv hfk (hw rfl rfl) false
  · exact pushSpacious_cleaned hinv hfk (hw rfl rfl) true
  · exact popPushSpacious_cleaned hinv hfk _ (hw rfl rfl)
  · exact insertRoom_cleaned hu now _ _ true
  · exact insertRoom_cleaned hu now _ _ false
  · rfl

theorem list_both {op : Op} {now : Int} {db : DB} (hop : C02.IsListOp op) (hinv : db.Inv)
    (hfk : db.fk = true) (hst : C02.Stale op now db = false) (hsp : C02.Spacious op now db = true) :
    BothRefine idObs op now db :=
  .of_refines (keyIdsUnique_of_inv hinv) (C02.list_refines_partial op now db hop hinv hst hsp)
    (C02.list_refines_partial op now (cleaned now db) hop (inv_cleaned hinv hfk now)
      (stale_cleaned op now db) ((spacious_transfers' hinv hfk op now hst).trans hsp))

theorem set_both {op : Op} {now : Int} {db : DB} (hop : C03.IsSetOp op) (hinv : db.Inv)
    (hfk : db.fk = true) (hst : C03.Stale op now db = false)
    (hds : C03.DestIsSource op = false) : BothRefine idObs op now db :=
  .of_refines (keyIdsUnique_of_inv hinv) (C03.set_refines_partial op now db hop hinv hst hds)
    (C03.set_refines_partial op now (cleaned now db) hop (inv_cleaned hinv hfk now)
      (stale_cleaned op now db) hds)

theorem hash_both {op : Op} {now : Int} {db : DB} (hop : C04.IsFamOp op) (hinv : db.Inv)
    (hfk : db.fk = true) (harg : C04.ArgsInRange op = true) (hdist : C04.DistinctFields op = true)
    (hst : C04.Stale op now db = false) (hov : C04.Overflow op now db = false) :
    BothRefine idObs op now db :=
  have hu := keyIdsUnique_of_inv hinv
  .of_refines hu (C04.hash_refines_partial op now db hop hinv harg hdist hst hov)
    (C04.hash_refines_partial op now (cleaned now db) hop (inv_cleaned hinv hfk now) harg hdist
      (stale_cleaned op now db) ((hash_overflow_transfers hu op now).trans hov))

theorem zset_both {op : Op} {now : Int} {db : DB} (hop : C05.IsZOp op) (hinv : db.Inv)
    (hfk : db.fk = true) (harg : C05.ArgsOk op = true) (hdec : C05.Decided op now db = true)
    (hst : C05.Stale op now db = false) (hds : C05.DestIsSource op = false)
    (hso : C05.SumOrder op = false) : BothRefine idObs op now db :=
  have hu := keyIdsUnique_of_inv hinv
  .of_refines hu (C05.zset_refines_partial op now db hop hinv hop harg hdec hst hds hso)
    (C05.zset_refines_partial op now (cleaned now db) hop (inv_cleaned hinv hfk now) hop harg
      ((decided_transfers hu op now).trans hdec) (stale_cleaned op now db) hds hso)

theorem key_both {op : Op} {now : Int} {db : DB} (hop : C06.IsFamOp op) (hinv : db.Inv)
    (hfk : db.fk = true) (hlen : C06.LenStale op now db = false)
    (hemp : C06.EmptyName op now db = false) (hbang : C06.BangClass op = false)
    (hj : C06.Judged op now db = true) : BothRefine C06.obs op now db :=
  have hu := keyIdsUnique_of_inv hinv
  .of_refines hu (C06.key_refines_partial op now db hop hinv hlen hemp hbang hj)
    (C06.key_refines_partial op now (cleaned now db) hop (inv_cleaned hinv hfk now)
      (lenStale_cleaned op now db) ((emptyName_transfers hu op now).trans hemp) hbang
      ((judged_transfers hu op now).trans hj))

/-! ### reads: the classifiers that are left are not about staleness -/

/-- The reads covered by a family refinement theorem: every pure read (`Spec.isRead`) except
`keyLen` (D06: it counts stored rows — `len_distinguishes_cleaning`) and the four scans (C16). -/
def readCovered : Op → Bool
  | .strGet _ | .strGetMany _ => true
  | .listGet .. | .listLen _ | .listRange .. => true
  | .setDiff _ | .setExists .. | .setInter _ | .setItems _ | .setLen _ | .setRandom ..
  | .setUnion _ => true
  | .hashExists .. | .hashFields _ | .hashGet .. | .hashGetMany .. | .hashItems _ | .hashLen _
  | .hashValues _ => true
  | .zCount .. | .zGetRank .. | .zGetRankRev .. | .zGetScore .. | .zInter .. | .zLen _
  | .zRangeRank .. | .zRangeScore .. | .zUnion .. => true
  | .keyCount _ | .keyExists _ | .keyGet _ | .keyKeys _ | .keyRandom _ => true
  | _ => false

/-- The deviation classes and domain conditions of the family theorems that can apply to a read.
None of them mentions expired rows: `ArgsOk` /
`SumOrder` / `Decided` (sorted-set combinations), D16 and the C18 domain (`keyKeys`). (D07 — a
repeated key of an intersection — is repaired for sets and sorted sets and no longer appears.) True outright for every other covered read. -/
def ReadSide (op : Op) (now : Int) (db : DB) : Bool :=
  C05.ArgsOk op && (!C05.isZOp op || C05.Decided op now db) &&
  !C05.SumOrder op && !C06.BangClass op && C06.Judged op now db

theorem readSide_iff (op : Op) (now : Int) (db : DB) : ReadSide op now db = true ↔
    (C05.ArgsOk op = true ∧ (C05.isZOp op = true → C05.Decided op now db = true) ∧
     C05.SumOrder op = false ∧ C06.BangClass op = false ∧
     C06.Judged op now db = true) := by
  unfold ReadSide
  cases C05.isZOp op <;> simp [and_assoc]

/-- every covered read is in one of the six families -/
theorem readCovered_family (op : Op) : (!readCovered op || C01.isStrOp op || C02.isListOp op ||
    C03.isSetOp op || C04.Covered op || C05.isZOp op || C06.isKeyOp op) = true := by
  cases op <;> rfl

/-- outside the key family `C06.obs` compares results as they are -/
theorem BothRefine.of_idObs {op : Op} {now : Int} {db : DB} (hk : C06.isKeyOp op = false)
    (h : BothRefine idObs op now db) : BothRefine C06.obs op now db := by
  have : C06.obs op = idObs op :=
    funext fun o => C06.obs_is_id op o (by split <;> first | trivial | cases hk)
  unfold BothRefine at h ⊢
  rw [this]; exact h

/-- The classifiers of the family theorems that single out writes have their trivial value on a
read: on each read constructor they evaluate to "no deviation". (`Stale` is `writeKeys_read`.) -/
theorem classifiers_of_read {op : Op} (hr : Spec.isRead op = true) (now : Int) (db : DB) :
    C01.ArgsInRange op = true ∧ C01.Overflow op now db = false ∧
    C02.Spacious op now db = true ∧ C03.DestIsSource op = false ∧
    C04.ArgsInRange op = true ∧ C04.DistinctFields op = true ∧ C04.Overflow op now db = false ∧
    C05.DestIsSource op = false ∧ C06.EmptyName op now db = false := by
  cases op <;> first | (cases hr; done) | exact ⟨rfl, rfl, rfl, rfl, rfl, rfl, rfl, rfl, rfl⟩

/-- A covered read meets the hypotheses of its family's theorem: what `classifiers_of_read` does
not settle is `ReadSide`. -/
theorem reads_both {op : Op} {now : Int} {db : DB} (hr : Spec.isRead op = true)
    (hcov : readCovered op = true) (hinv : db.Inv) (hfk : db.fk = true)
    (hside : ReadSide op now db = true) : BothRefine C06.obs op now db := by
  obtain ⟨hargsZ, hdecided, hsum, hbang, hjudged⟩ := (readSide_iff op now db).1 hside
  obtain ⟨hargsS, hovS, hroom, hdestS, hargsH, hdistinct, hovH, hdestZ, hempty⟩ :=
    classifiers_of_read hr now db
  have hstale : (Spec.writeKeys op).any (Spec.staleKey db now) = false := by
    rw [writeKeys_read hr]; rfl
  cases hk : C06.isKeyOp op
  · have hfam := readCovered_family op
    simp only [hcov, hk, Bool.not_true, Bool.false_or, Bool.or_false, Bool.or_eq_true] at hfam
    refine BothRefine.of_idObs hk ?_
    rcases hfam with (((h | h) | h) | h) | h
    · exact str_both h hinv hfk hargsS hstale hovS
    · exact list_both h hinv hfk hstale hroom
    · exact set_both h hinv hfk hstale hdestS
    · exact hash_both h hinv hfk hargsH hdistinct hstale hovH
    · exact zset_both h hinv hfk hargsZ (hdecided h) hstale hdestZ hsum
  · refine key_both hk hinv hfk ?_ hempty hbang hjudged
    -- `keyLen`, the read that counts stored rows, is not covered
    unfold C06.LenStale; split <;> first | rfl | cases hcov

end Redka.ExpiryProofs

/-! ## the property -/

namespace Redka.Props.C10x

open Redka Redka.Model Redka.Spec Redka.Clean Redka.ExpiryProofs Redka.Props

/-! ### 1. the database after the cleaner ran -/

/-- the cleaner leaves exactly the rows that are live at `now`, in their order -/
theorem cleaned_keys_exact : ∀ (now : Int) (db : DB), db.Inv →
    (cleaned now db).keys = db.keys.filter (fun r => r.live now) :=
  fun now _ hinv => cleaned_keys (keyIdsUnique_of_inv hinv) now

/-- reclamation is invisible to the abstraction -/
theorem cleaned_abs : ∀ (now : Int) (db : DB), db.Inv →
    Spec.abs now (cleaned now db) = Spec.abs now db :=
  fun now db hinv => C10.cleaner_abs_unchanged db now hinv 0

/-- … now and at every later clock value -/
theorem cleaned_abs_from : ∀ (now now' : Int) (db : DB), db.Inv → now ≤ now' →
    Spec.abs now' (cleaned now db) = Spec.abs now' db :=
  fun now now' db hinv hle =>
    C10.cleaner_abs_unchanged_from db 0 now now' (keyIdsUnique_of_inv hinv) hle

theorem cleaned_inv : ∀ (now : Int) (db : DB), db.Inv → db.fk = true → (cleaned now db).Inv :=
  fun now db hinv hfk => C10.cleaner_preserves_inv db 0 now hinv hfk

theorem cleaned_fk_eq : ∀ (now : Int) (db : DB), (cleaned now db).fk = db.fk := cleaned_fk

/-- after the cleaner no name is held by a stored-but-expired row: class D05 is empty.
No hypothesis. -/
theorem cleaned_no_stale : ∀ (now : Int) (db : DB) (k : Bytes),
    Spec.staleKey (cleaned now db) now k = false := staleKey_cleaned

/-- … and no stored row is expired: class D06 is empty. No hypothesis. -/
theorem cleaned_no_expired : ∀ (now : Int) (db : DB),
    (cleaned now db).keys.any (fun r => !r.live now) = false := no_expired_cleaned

/-- the cleaner is idempotent on the abstraction and the rows: cleaning a cleaned database at the
same instant removes nothing more -/
theorem cleaned_cleaned_keys : ∀ (now : Int) (db : DB), db.Inv →
    (cleaned now (cleaned now db)).keys = (cleaned now db).keys := by
  intro now db hinv
  have hu := keyIdsUnique_of_inv hinv
  rw [cleaned_keys (keyIdsUnique_cleaned hu now), liveRows_cleaned hu, cleaned_keys hu]

/-! ### which classifier hypotheses transfer from `db` to `cleaned now db` -/

/-- Every classifier of every family that reads the tables, other than `Stale`, `LenStale`
(empty on `cleaned`, see above) and `Spacious` (next theorem), has the same value on `db` and on
`cleaned now db`. -/
theorem classifiers_transfer : ∀ (op : Op) (now : Int) (db : DB), db.Inv →
    C01.Overflow op now (cleaned now db) = C01.Overflow op now db ∧
    C04.Overflow op now (cleaned now db) = C04.Overflow op now db ∧
    C05.Decided op now (cleaned now db) = C05.Decided op now db ∧
    C06.EmptyName op now (cleaned now db) = C06.EmptyName op now db ∧
    C06.Judged op now (cleaned now db) = C06.Judged op now db := by
  intro op now db hinv
  have hu := keyIdsUnique_of_inv hinv
  exact ⟨str_overflow_transfers hu op now, hash_overflow_transfers hu op now,
    decided_transfers hu op now,
    emptyName_transfers hu op now, judged_transfers hu op now⟩

/-- `C02.Spacious` (room for the position a push or insert computes) transfers as well, for every
list operation — pop-and-push included, where it is judged on the tables the pop leaves — provided
the written name is not held by an expired row (`Stale = false`, which the list theorem assumes
anyway; `pushSpacious` looks the name up without the expiry guard, as `sqlPush` does). -/
theorem spacious_transfers : ∀ (op : Op) (now : Int) (db : DB), db.Inv → db.fk = true →
    C02.Stale op now db = false →
    C02.Spacious op now (cleaned now db) = C02.Spacious op now db :=
  fun op now _ hinv hfk hst => spacious_transfers' hinv hfk op now hst

/-- the staleness classifiers are false on `cleaned now db`, whatever they are on `db` -/
theorem staleness_classifiers_empty : ∀ (op : Op) (now : Int) (db : DB),
    C01.Stale op now (cleaned now db) = false ∧ C02.Stale op now (cleaned now db) = false ∧
    C03.Stale op now (cleaned now db) = false ∧ C04.Stale op now (cleaned now db) = false ∧
    C05.Stale op now (cleaned now db) = false ∧ C06.LenStale op now (cleaned now db) = false :=
  fun op now db => ⟨stale_cleaned op now db, stale_cleaned op now db, stale_cleaned op now db,
    stale_cleaned op now db, stale_cleaned op now db, lenStale_cleaned op now db⟩

/-! ### 2. THE THEOREM, one family at a time -/

/-- **C10, strings.** Any string operation, outside D05 / D17 judged on `db` alone. -/
theorem expired_uncleaned_is_absent_str : ∀ (op : Op) (now : Int) (db : DB),
    C01.IsStrOp op → db.Inv → db.fk = true → C01.ArgsInRange op = true →
    C01.Stale op now db = false → C01.Overflow op now db = false →
    let r := Model.dbRun op now db
    let r' := Model.dbRun op now (cleaned now db)
    r.out = r'.out ∧ Spec.abs now r.db = Spec.abs now r'.db :=
  fun _ _ _ hop hinv hfk harg hst hov => (str_both hop hinv hfk harg hst hov).agree

/-- **C10, lists.** Any list operation, outside D05 and with `Spacious` position
arithmetic, all judged on `db` alone. -/
theorem expired_uncleaned_is_absent_list : ∀ (op : Op) (now : Int) (db : DB),
    C02.IsListOp op → db.Inv → db.fk = true → C02.Stale op now db = false →
    C02.Spacious op now db = true →
    let r := Model.dbRun op now db
    let r' := Model.dbRun op now (cleaned now db)
    r.out = r'.out ∧ Spec.abs now r.db = Spec.abs now r'.db :=
  fun _ _ _ hop hinv hfk hst hsp => (list_both hop hinv hfk hst hsp).agree

/-- **C10, sets.** Any set operation, outside D05 judged on `db` alone (D08 is about the
arguments; D07 is repaired). -/
theorem expired_uncleaned_is_absent_set : ∀ (op : Op) (now : Int) (db : DB),
    C03.IsSetOp op → db.Inv → db.fk = true → C03.Stale op now db = false →
    C03.DestIsSource op = false →
    let r := Model.dbRun op now db
    let r' := Model.dbRun op now (cleaned now db)
    r.out = r'.out ∧ Spec.abs now r.db = Spec.abs now r'.db :=
  fun _ _ _ hop hinv hfk hst hds => (set_both hop hinv hfk hst hds).agree

/-- **C10, hashes.** Any covered hash operation, outside D05 / D17 judged on `db` alone. -/
theorem expired_uncleaned_is_absent_hash : ∀ (op : Op) (now : Int) (db : DB),
    C04.IsFamOp op → db.Inv → db.fk = true → C04.ArgsInRange op = true →
    C04.DistinctFields op = true → C04.Stale op now db = false → C04.Overflow op now db = false →
    let r := Model.dbRun op now db
    let r' := Model.dbRun op now (cleaned now db)
    r.out = r'.out ∧ Spec.abs now r.db = Spec.abs now r'.db :=
  fun _ _ _ hop hinv hfk harg hdist hst hov => (hash_both hop hinv hfk harg hdist hst hov).agree

/-- **C10, sorted sets.** Any sorted-set operation, outside D05 judged on `db` alone, in the
decided domain (judged on `db` alone); the other classes are about the arguments. -/
theorem expired_uncleaned_is_absent_zset : ∀ (op : Op) (now : Int) (db : DB),
    C05.IsZOp op → db.Inv → db.fk = true → C05.ArgsOk op = true → C05.Decided op now db = true →
    C05.Stale op now db = false → C05.DestIsSource op = false → C05.SumOrder op = false →
    let r := Model.dbRun op now db
    let r' := Model.dbRun op now (cleaned now db)
    r.out = r'.out ∧ Spec.abs now r.db = Spec.abs now r'.db :=
  fun _ _ _ hop hinv hfk harg hdec hst hds hso =>
    (zset_both hop hinv hfk harg hdec hst hds hso).agree

/-- **C10, key operations.** Any of the thirteen key operations, outside D06 / D18 judged on `db`
alone and D16, in the C18 domain judged on `db` alone. No `Stale`: a rename onto an expired name
is not a deviation. Results that carry key rows are compared as `Spec.check` compares them
(`C06.obs`: id, version, mtime projected away, a listing sorted by name). -/
theorem expired_uncleaned_is_absent_key : ∀ (op : Op) (now : Int) (db : DB),
    C06.IsFamOp op → db.Inv → db.fk = true → C06.LenStale op now db = false →
    C06.EmptyName op now db = false → C06.BangClass op = false → C06.Judged op now db = true →
    let r := Model.dbRun op now db
    let r' := Model.dbRun op now (cleaned now db)
    C06.obs op r.out = C06.obs op r'.out ∧ Spec.abs now r.db = Spec.abs now r'.db :=
  fun _ _ _ hop hinv hfk hlen hemp hbang hj => (key_both hop hinv hfk hlen hemp hbang hj).agree

/-! ### 3. reads: no hypothesis about staleness -/

/-- `readCovered` is `Spec.isRead` minus `keyLen` and the four scans -/
theorem readCovered_spec : ∀ op : Op, readCovered op =
    (Spec.isRead op && !(match op with
      | .keyLen | .keyScan .. | .setScan .. | .hashScan .. | .zScan .. => true
      | _ => false)) := by
  intro op; cases op <;> rfl

/-- **C10, reads.** "Reads see nothing, counters and listings omit it": every covered read — 33
constructors, of all six families — answers the same on the tables with the expired rows and on
the tables from which they were removed, namely what the specification answers on the keyspace
of the live keys; and it leaves both table states exactly as they were. No hypothesis mentions
expired rows: `ReadSide` collects the class D16 and the domain conditions of
`zInter`, `zUnion`, `keyKeys`, all judged on `db` alone. -/
theorem expired_invisible_to_reads : ∀ (op : Op) (now : Int) (db : DB),
    Spec.isRead op = true → readCovered op = true → db.Inv → db.fk = true →
    ReadSide op now db = true →
    let r := Model.dbRun op now db
    let r' := Model.dbRun op now (cleaned now db)
    C06.obs op r.out = C06.obs op r'.out ∧
    C06.obs op r.out = (Spec.step op now (Spec.abs now db)).out ∧
    r.db = db ∧ r'.db = cleaned now db := by
  intro op now db hr hcov hinv hfk hside
  have h := reads_both hr hcov hinv hfk hside
  exact ⟨h.agree.1, h.1.1, C12.read_notrace_db op now db hr,
    C12.read_notrace_db op now (cleaned now db) hr⟩

/-- outside the key family the comparison is plain equality -/
theorem obs_is_id_outside_keys : ∀ (op : Op) (o : Out),
    (match op with | .keyGet _ | .keyRandom _ | .keyKeys _ => False | _ => True) →
    C06.obs op o = o := C06.obs_is_id

/-- the covered reads that carry no side condition at all -/
theorem readSide_trivial : ∀ (op : Op) (now : Int) (db : DB),
    (match op with
      | .strGet _ | .strGetMany _ | .listGet .. | .listLen _
      | .setDiff _ | .setExists .. | .setInter _ | .setItems _ | .setLen _ | .setRandom .. | .setUnion _
      | .hashExists .. | .hashFields _ | .hashGet .. | .hashGetMany .. | .hashItems _ | .hashLen _
      | .hashValues _ | .keyCount _ | .keyExists _ | .keyGet _ | .keyRandom _ => True
      | _ => False) → ReadSide op now db = true := by
  intro op now db h
  split at h <;> first | rfl | cases h

/-- The reads of the key repository whose result is a function of the live key rows (`Count`,
`Exists`, `Get`, `Keys`, `Random`, `Scan`): equal results — raw, key rows with id / version / mtime
included — with NO side condition (D16 and the C18 domain are not needed for this comparison) and
only unique ids. From `Clean.keyRead_out_congr`. -/
theorem expired_invisible_to_key_reads : ∀ (op : Op) (now : Int) (db : DB),
    isKeyRead op = true → db.Inv →
    (Model.dbRun op now db).out = (Model.dbRun op now (cleaned now db)).out :=
  fun _ now _ hop hinv =>
    (keyRead_out_congr hop now (liveRows_cleaned (keyIdsUnique_of_inv hinv) now)).symm

/-! ### 4. the rules for setting, keeping and clearing the expiry -/

/-- "plain set clears it" — `C01.plain_set_clears_ttl` -/
theorem plain_set_clears_ttl : ∀ (k v : Bytes) (now : Int) (db : DB), db.Inv → C01.NoOtherType db k →
    Spec.get (Spec.abs now (Model.dbRun (.strSet k v) now db).db) k = some ⟨.str v, none⟩ :=
  C01.plain_set_clears_ttl

/-- "keep-ttl … preserve[s] it" — `C01.keepttl_preserves` -/
theorem keepttl_preserves : ∀ (k v b : Bytes) (et : Option Int) (o : SetOpts) (now : Int) (db : DB),
    db.Inv → o.keepTTL = true → o.ifNotExists = false →
    Spec.get (Spec.abs now db) k = some ⟨.str b, et⟩ →
    Spec.get (Spec.abs now (Model.dbRun (.strSetWith k v o) now db).db) k = some ⟨.str v, et⟩ :=
  C01.keepttl_preserves

/-- "… and increments preserve it" (strings) — `C01.incr_preserves_ttl` -/
theorem incr_preserves_ttl : ∀ (k b : Bytes) (et : Option Int) (n d : Int) (now : Int) (db : DB),
    db.Inv → Spec.get (Spec.abs now db) k = some ⟨.str b, et⟩ → valueInt b = some n →
    inInt64 d = true → inInt64 (n + d) = true →
    (Model.dbRun (.strIncr k d) now db).out = .ok (.int (n + d)) ∧
    Spec.get (Spec.abs now (Model.dbRun (.strIncr k d) now db).db) k
      = some ⟨.str (itoa (n + d)), et⟩ :=
  C01.incr_preserves_ttl

/-- "… and increments preserve it" (hash fields): an increment of a field of a visible hash,
outside D17, returns the sum, stores its canonical text in that field and leaves the expiry of
the key as it was. From `C04.hash_refines_partial`. -/
theorem hash_incr_preserves_ttl : ∀ (k f : Bytes) (h : List (Bytes × Bytes)) (et : Option Int)
    (n d : Int) (now : Int) (db : DB),
    db.Inv → Spec.get (Spec.abs now db) k = some ⟨.hash h, et⟩ →
    valueInt ((aget h f).getD []) = some n → inInt64 d = true →
    C04.Overflow (.hashIncr k f d) now db = false →
    (Model.dbRun (.hashIncr k f d) now db).out = .ok (.int (n + d)) ∧
    Spec.get (Spec.abs now (Model.dbRun (.hashIncr k f d) now db).db) k
      = some ⟨.hash (aput h f (itoa (n + d))), et⟩ := by
  intro k f h et n d now db hinv hg hn hd hov
  have hw := DB.Inv.wf hinv
  obtain ⟨hlive, hns⟩ := get_abs_live hw hg
  have hlive : liveAt now et = true := hlive
  have href := C04.hash_refines_partial (.hashIncr k f d) now db rfl hinv hd rfl
    (by simpa [C04.Stale, writeKeys] using hns) hov
  simp only [Spec.step, Spec.hashIncr, hg, hn, Spec.ok] at href
  refine ⟨href.1, ?_⟩
  rw [href.2, get_purge_put_self (sorted_abs hw.names now), hlive, if_pos rfl]

/-- the same with the range condition on the sum instead of the classifier -/
theorem hash_incr_preserves_ttl_in_range : ∀ (k f : Bytes) (h : List (Bytes × Bytes))
    (et : Option Int) (n d : Int) (now : Int) (db : DB),
    db.Inv → Spec.get (Spec.abs now db) k = some ⟨.hash h, et⟩ →
    valueInt ((aget h f).getD []) = some n → inInt64 d = true → inInt64 (n + d) = true →
    (Model.dbRun (.hashIncr k f d) now db).out = .ok (.int (n + d)) ∧
    Spec.get (Spec.abs now (Model.dbRun (.hashIncr k f d) now db).db) k
      = some ⟨.hash (aput h f (itoa (n + d))), et⟩ := by
  intro k f h et n d now db hinv hg hn hd hnd
  refine hash_incr_preserves_ttl k f h et n d now db hinv hg hn hd ?_
  -- D17 on a visible hash, in terms of the field map the abstraction shows: the sum does not fit
  have hw := DB.Inv.hwf hinv
  rcases HashRef.hholder hw.wf now k with ⟨_, hg', _⟩ | ⟨_, _, _, hg', _⟩ | ⟨r, _, _, _, hg', hk⟩ |
    ⟨r, w, _, _, _, hg', hv, _⟩
  · rw [hg'] at hg; cases hg
  · rw [hg'] at hg; cases hg
  · rw [hg'] at hg
    have hm : HashRef.hview db.hashes r.id = h := by injection hg with hg; injection hg with h1 _; injection h1
    simp only [C04.Overflow, HashRef.hashGetRaw_some hk, ← HashRef.aget_hview hw.pairs, hm]
    cases hf : aget h f with
    | none => rfl
    | some b =>
      rw [hf] at hn
      simp only [Option.getD_some] at hn
      simp [hn, hnd]
  · rw [hg'] at hg
    have : w = .hash h := by injection hg with hg; injection hg
    exact absurd this (hv h)

/-- "rename carries it over": the value AND the expiry that were visible under `k` are afterwards
visible under `nk`, and nothing is visible under `k`. From `C06.rename_moves`. The destination may
be free, a visible key of the same type, or an expired leftover of any type. -/
theorem rename_carries_ttl : ∀ (k nk : Bytes) (v : SVal) (et : Option Int) (now : Int) (db : DB),
    db.Inv → k ≠ [] → k ≠ nk → Spec.get (Spec.abs now db) k = some ⟨v, et⟩ →
    (∀ e', Spec.get (Spec.abs now db) nk = some e' → e'.val.ty = v.ty) →
    let r := Model.dbRun (.keyRename k nk) now db
    r.out = .ok .nil ∧ Spec.get (Spec.abs now r.db) nk = some ⟨v, et⟩ ∧
    Spec.get (Spec.abs now r.db) k = none := by
  intro k nk v et now db hinv hk hne hg hty
  obtain ⟨ho, hall⟩ := C06.rename_moves k nk ⟨v, et⟩ now db hinv hk hne hg hty
  refine ⟨ho, ?_, ?_⟩
  · rw [hall nk]; simp
  · rw [hall k]
    have : (nk == k) = false := by simpa using fun h : nk = k => hne h.symm
    simp [this]

/-- `Persist` clears the expiry and nothing else — `C06.persist_clears_expiry` -/
theorem persist_clears_ttl : ∀ (k : Bytes) (e : Entry) (now : Int) (db : DB), db.Inv →
    Spec.get (Spec.abs now db) k = some e →
    let r := Model.dbRun (.keyPersist k) now db
    r.out = .ok .nil ∧ Spec.get (Spec.abs now r.db) k = some { e with etime := none } :=
  C06.persist_clears_expiry

/-- `ExpireAt` sets the expiry and nothing else; an instant that is not in the future makes the
key disappear at once — `C06.expireAt_sets_expiry` -/
theorem expire_sets_ttl : ∀ (k : Bytes) (t : Int) (e : Entry) (now : Int) (db : DB), db.Inv →
    Spec.get (Spec.abs now db) k = some e →
    let r := Model.dbRun (.keyExpireAt k t) now db
    r.out = .ok .nil ∧
    Spec.get (Spec.abs now r.db) k = if t > now then some { e with etime := some t } else none :=
  C06.expireAt_sets_expiry

/-- `Expire` with a time to live is `ExpireAt (now + ttl)`: a non-positive `ttl` makes the key
disappear at once -/
theorem expire_relative_sets_ttl : ∀ (k : Bytes) (ttl : Int) (e : Entry) (now : Int) (db : DB),
    db.Inv → Spec.get (Spec.abs now db) k = some e →
    let r := Model.dbRun (.keyExpire k ttl) now db
    r.out = .ok .nil ∧
    Spec.get (Spec.abs now r.db) k
      = if ttl > 0 then some { e with etime := some (now + ttl) } else none := by
  intro k ttl e now db hinv hg
  have h := C06.expireAt_sets_expiry k (now + ttl) e now db hinv hg
  have hc : (now + ttl > now) ↔ (ttl > 0) := by omega
  simp only [hc] at h
  exact h

/-! ### the boundary -/

/-- "Before that moment the key is fully present": a stored row whose expiry lies in the future
is visible, with a value and with that expiry. -/
theorem before_expiry_key_is_present : ∀ (db : DB) (now : Int) (r : KeyRow) (e : Int), db.Inv →
    r ∈ db.keys → r.etime = some e → now < e →
    ∃ v, Spec.get (Spec.abs now db) r.key = some ⟨v, some e⟩ := by
  intro db now r e hinv hr he hlt
  have hw := DB.Inv.wf hinv
  obtain ⟨v, hv⟩ := absVal_isSome hw hr
  refine ⟨v, ?_⟩
  rw [get_abs_of_mem hw now hr]
  have hl : r.live now = true := by
    unfold KeyRow.live liveAt; rw [he]; exact decide_eq_true hlt
  simp only [Spec.rowEntry, hl, if_true, hv, Option.map_some, he]

/-- a stored row without expiry is visible at every clock value -/
theorem persistent_key_is_present : ∀ (db : DB) (now : Int) (r : KeyRow), db.Inv →
    r ∈ db.keys → r.etime = none →
    ∃ v, Spec.get (Spec.abs now db) r.key = some ⟨v, none⟩ := by
  intro db now r hinv hr he
  have hw := DB.Inv.wf hinv
  obtain ⟨v, hv⟩ := absVal_isSome hw hr
  refine ⟨v, ?_⟩
  rw [get_abs_of_mem hw now hr]
  have hl : r.live now = true := by
    unfold KeyRow.live liveAt; rw [he]
  simp only [Spec.rowEntry, hl, if_true, hv, Option.map_some, he]

/-- "From the moment a key's expiration time is reached": the guard is `etime > now`, so the key
is gone exactly from `now = e` on — whether or not the row is still stored. -/
theorem at_expiry_key_is_gone : ∀ (db : DB) (now : Int) (r : KeyRow) (e : Int), db.Inv →
    r ∈ db.keys → r.etime = some e → e ≤ now →
    Spec.get (Spec.abs now db) r.key = none := by
  intro db now r e hinv hr he hle
  have hw := DB.Inv.wf hinv
  rw [get_abs_of_mem hw now hr]
  have hl : r.live now = false := by
    unfold KeyRow.live liveAt; rw [he]; exact decide_eq_false (by omega)
  simp only [Spec.rowEntry, hl, Bool.false_eq_true, if_false]

/-- … and it is gone in the same way once the cleaner has removed the row -/
theorem at_expiry_key_is_gone_cleaned : ∀ (db : DB) (now : Int) (r : KeyRow) (e : Int), db.Inv →
    r ∈ db.keys → r.etime = some e → e ≤ now →
    Spec.get (Spec.abs now (cleaned now db)) r.key = none ∧ r ∉ (cleaned now db).keys := by
  intro db now r e hinv hr he hle
  refine ⟨by rw [cleaned_abs now db hinv]; exact at_expiry_key_is_gone db now r e hinv hr he hle, ?_⟩
  intro hmem
  have hl := cleaned_all_live now db r hmem
  unfold KeyRow.live liveAt at hl
  rw [he] at hl
  exact absurd (of_decide_eq_true hl) (by omega)

/-- the boundary in one statement: a stored row with expiry `e` is visible iff `now < e` -/
theorem visible_iff_before_expiry : ∀ (db : DB) (now : Int) (r : KeyRow) (e : Int), db.Inv →
    r ∈ db.keys → r.etime = some e →
    ((Spec.get (Spec.abs now db) r.key).isSome = true ↔ now < e) := by
  intro db now r e hinv hr he
  constructor
  · intro h
    by_cases hlt : now < e
    · exact hlt
    · rw [at_expiry_key_is_gone db now r e hinv hr he (by omega)] at h
      cases h
  · intro hlt
    obtain ⟨v, hv⟩ := before_expiry_key_is_present db now r e hinv hr he hlt
    rw [hv]; rfl

/-! ### the D05 / D06 witnesses: on `db` itself `Stale` and `LenStale` cannot be dropped -/

def outInt : Out → Option Int
  | .ok (.int n) => some n
  | _ => none

def outErr : Out → Option Err
  | .error e => some e
  | _ => none

def outBytes : Out → Option Bytes
  | .ok (.bytes b) => some b
  | _ => none

def bA : Bytes := [97]           -- "a": string, expired at 5
def bS : Bytes := [115]          -- "s": set {1, 2}, expired at 7
def bL : Bytes := [108]          -- "l": list [y], expires at 100
def bH : Bytes := [104]          -- "h": hash {f: 7}, no expiry
def bN : Bytes := [110]          -- "n": string "41", no expiry
def bM : Bytes := [109]          -- "m": not stored
def bZ : Bytes := [122]          -- "z"

/-- at `now = 10`: two stored-but-expired keys (`a`, `s`), one key with a future expiry (`l`),
two keys without expiry (`h`, `n`) -/
def mixed : DB :=
  { keys := [ { id := 1, key := bA, ty := 1, version := 1, etime := some 5, mtime := 0, len := none },
              { id := 2, key := bS, ty := 3, version := 2, etime := some 7, mtime := 0, len := some 2 },
              { id := 3, key := bL, ty := 2, version := 1, etime := some 100, mtime := 0, len := some 1 },
              { id := 4, key := bH, ty := 4, version := 1, etime := none, mtime := 0, len := some 1 },
              { id := 5, key := bN, ty := 1, version := 1, etime := none, mtime := 0, len := none } ],
    strs := [ { kid := 1, value := [120] }, { kid := 5, value := [52, 49] } ],
    sets := [ { rowid := 1, kid := 2, elem := [49] }, { rowid := 2, kid := 2, elem := [50] } ],
    lists := [ { kid := 3, pos := 0, elem := [121] } ],
    hashes := [ { rowid := 1, kid := 4, field := [102], value := [55] } ] }

theorem mixed_inv : mixed.Inv := by show _ = true; decide

theorem mixed_fk : mixed.fk = true := rfl

/-- the cleaner at 10 removes `a` and `s` with their three child rows and nothing else -/
theorem mixed_cleaned : cleaned 10 mixed =
    { mixed with
      keys := [ { id := 3, key := bL, ty := 2, version := 1, etime := some 100, mtime := 0, len := some 1 },
                { id := 4, key := bH, ty := 4, version := 1, etime := none, mtime := 0, len := some 1 },
                { id := 5, key := bN, ty := 1, version := 1, etime := none, mtime := 0, len := none } ],
      strs := [ { kid := 5, value := [52, 49] } ], sets := [] } := by decide

/-- the keyspace both stand for -/
theorem mixed_abs : Spec.abs 10 mixed =
    [ (bH, ⟨.hash [([102], [55])], none⟩), (bL, ⟨.list [[121]], some 100⟩),
      (bN, ⟨.str [52, 49], none⟩) ] ∧
    Spec.abs 10 (cleaned 10 mixed) = Spec.abs 10 mixed := by decide

/-- **D05, another type.** A push to the name of an expired, not yet cleaned STRING is refused
with a type error; after the cleaner ran the same push creates a fresh list. So a write does tell
"expired" from "never created" until the cleaner has run: `Stale = false` cannot be dropped. -/
theorem stale_write_distinguishes_cleaning :
    C02.Stale (.listPushBack bA bZ) 10 mixed = true ∧
    outErr (Model.dbRun (.listPushBack bA bZ) 10 mixed).out = some .keyType ∧
    outInt (Model.dbRun (.listPushBack bA bZ) 10 (cleaned 10 mixed)).out = some 1 ∧
    Spec.get (Spec.abs 10 (Model.dbRun (.listPushBack bA bZ) 10 (cleaned 10 mixed)).db) bA
      = some ⟨.list [bZ], none⟩ := by decide

/-- **D05, same type.** Adding to the name of an expired, not yet cleaned SET reports one new
member on both table states, but on the uncleaned tables the write goes to the expired row, which
keeps its old expiry: the key is still invisible afterwards (and its old members are still
stored). On the cleaned tables it is a fresh set `{z}` without expiry. -/
theorem stale_write_is_lost :
    C03.Stale (.setAdd bS [bZ]) 10 mixed = true ∧
    outInt (Model.dbRun (.setAdd bS [bZ]) 10 mixed).out = some 1 ∧
    outInt (Model.dbRun (.setAdd bS [bZ]) 10 (cleaned 10 mixed)).out = some 1 ∧
    Spec.get (Spec.abs 10 (Model.dbRun (.setAdd bS [bZ]) 10 mixed).db) bS = none ∧
    Spec.get (Spec.abs 10 (Model.dbRun (.setAdd bS [bZ]) 10 (cleaned 10 mixed)).db) bS
      = some ⟨.set [bZ], none⟩ ∧
    ((Model.dbRun (.setAdd bS [bZ]) 10 mixed).db.sets.map (·.elem)) = [[49], [50], bZ] := by decide

/-- **D06.** `Len` counts stored rows: 5 before the cleaner ran, 3 after. -/
theorem len_distinguishes_cleaning :
    C06.LenStale .keyLen 10 mixed = true ∧
    outInt (Model.dbRun .keyLen 10 mixed).out = some 5 ∧
    outInt (Model.dbRun .keyLen 10 (cleaned 10 mixed)).out = some 3 := by decide

/-- so the statements without the staleness hypotheses are false -/
theorem full_strength_is_false :
    (¬ ∀ (op : Op) (now : Int) (db : DB), C02.IsListOp op → db.Inv → db.fk = true →
        outErr (Model.dbRun op now db).out = outErr (Model.dbRun op now (cleaned now db)).out) ∧
    (¬ ∀ (op : Op) (now : Int) (db : DB), C03.IsSetOp op → db.Inv → db.fk = true →
        Spec.abs now (Model.dbRun op now db).db
          = Spec.abs now (Model.dbRun op now (cleaned now db)).db) ∧
    (¬ ∀ (op : Op) (now : Int) (db : DB), C06.IsFamOp op → db.Inv → db.fk = true →
        outInt (Model.dbRun op now db).out = outInt (Model.dbRun op now (cleaned now db)).out) := by
  refine ⟨fun h => ?_, fun h => ?_, fun h => ?_⟩
  · exact absurd (h (.listPushBack bA bZ) 10 mixed rfl mixed_inv rfl) (by decide)
  · exact absurd (h (.setAdd bS [bZ]) 10 mixed rfl mixed_inv rfl) (by decide)
  · exact absurd (h .keyLen 10 mixed rfl mixed_inv rfl) (by decide)

/-! ### non-vacuity: the hypotheses hold on `mixed`, and the theorems say something there -/

/-- a read of the expired string: not found, on both -/
example : outErr (Model.dbRun (.strGet bA) 10 mixed).out = some .notFound ∧
    outErr (Model.dbRun (.strGet bA) 10 (cleaned 10 mixed)).out = some .notFound := by decide

example :
    let r := Model.dbRun (.strGet bA) 10 mixed
    let r' := Model.dbRun (.strGet bA) 10 (cleaned 10 mixed)
    r.out = r'.out ∧ Spec.abs 10 r.db = Spec.abs 10 r'.db :=
  expired_uncleaned_is_absent_str (.strGet bA) 10 mixed rfl mixed_inv rfl rfl rfl rfl

/-- an increment of the live string `n` = "41": 42 on both, the classifiers hold -/
example : C01.Stale (.strIncr bN 1) 10 mixed = false ∧ C01.Overflow (.strIncr bN 1) 10 mixed = false ∧
    outInt (Model.dbRun (.strIncr bN 1) 10 mixed).out = some 42 := by decide

example :
    let r := Model.dbRun (.strIncr bN 1) 10 mixed
    let r' := Model.dbRun (.strIncr bN 1) 10 (cleaned 10 mixed)
    r.out = r'.out ∧ Spec.abs 10 r.db = Spec.abs 10 r'.db :=
  expired_uncleaned_is_absent_str (.strIncr bN 1) 10 mixed rfl mixed_inv rfl (by decide) (by decide)
    (by decide)

/-- a push to the list with a future expiry, and one to a free name -/
example :
    let r := Model.dbRun (.listPushBack bL bZ) 10 mixed
    let r' := Model.dbRun (.listPushBack bL bZ) 10 (cleaned 10 mixed)
    r.out = r'.out ∧ Spec.abs 10 r.db = Spec.abs 10 r'.db :=
  expired_uncleaned_is_absent_list (.listPushBack bL bZ) 10 mixed rfl mixed_inv rfl (by decide)
    (by decide)

example : outInt (Model.dbRun (.listPushBack bL bZ) 10 mixed).out = some 2 ∧
    Spec.get (Spec.abs 10 (Model.dbRun (.listPushBack bL bZ) 10 mixed).db) bL
      = some ⟨.list [[121], bZ], some 100⟩ := by decide

example :
    let r := Model.dbRun (.listPopBackPushFront bL bM) 10 mixed
    let r' := Model.dbRun (.listPopBackPushFront bL bM) 10 (cleaned 10 mixed)
    r.out = r'.out ∧ Spec.abs 10 r.db = Spec.abs 10 r'.db :=
  expired_uncleaned_is_absent_list (.listPopBackPushFront bL bM) 10 mixed rfl mixed_inv rfl (by decide)
    (by decide)

/-- the ids the two runs allocate differ (6 against 4): equal keyspaces, different tables -/
example : ((Model.dbRun (.listPopBackPushFront bL bM) 10 mixed).db.keys.map (·.id)) = [1, 2, 3, 4, 5, 6] ∧
    ((Model.dbRun (.listPopBackPushFront bL bM) 10 (cleaned 10 mixed)).db.keys.map (·.id))
      = [3, 4, 5, 6] := by decide

/-- a set read over an expired and a missing name: empty on both -/
example :
    let r := Model.dbRun (.setUnion [bS, bM]) 10 mixed
    let r' := Model.dbRun (.setUnion [bS, bM]) 10 (cleaned 10 mixed)
    r.out = r'.out ∧ Spec.abs 10 r.db = Spec.abs 10 r'.db :=
  expired_uncleaned_is_absent_set (.setUnion [bS, bM]) 10 mixed rfl mixed_inv rfl rfl rfl

/-- an intersection that names the expired set twice (D07 is repaired for sets: no side condition) -/
example :
    let r := Model.dbRun (.setInter [bS, bS]) 10 mixed
    let r' := Model.dbRun (.setInter [bS, bS]) 10 (cleaned 10 mixed)
    r.out = r'.out ∧ Spec.abs 10 r.db = Spec.abs 10 r'.db :=
  expired_uncleaned_is_absent_set (.setInter [bS, bS]) 10 mixed rfl mixed_inv rfl rfl rfl

example :
    let r := Model.dbRun (.hashIncr bH [102] 1) 10 mixed
    let r' := Model.dbRun (.hashIncr bH [102] 1) 10 (cleaned 10 mixed)
    r.out = r'.out ∧ Spec.abs 10 r.db = Spec.abs 10 r'.db :=
  expired_uncleaned_is_absent_hash (.hashIncr bH [102] 1) 10 mixed rfl mixed_inv rfl rfl rfl (by decide)
    (by decide)

example : outInt (Model.dbRun (.hashIncr bH [102] 1) 10 mixed).out = some 8 := by decide

example :
    let r := Model.dbRun (.zAdd bM bZ (.fin 1)) 10 mixed
    let r' := Model.dbRun (.zAdd bM bZ (.fin 1)) 10 (cleaned 10 mixed)
    r.out = r'.out ∧ Spec.abs 10 r.db = Spec.abs 10 r'.db :=
  expired_uncleaned_is_absent_zset (.zAdd bM bZ (.fin 1)) 10 mixed rfl mixed_inv rfl rfl (by decide)
    (by decide) rfl rfl

/-- an intersection that names a key twice (D07 is repaired for sorted sets too) -/
example :
    let r := Model.dbRun (.zInter [bS, bS] .min) 10 mixed
    let r' := Model.dbRun (.zInter [bS, bS] .min) 10 (cleaned 10 mixed)
    r.out = r'.out ∧ Spec.abs 10 r.db = Spec.abs 10 r'.db :=
  expired_uncleaned_is_absent_zset (.zInter [bS, bS] .min) 10 mixed rfl mixed_inv rfl (by decide)
    (by decide) rfl rfl rfl

/-- rename onto the expired name `a`: no staleness hypothesis in the key family -/
example :
    let r := Model.dbRun (.keyRename bN bA) 10 mixed
    let r' := Model.dbRun (.keyRename bN bA) 10 (cleaned 10 mixed)
    C06.obs (.keyRename bN bA) r.out = C06.obs (.keyRename bN bA) r'.out ∧
      Spec.abs 10 r.db = Spec.abs 10 r'.db :=
  expired_uncleaned_is_absent_key (.keyRename bN bA) 10 mixed rfl mixed_inv rfl rfl (by decide) rfl rfl

example : Spec.staleKey mixed 10 bA = true ∧
    Spec.get (Spec.abs 10 (Model.dbRun (.keyRename bN bA) 10 mixed).db) bA
      = some ⟨.str [52, 49], none⟩ := by decide

/-- existence count over an expired, a live and a missing name: 1 on both -/
example : outInt (Model.dbRun (.keyCount [bA, bL, bM]) 10 mixed).out = some 1 ∧
    outInt (Model.dbRun (.keyCount [bA, bL, bM]) 10 (cleaned 10 mixed)).out = some 1 := by decide

example :
    let r := Model.dbRun (.keyCount [bA, bL, bM]) 10 mixed
    let r' := Model.dbRun (.keyCount [bA, bL, bM]) 10 (cleaned 10 mixed)
    C06.obs (.keyCount [bA, bL, bM]) r.out = C06.obs (.keyCount [bA, bL, bM]) r'.out ∧
    C06.obs (.keyCount [bA, bL, bM]) r.out
      = (Spec.step (.keyCount [bA, bL, bM]) 10 (Spec.abs 10 mixed)).out ∧
    r.db = mixed ∧ r'.db = cleaned 10 mixed :=
  expired_invisible_to_reads (.keyCount [bA, bL, bM]) 10 mixed rfl rfl mixed_inv rfl rfl

/-- a pattern listing: `ReadSide` holds (D16, C18 domain) -/
example : ReadSide (.keyKeys [42]) 10 mixed = true := by decide

/-- a list range with a negative bound on a live list (D01 is repaired: no side condition) -/
example : ReadSide (.listRange bL 0 (-1)) 10 mixed = true := by decide

/-- the boundary on `mixed`: `l` (expiry 100) is visible at 99 and gone at 100; `a` (expiry 5) is
visible at 4 and gone at 5 -/
example : (Spec.get (Spec.abs 99 mixed) bL).isSome = true ∧ Spec.get (Spec.abs 100 mixed) bL = none ∧
    (Spec.get (Spec.abs 4 mixed) bA).isSome = true ∧ Spec.get (Spec.abs 5 mixed) bA = none := by
  decide

example : ∃ v, Spec.get (Spec.abs 10 mixed) bL = some ⟨v, some 100⟩ :=
  before_expiry_key_is_present mixed 10
    { id := 3, key := bL, ty := 2, version := 1, etime := some 100, mtime := 0, len := some 1 } 100
    mixed_inv (by decide) rfl (by decide)

/-- the TTL rules on `mixed`, on the string `n` after `ExpireAt 50`: an increment keeps the expiry,
a plain set clears it, a rename carries it to the new name, `Persist` clears it -/
example :
    let db1 := (Model.dbRun (.keyExpireAt bN 50) 10 mixed).db
    Spec.get (Spec.abs 10 db1) bN = some ⟨.str [52, 49], some 50⟩ ∧
    (Spec.get (Spec.abs 10 (Model.dbRun (.strIncr bN 1) 10 db1).db) bN).map (·.etime)
      = some (some 50) ∧
    Spec.get (Spec.abs 10 (Model.dbRun (.strSet bN bZ) 10 db1).db) bN = some ⟨.str bZ, none⟩ ∧
    Spec.get (Spec.abs 10 (Model.dbRun (.keyRename bN bM) 10 db1).db) bM
      = some ⟨.str [52, 49], some 50⟩ ∧
    Spec.get (Spec.abs 10 (Model.dbRun (.keyPersist bN) 10 db1).db) bN
      = some ⟨.str [52, 49], none⟩ := by decide


end Redka.Props.C10x
