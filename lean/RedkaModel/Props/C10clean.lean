/-
  C10, cleaner clause —
  "…the cleaner removes exactly the expired keys together with all their elements and nothing else."

  The cleaner is `Model.keyDeleteExpired db n now` (`internal/rkey/tx.go: deleteExpired`):
  `n > 0` → `delete from rkey where rowid in (select rowid from rkey where etime <= ? limit ?)`,
  otherwise `delete from rkey where etime <= ?`; children go by `ON DELETE CASCADE` when the
  executing connection has `foreign_keys = 1` (`DB.fk`).

  The model selects the rows to delete BY ID (`ids.contains r.id`), as the SQL does by rowid.  The
  type `DB` does not force ids to be unique, so the statements that say "only expired rows go" carry
  the hypothesis `KeyIdsUnique db` (`id integer primary key`; it is one conjunct of `DB.Inv`, see
  `keyIdsUnique_of_inv`).  Without it they are FALSE in the model — `exactly_expired_needs_unique_ids`
  is the witness — so the hypothesis is not a silent weakening.

  Only property theorems and witnesses here; lemmas are in `Proofs/Clean.lean`.
-/
import RedkaModel.Proofs.Clean

namespace Redka.Props.C10

open Redka Redka.Model Redka.Clean

/-! ### the bridge between the read guard and the cleaner's `where` -/

/-- `etime is null or etime > now` (every read) is the exact complement of `etime <= now`
(the cleaner) -/
theorem live_iff_not_expired : ∀ (now : Int) (r : KeyRow),
    r.live now = true ↔ ¬ ∃ e, r.etime = some e ∧ e ≤ now :=
  live_iff

/-- number of stored rows with `etime <= now` -/
def expiredCount (db : DB) (now : Int) : Int :=
  ((db.keys.filter (fun r => match r.etime with
    | none => false
    | some t => decide (t ≤ now))).length : Int)

/-- `KeyIdsUnique` is the first conjunct of the uniqueness audit of `DB.Inv` -/
theorem unique_ids_of_inv : ∀ db : DB, db.Inv → KeyIdsUnique db := fun _ => keyIdsUnique_of_inv

theorem unique_ids_iff : ∀ db : DB, KeyIdsUnique db ↔ nodupB (db.keys.map (·.id)) = true :=
  keyIdsUnique_iff

/-! ### all expired keys go (`n ≤ 0`, the background manager's `nKeys = 0`) -/

/-- every non-positive limit takes the unlimited statement -/
theorem cleaner_removes_exactly_expired_nonpos : ∀ (db : DB) (n now : Int), n ≤ 0 → KeyIdsUnique db →
    let r := keyDeleteExpired db n now
    r.db.keys = db.keys.filter (·.live now) ∧ r.out = .ok (.int (expiredCount db now)) := by
  intro db n now hn hu
  refine ⟨?_, ?_⟩
  · rw [keyDeleteExpired_keys]
    apply List.filter_congr
    intro x hx
    rw [sel_eq_expired hu hn hx, live_eq_not_expired]
  · rw [keyDeleteExpired_out, deleteKeysWhere_snd]
    have : db.keys.filter (sel db n now) = db.keys.filter (expired now) :=
      List.filter_congr (fun x hx => sel_eq_expired hu hn hx)
    rw [this]; rfl

/-- The unlimited cleaner leaves exactly the live rows, in their order, and reports the number of
rows with `etime <= now`. -/
theorem cleaner_removes_exactly_expired : ∀ (db : DB) (now : Int), KeyIdsUnique db →
    let r := keyDeleteExpired db 0 now
    r.db.keys = db.keys.filter (·.live now) ∧ r.out = .ok (.int (expiredCount db now)) :=
  fun db now hu => cleaner_removes_exactly_expired_nonpos db 0 now (Int.le_refl 0) hu

/-- two rows with the same id, one live and one expired (impossible in SQLite, possible in `DB`) -/
def cleanerDupIdDB : DB :=
  { keys := [ { id := 1, key := [97], ty := 1, version := 1, etime := none, mtime := 0, len := none },
              { id := 1, key := [98], ty := 1, version := 1, etime := some 5, mtime := 0, len := none } ] }

/-- The statement as first written (`∀ db now` with no hypothesis) is false in the model: deletion
is by id, so a live row that shares its id with an expired row goes too. -/
theorem exactly_expired_needs_unique_ids :
    ¬ ∀ (db : DB) (now : Int),
        (keyDeleteExpired db 0 now).db.keys = db.keys.filter (·.live now) := by
  intro h
  exact absurd (h cleanerDupIdDB 10) (by decide +kernel)

theorem cleaner_leaves_no_expired_nonpos : ∀ (db : DB) (n now : Int), n ≤ 0 →
    ∀ r ∈ (keyDeleteExpired db n now).db.keys, r.live now = true :=
  fun _ _ _ hn _ hr => live_of_mem_keyDeleteExpired hn hr

/-- After the unlimited cleaner no stored row is expired — needs no hypothesis at all. -/
theorem cleaner_leaves_no_expired : ∀ (db : DB) (now : Int),
    ∀ r ∈ (keyDeleteExpired db 0 now).db.keys, r.live now = true :=
  fun db now => cleaner_leaves_no_expired_nonpos db 0 now (Int.le_refl 0)

/-! ### every limit: live rows stay -/

/-- For every `n` (positive, zero, negative): a live stored row is still stored afterwards. -/
theorem cleaner_touches_only_expired : ∀ (n : Int) (db : DB) (now : Int) (r : KeyRow), KeyIdsUnique db →
    r ∈ db.keys → r.live now = true → r ∈ (keyDeleteExpired db n now).db.keys := by
  intro n db now r hu hr hl
  rw [keyDeleteExpired_keys, List.mem_filter]
  exact ⟨hr, by rw [sel_live_false hu (Int.le_refl now) hr hl]; rfl⟩

/-- nothing is added or reordered: the stored rows afterwards are a sublist of those before -/
theorem cleaner_keys_sublist : ∀ (n : Int) (db : DB) (now : Int),
    (keyDeleteExpired db n now).db.keys.Sublist db.keys := by
  intro n db now
  rw [keyDeleteExpired_keys]; exact List.filter_sublist

/-- without unique ids a live row can go (same witness) -/
theorem touches_only_expired_needs_unique_ids :
    ¬ ∀ (n : Int) (db : DB) (now : Int) (r : KeyRow),
        r ∈ db.keys → r.live now = true → r ∈ (keyDeleteExpired db n now).db.keys := by
  intro h
  exact absurd (h 0 cleanerDupIdDB 10
    { id := 1, key := [97], ty := 1, version := 1, etime := none, mtime := 0, len := none }
    (by decide +kernel) (by decide +kernel)) (by decide +kernel)

/-! ### a positive limit -/

/-- With `n > 0` the cleaner removes exactly `min n (#expired)` rows — the first `n` of the expired
rows in `rkey_etime_idx` order —, reports that number, every removed row is expired, and (previous
theorem) every live row stays. -/
theorem cleaner_limited : ∀ (n : Int) (db : DB) (now : Int), 0 < n → KeyIdsUnique db →
    let r := keyDeleteExpired db n now
    r.out = .ok (.int (min n (expiredCount db now))) ∧
    (r.db.keys.length : Int) = (db.keys.length : Int) - min n (expiredCount db now) ∧
    (∀ x ∈ db.keys, x ∉ r.db.keys → x.live now = false) ∧
    (∀ x ∈ db.keys, x.live now = true → x ∈ r.db.keys) ∧
    (∀ x ∈ db.keys, x ∉ r.db.keys ↔ x ∈ (expiredRows db now).take n.toNat) := by
  intro n db now hn hu
  have hlen : ((db.keys.filter (sel db n now)).length : Int) = min n (expiredCount db now) := by
    rw [length_filter_sel hu, length_victims_pos hn]; rfl
  refine ⟨?_, ?_, ?_, ?_, ?_⟩
  · rw [keyDeleteExpired_out, deleteKeysWhere_snd, hlen]
  · rw [keyDeleteExpired_keys, length_filter_not, hlen]
  · intro x hx hnot
    rw [keyDeleteExpired_db, removed_iff db _ hx] at hnot
    rw [live_eq_not_expired, sel_expired hu hx hnot]; rfl
  · exact fun x hx hl => cleaner_touches_only_expired n db now x hu hx hl
  · intro x hx
    rw [keyDeleteExpired_db, removed_iff db _ hx, ← victims_of_pos hn]
    exact id_mem_victims_iff hu hx

/-! ### children -/

/-- With `foreign_keys = 1`: after the cleaner (any `n`) no row of any of the five child tables
refers to a removed key. -/
theorem cleaner_removes_children : ∀ (db : DB) (n now : Int), db.fk = true →
    let post := (keyDeleteExpired db n now).db
    ∀ k ∈ db.keys, k ∉ post.keys →
      (∀ c ∈ post.strs, c.kid ≠ k.id) ∧ (∀ c ∈ post.lists, c.kid ≠ k.id) ∧
      (∀ c ∈ post.sets, c.kid ≠ k.id) ∧ (∀ c ∈ post.hashes, c.kid ≠ k.id) ∧
      (∀ c ∈ post.zsets, c.kid ≠ k.id) := by
  intro db n now hfk
  dsimp only
  intro k hk hnot
  have hsel : sel db n now k = true := (removed_iff db _ hk).1 hnot
  have hg := removed_id_gone (sel db n now) hk hsel
  have key : ∀ kid : Int, (goneIds db (sel db n now)).contains kid = false → kid ≠ k.id := by
    intro kid h heq; rw [heq, hg] at h; cases h
  rw [keyDeleteExpired_db, dkw_on db _ hfk]
  simp only [List.mem_filter, Bool.not_eq_true']
  exact ⟨fun c hc => key _ hc.2, fun c hc => key _ hc.2, fun c hc => key _ hc.2,
    fun c hc => key _ hc.2, fun c hc => key _ hc.2⟩

/-- …and nothing else goes: with `foreign_keys = 1` a child row is stored afterwards iff it was
stored before and its owner id is not the id of a removed key (all five tables; order kept, the
tables afterwards are filters of the tables before). -/
theorem cleaner_children_exact : ∀ (db : DB) (n now : Int), db.fk = true →
    let post := (keyDeleteExpired db n now).db
    let kept : Int → Prop := fun kid => ∀ k ∈ db.keys, k ∉ post.keys → k.id ≠ kid
    (∀ c, c ∈ post.strs ↔ c ∈ db.strs ∧ kept c.kid) ∧
    (∀ c, c ∈ post.lists ↔ c ∈ db.lists ∧ kept c.kid) ∧
    (∀ c, c ∈ post.sets ↔ c ∈ db.sets ∧ kept c.kid) ∧
    (∀ c, c ∈ post.hashes ↔ c ∈ db.hashes ∧ kept c.kid) ∧
    (∀ c, c ∈ post.zsets ↔ c ∈ db.zsets ∧ kept c.kid) := by
  intro db n now hfk
  dsimp only
  have hk : ∀ kid, (goneIds db (sel db n now)).contains kid = false ↔
      ∀ k ∈ db.keys, k ∉ (keyDeleteExpired db n now).db.keys → k.id ≠ kid := by
    intro kid
    rw [gone_not_contains_iff]
    constructor
    · intro h k hk hnot; exact h k hk ((removed_iff db _ hk).1 hnot)
    · intro h k hk hs; exact h k hk ((removed_iff db _ hk).2 hs)
  simp only [← hk]
  rw [keyDeleteExpired_db, dkw_on db _ hfk]
  simp only [List.mem_filter, Bool.not_eq_true', implies_true, and_self]

/-- The child rows of every key that is still stored afterwards are untouched, in all five tables,
whatever `foreign_keys` is and whether or not ids are unique. -/
theorem cleaner_keeps_live_children : ∀ (db : DB) (n now : Int),
    let post := (keyDeleteExpired db n now).db
    ∀ k ∈ post.keys,
      post.strs.filter (fun c => c.kid == k.id) = db.strs.filter (fun c => c.kid == k.id) ∧
      post.lists.filter (fun c => c.kid == k.id) = db.lists.filter (fun c => c.kid == k.id) ∧
      post.sets.filter (fun c => c.kid == k.id) = db.sets.filter (fun c => c.kid == k.id) ∧
      post.hashes.filter (fun c => c.kid == k.id) = db.hashes.filter (fun c => c.kid == k.id) ∧
      post.zsets.filter (fun c => c.kid == k.id) = db.zsets.filter (fun c => c.kid == k.id) := by
  intro db n now post k hk
  have hk' : k ∈ (keyDeleteExpired db n now).db.keys := hk
  rw [keyDeleteExpired_keys, List.mem_filter] at hk'
  have hs : sel db n now k = false := by cases h : sel db n now k <;> simp_all
  have hg : (goneIds db (sel db n now)).contains k.id = false :=
    survivor_id_not_gone_of_idpred db
      (fun i => ((victims db n now).map (fun r : KeyRow => r.id)).contains i) (r := k) hs
  exact ⟨dkw_strs_of hg, dkw_lists_of hg, dkw_sets_of hg, dkw_hashes_of hg, dkw_zsets_of hg⟩

/-- in particular the children of every LIVE key (unique ids) -/
theorem cleaner_keeps_children_of_live : ∀ (db : DB) (n now : Int), KeyIdsUnique db →
    let post := (keyDeleteExpired db n now).db
    ∀ k ∈ db.keys, k.live now = true →
      post.strs.filter (fun c => c.kid == k.id) = db.strs.filter (fun c => c.kid == k.id) ∧
      post.lists.filter (fun c => c.kid == k.id) = db.lists.filter (fun c => c.kid == k.id) ∧
      post.sets.filter (fun c => c.kid == k.id) = db.sets.filter (fun c => c.kid == k.id) ∧
      post.hashes.filter (fun c => c.kid == k.id) = db.hashes.filter (fun c => c.kid == k.id) ∧
      post.zsets.filter (fun c => c.kid == k.id) = db.zsets.filter (fun c => c.kid == k.id) := by
  intro db n now hu post k hk hl
  exact cleaner_keeps_live_children db n now k (cleaner_touches_only_expired n db now k hu hk hl)

/-- With `foreign_keys = 0` (the state D14 puts the read-write connection in) only `rkey` changes:
all child rows stay, those of the removed keys as orphans. -/
theorem cleaner_fk_off_keeps_all_children : ∀ (db : DB) (n now : Int), db.fk = false →
    let post := (keyDeleteExpired db n now).db
    post.strs = db.strs ∧ post.lists = db.lists ∧ post.sets = db.sets ∧
    post.hashes = db.hashes ∧ post.zsets = db.zsets := by
  intro db n now hfk
  dsimp only
  rw [keyDeleteExpired_db, dkw_off db _ hfk]
  exact ⟨rfl, rfl, rfl, rfl, rfl⟩

/-! ### the keyspace every read sees -/

/-- Reclamation is invisible: the abstract keyspace (live keys with their values and expiry — what
every API read is specified against) at `now`, and at every later time, is the same before and
after the cleaner ran at `now`; for every limit `n` and either `foreign_keys` setting.
Uses only the uniqueness of key ids. -/
theorem cleaner_abs_unchanged_from : ∀ (db : DB) (n now now' : Int), KeyIdsUnique db → now ≤ now' →
    Spec.abs now' (keyDeleteExpired db n now).db = Spec.abs now' db :=
  fun _ n _ _ hu hle => abs_keyDeleteExpired hu n hle

theorem cleaner_abs_unchanged : ∀ (db : DB) (now : Int), db.Inv → ∀ n : Int,
    Spec.abs now (keyDeleteExpired db n now).db = Spec.abs now db :=
  fun _ now hinv n => abs_keyDeleteExpired (keyIdsUnique_of_inv hinv) n (Int.le_refl now)

/-- without unique ids the keyspace can change (the live row of `cleanerDupIdDB` disappears) -/
theorem abs_unchanged_needs_unique_ids :
    ¬ ∀ (db : DB) (n now : Int),
        ((keyDeleteExpired db n now).db.keys.filter (·.live now)) = db.keys.filter (·.live now) := by
  intro h
  exact absurd (h cleanerDupIdDB 0 10) (by decide +kernel)

/-! ### the structural invariant -/

/-- The cleaner on a connection with `foreign_keys = 1` preserves the C11 audit (cached lengths,
owners, uniqueness), for every limit. -/
theorem cleaner_preserves_inv : ∀ (db : DB) (n now : Int), db.Inv → db.fk = true →
    (keyDeleteExpired db n now).db.Inv := by
  intro db n now hinv hfk
  rw [keyDeleteExpired_db]; exact inv_dkw hinv hfk _

theorem cleaner_preserves_unique_ids : ∀ (db : DB) (n now : Int), KeyIdsUnique db →
    KeyIdsUnique (keyDeleteExpired db n now).db := by
  intro db n now hu
  rw [keyDeleteExpired_db]; exact keyIdsUnique_dkw hu _

/-! ### non-vacuity and the D14 mechanism -/

/-- one expired string `a` (id 1) with its value, one expired set `s` (id 2) with two members, one
live list `l` (id 3, expires at 100) with one element, one persistent hash `h` (id 4) -/
def cleanerSample (fk : Bool) : DB :=
  { keys := [ { id := 1, key := [97], ty := 1, version := 1, etime := some 5, mtime := 0, len := none },
              { id := 2, key := [115], ty := 3, version := 2, etime := some 7, mtime := 0, len := some 2 },
              { id := 3, key := [108], ty := 2, version := 1, etime := some 100, mtime := 0, len := some 1 },
              { id := 4, key := [104], ty := 4, version := 1, etime := none, mtime := 0, len := some 1 } ],
    strs := [ { kid := 1, value := [120] } ],
    sets := [ { rowid := 1, kid := 2, elem := [49] }, { rowid := 2, kid := 2, elem := [50] } ],
    lists := [ { kid := 3, pos := 0, elem := [121] } ],
    hashes := [ { rowid := 1, kid := 4, field := [102], value := [118] } ],
    fk := fk }

example : (cleanerSample true).Inv := by show _ = true; decide +kernel

/-- `foreign_keys = 1`: the two expired keys go with their three child rows, the rest is untouched -/
example : (keyDeleteExpired (cleanerSample true) 0 10).db =
    { cleanerSample true with
      keys := [ { id := 3, key := [108], ty := 2, version := 1, etime := some 100, mtime := 0, len := some 1 },
                { id := 4, key := [104], ty := 4, version := 1, etime := none, mtime := 0, len := some 1 } ],
      strs := [], sets := [] } := by decide +kernel

example : expiredCount (cleanerSample true) 10 = 2 := by decide +kernel

/-- a limit of 1 takes the row that expired first -/
example : ((keyDeleteExpired (cleanerSample true) 1 10).db.keys.map (·.id)) = [2, 3, 4] := by decide +kernel

example : (keyDeleteExpired (cleanerSample true) 0 10).db.Inv := by show _ = true; decide +kernel

/-- `foreign_keys = 0`: the key rows go, the three child rows stay as orphans and the audit fails -/
theorem cleaner_fk_off_leaves_orphans :
    (keyDeleteExpired (cleanerSample false) 0 10).db.keys.map (·.id) = [3, 4] ∧
    (keyDeleteExpired (cleanerSample false) 0 10).db.strs = (cleanerSample false).strs ∧
    (keyDeleteExpired (cleanerSample false) 0 10).db.sets = (cleanerSample false).sets ∧
    ¬ (keyDeleteExpired (cleanerSample false) 0 10).db.Inv := by
  show _ ∧ _ ∧ _ ∧ ¬ (_ = true); decide +kernel

/-- one expired set `s` (id 1) with two members -/
def cleanerOneSet (fk : Bool) : DB :=
  { keys := [ { id := 1, key := [115], ty := 3, version := 2, etime := some 7, mtime := 0, len := some 2 } ],
    sets := [ { rowid := 1, kid := 1, elem := [49] }, { rowid := 2, kid := 1, elem := [50] } ],
    fk := fk }

/-- The D14 mechanism end to end: with `foreign_keys = 0` the cleaner leaves the members of the
expired set behind; ids are `max + 1`, so the next key created (`SADD t z`) gets id 1 and INHERITS
them — `t` reads as `{1, 2, z}`.  With `foreign_keys = 1` it is `{z}`. -/
theorem fk_off_orphans_are_inherited :
    Spec.abs 10 (dbRun (.setAdd [116] [[122]]) 10 (keyDeleteExpired (cleanerOneSet false) 0 10).db).db
      = [([116], ⟨.set [[49], [50], [122]], none⟩)] ∧
    Spec.abs 10 (dbRun (.setAdd [116] [[122]]) 10 (keyDeleteExpired (cleanerOneSet true) 0 10).db).db
      = [([116], ⟨.set [[122]], none⟩)] := by decide +kernel

/-- so `cleaner_preserves_inv` needs `fk = true` -/
theorem preserves_inv_needs_fk :
    ¬ ∀ (db : DB) (n now : Int), db.Inv → (keyDeleteExpired db n now).db.Inv := by
  intro h
  exact absurd (h (cleanerSample false) 0 10 (by show _ = true; decide +kernel)) cleaner_fk_off_leaves_orphans.2.2.2

end Redka.Props.C10
