/-
  C01 — strings behave like a map from key to bytes.

  "For every sequence of string operations (set with any mix of conditional, expiry and
  keep-expiry options, get, multi-get, multi-set, integer and float increment) each call returns
  what a plain in-memory map from key to byte string would return, and afterwards every key holds
  exactly the bytes that map holds. An unconditional set replaces the value and clears the expiry
  unless asked to keep it; a conditional set acts only when its condition holds and reports
  created/updated/previous value truthfully; an increment reads the stored text as a number, fails
  without effect when it is not one, and stores the canonical text of the sum, which a following
  get returns."

  What is proved here. `Model.dbRun` is the statement-level model of the `DB`-level methods of
  `internal/rstring` over the six tables; `Spec.step` is the in-memory map; `Spec.abs now db` is
  the map a table state stands for at clock value `now` (only unexpired keys). `str_refines_partial`
  says that one call of any string operation on any table state satisfying the structural
  invariant C11 (`DB.Inv`), with any arguments and any clock value, returns what the map returns
  and leaves tables that stand for the map's new state — outside two narrow, decidable classes of
  inputs on which the real code (and therefore the model) is known to deviate:

    * `Stale` (known finding D05): the operation writes to a name whose stored key row has expired
      but has not been cleaned up yet;
    * `Overflow` (known finding D17): an integer increment whose exact sum does not fit in int64.

  Both deviations are shown to be real by concrete witnesses (`stale_incr_deviates`,
  `stale_othertype_deviates`, `overflow_deviates`), so the full-strength statement is false
  (`full_strength_is_false`).

  `str_seq_refines` lifts the single step to any sequence of string operations at non-decreasing
  clock values: every call of the sequence returns what the map returns and the final tables stand
  for the final map. It rests on `str_preserves_wf` (the string operations keep `DB.WF`, the
  consequence of the invariant that the proofs use) and on `Spec.abs_mono` (a later clock value
  only removes the keys that expired meanwhile). The remaining clauses of the property are stated
  one by one (`get_after_set`, `plain_set_clears_ttl`, `keepttl_preserves`, `incr_preserves_ttl`,
  `incr_roundtrip`, `incr_nonnumeric_fails`), and the conditional set as an explicit decision table
  on the model (`setcmd_matrix`).

  Scope notes.
    * Float increment is in the family. It is decided on the numeric domain of `valueFloat` /
      `formatFloatDec`; outside it `Model.tx` and `Spec.step` both answer `outOfDomain` and change
      nothing.
    * The increment argument is a Go `int`. `Op.strIncr` carries an unbounded `Int`, so the
      theorem asks for `ArgsInRange`; without it the statement is false for a reason that has
      nothing to do with the code (`incr_arg_out_of_range`).
    * Results are compared with `=`. `Spec.outEq` cannot be used in a theorem: it is built from
      `partial def`s (`projVal`, `Val.beq`), which are opaque to the kernel. String results never
      contain key rows, on which alone `projVal` differs from the identity, so `=` is the stronger
      statement.

  Only property theorems and non-vacuity examples live here; the lemmas are in
  `RedkaModel/Proofs/Abs.lean` (tables against the abstraction, shared by all families) and
  `RedkaModel/Proofs/Str.lean`.
-/
import RedkaModel.Proofs.Float
import RedkaModel.Proofs.Round
import RedkaModel.Proofs.Str
import RedkaModel.Props.C17

namespace Redka.Props.C01

open Redka Redka.Model Redka.Spec

/-! ### the family and the classifiers of known deviations -/

/-- the operations of `DB.Str()`: all eight, float increment included (decided on the numeric
domain of `valueFloat` / `formatFloatDec`; outside it model and specification both say "not
decided" and change nothing) -/
def isStrOp : Op → Bool
  | .strGet _ | .strGetMany _ | .strSet .. | .strSetExpires .. | .strIncr .. | .strIncrFloat ..
  | .strSetMany _ | .strSetWith .. => true
  | _ => false

def IsStrOp (op : Op) : Prop := isStrOp op = true

instance (op : Op) : Decidable (IsStrOp op) := inferInstanceAs (Decidable (_ = true))

/-- D05, exactly as in `Spec.known`: some name the operation writes to is held by a stored row
whose expiry has passed -/
def Stale (op : Op) (now : Int) (db : DB) : Bool :=
  (Spec.writeKeys op).any (Spec.staleKey db now)

/-- D17, exactly as in `Spec.known`: the stored text is an integer and the exact sum does not fit
in int64 -/
def Overflow (op : Op) (now : Int) (db : DB) : Bool :=
  match op with
  | .strIncr k d =>
    (match Model.strGetRaw db k now with
     | some v => (match valueInt v with
       | some n => !inInt64 (n + d)
       | none => false)
     | none => false)
  | _ => false

/-- the increment argument is a Go `int` -/
def ArgsInRange : Op → Bool
  | .strIncr _ d => inInt64 d
  | _ => true

/-- The two classifiers are the entries D05 and D17 of the catalogue of known findings that the
driver consults (`Spec.known`), for every string operation. -/
theorem classifiers_are_the_catalogue : ∀ (inTx : Bool) (op : Op) (now : Int) (db : DB), IsStrOp op →
    Spec.known inTx op now db
      = (if Stale op now db then ["D05"] else []) ++ (if Overflow op now db then ["D17"] else []) := by
  intro inTx op now db hop
  unfold IsStrOp isStrOp at hop
  split at hop <;> first | (cases hop; done) | rfl | skip
  next k d =>
    simp only [Spec.known, Stale, Overflow]
    congr 1
    split
    · rename_i v h1
      split
      · rename_i n h2; simp [h1, h2]
      · rename_i h2; simp [h1, h2]
    · rename_i h1; simp [h1]

/-! ### the refinement theorem -/

/-- `str_refines_partial` (below) with `DB.WF` for the invariant: `DB.WF` is the consequence
of the invariant that the proof uses (unique names and ids, type tags in range, a value row for
every string key) and that every string operation preserves (`str_preserves_wf`), so sequences
(`str_seq_refines`) run on it. -/
theorem str_refines_wf : ∀ (op : Op) (now : Int) (db : DB),
    IsStrOp op → db.WF → ArgsInRange op = true → Stale op now db = false →
    Overflow op now db = false →
    let r := Model.dbRun op now db
    r.out = (Spec.step op now (Spec.abs now db)).out ∧
      Spec.abs now r.db = Spec.purge now (Spec.step op now (Spec.abs now db)).st := by
  intro op now db hop hw harg hst hov
  -- a one-name write is outside `Stale` when its name is not held by an expired row
  have hns : ∀ {k : Bytes}, Spec.writeKeys op = [k] → staleKey db now k = false := by
    intro k hk
    simpa [Stale, hk] using hst
  unfold IsStrOp isStrOp at hop
  split at hop
  · exact strGet_refines hw now _
  · exact strGetMany_refines hw now _
  · exact strSet_refines hw (hns rfl) _ none
  · exact strSet_refines hw (hns rfl) _ _
  · refine strIncr_refines hw (hns rfl) _ harg ?_
    intro b n hb hn
    simpa [Overflow, hb, hn] using hov
  · exact strIncrFloat_refines hw (hns rfl) _
  · next items =>
    have hns : ∀ p ∈ items, staleKey db now p.1 = false := by
      intro p hp
      simp only [Stale, writeKeys, List.any_map, List.any_eq_false] at hst
      simpa using hst p hp
    exact strSetMany_refines hw hns
  · exact strSetWith_refines hw (hns rfl) _ _
  · cases hop

/-- **C01, partial refinement.** One call of any string operation, on any table state satisfying
the structural invariant, for any arguments and any clock value, outside the classes `Stale`
(D05) and `Overflow` (D17): the model returns exactly what the in-memory map returns, and the
tables afterwards stand for exactly the map's new state (minus the keys whose newly assigned
expiry is already in the past).

All eight operations are covered, multi-set for any number of items in the given order (Go
iterates its map argument in an unspecified order; the driver tries every order) and multi-get
for any list of names.

The full-strength statement (without `Stale`, `Overflow`) is FALSE of the code: see
`stale_incr_deviates`, `stale_othertype_deviates`, `overflow_deviates`. -/
theorem str_refines_partial : ∀ (op : Op) (now : Int) (db : DB),
    IsStrOp op → db.Inv → ArgsInRange op = true → Stale op now db = false →
    Overflow op now db = false →
    let r := Model.dbRun op now db
    r.out = (Spec.step op now (Spec.abs now db)).out ∧
      Spec.abs now r.db = Spec.purge now (Spec.step op now (Spec.abs now db)).st :=
  fun op now db hop hinv => str_refines_wf op now db hop (DB.Inv.wf hinv)

/-! ### sequences of operations -/

/-- Every string operation keeps `DB.WF` (for every state and argument, deviation classes
included). -/
theorem str_preserves_wf : ∀ (op : Op) (now : Int) (db : DB), IsStrOp op → db.WF →
    (Model.dbRun op now db).db.WF := by
  intro op now db hop hw
  unfold IsStrOp isStrOp at hop
  split at hop
  · show (Model.strGet db _ now).db.WF
    unfold Model.strGet; split <;> exact hw
  · exact hw
  · exact update_pres hw (strSet_wf hw _ _ none now)
  · exact update_pres hw (strSet_wf hw _ _ _ now)
  · exact update_pres hw (strIncr_wf hw _ _ now)
  · exact update_pres hw (strIncrFloat_wf hw _ _ now)
  · exact update_pres hw (strSetMany_wf now _ db hw)
  · exact update_pres hw (strSetWith_wf hw _ _ _ now)
  · cases hop

/-- a run of timed calls on the tables: the results, and the tables at the end -/
def runModel : List (Op × Int) → DB → List Out × DB
  | [], db => ([], db)
  | (op, now) :: rest, db =>
    let r := Model.dbRun op now db
    let t := runModel rest r.db
    (r.out :: t.1, t.2)

/-- the same run on the in-memory map; a key disappears when the clock reaches its expiry -/
def runSpec : List (Op × Int) → State → List Out × State
  | [], s => ([], s)
  | (op, now) :: rest, s =>
    let r := Spec.step op now (Spec.purge now s)
    let t := runSpec rest (Spec.purge now r.st)
    (r.out :: t.1, t.2)

/-- no call of the run falls into a known deviation class, judged on the tables it meets -/
def CleanRun : List (Op × Int) → DB → Prop
  | [], _ => True
  | (op, now) :: rest, db =>
    IsStrOp op ∧ ArgsInRange op = true ∧ Stale op now db = false ∧ Overflow op now db = false ∧
      CleanRun rest (Model.dbRun op now db).db

/-- the clock does not run backwards -/
def ClockOk : Int → List (Op × Int) → Prop
  | _, [] => True
  | t, (_, now) :: rest => t ≤ now ∧ ClockOk now rest

def lastClock : Int → List (Op × Int) → Int
  | t, [] => t
  | _, (_, now) :: rest => lastClock now rest

/-- **C01 for sequences.** Any sequence of string operations at non-decreasing clock values,
started on tables satisfying the invariant and never meeting a known deviation class: every call
returns what the in-memory map returns, and at the end the tables stand for exactly the map. -/
theorem str_seq_refines : ∀ (tr : List (Op × Int)) (t : Int) (db : DB), db.WF → ClockOk t tr →
    CleanRun tr db →
    (runModel tr db).1 = (runSpec tr (Spec.abs t db)).1 ∧
      Spec.abs (lastClock t tr) (runModel tr db).2 = (runSpec tr (Spec.abs t db)).2
  | [], _, _, _, _, _ => ⟨rfl, rfl⟩
  | (op, now) :: rest, t, db, hw, hc, hcl => by
    obtain ⟨hop, harg, hst, hov, hrest⟩ := hcl
    obtain ⟨href1, href2⟩ := str_refines_wf op now db hop hw harg hst hov
    have ih := str_seq_refines rest now (Model.dbRun op now db).db
      (str_preserves_wf op now db hop hw) hc.2 hrest
    simp only [runModel, runSpec, lastClock]
    rw [← abs_mono hw.names hc.1, ← href1, ← href2]
    exact ⟨by rw [ih.1], ih.2⟩

/-- … in particular from any state satisfying the C11 invariant. -/
theorem str_seq_refines_inv : ∀ (tr : List (Op × Int)) (t : Int) (db : DB), db.Inv → ClockOk t tr →
    CleanRun tr db →
    (runModel tr db).1 = (runSpec tr (Spec.abs t db)).1 ∧
      Spec.abs (lastClock t tr) (runModel tr db).2 = (runSpec tr (Spec.abs t db)).2 :=
  fun tr t db hinv => str_seq_refines tr t db (DB.Inv.wf hinv)

/-! ### the property, clause by clause -/

/-- the name is not held — visibly or as an expired leftover — by a key of another type -/
def NoOtherType (db : DB) (k : Bytes) : Prop := ∀ r, db.findKey k = some r → r.ty = TString

/-- "…which a following get returns": a value that was set is the value read, byte for byte.
(No staleness condition: a plain set revives an expired string row correctly.) -/
theorem get_after_set : ∀ (k v : Bytes) (now : Int) (db : DB), db.Inv → NoOtherType db k →
    (Model.dbRun (.strGet k) now (Model.dbRun (.strSet k v) now db).db).out = .ok (.bytes v) := by
  intro k v now db hinv hno
  obtain ⟨db2, hu, hw2, ha⟩ := set_result (DB.Inv.wf hinv) hno v none now
  have hg : Spec.get (Spec.abs now db2) k = some ⟨.str v, none⟩ := by
    rw [ha, get_purge ((sorted_abs (DB.Inv.wf hinv).names now).put k _), get_put]
    simp [liveAt]
  show (Model.strGet (update (fun d => Model.strSet d k v none now) db).db k now).out = _
  rw [hu]
  simp [Model.strGet, strGetRaw_of_get hw2 hg, Res.ok]

/-- "An unconditional set replaces the value and clears the expiry": whatever was stored under
the name, with or without a time to live, afterwards the key holds `v` and never expires. -/
theorem plain_set_clears_ttl : ∀ (k v : Bytes) (now : Int) (db : DB), db.Inv → NoOtherType db k →
    Spec.get (Spec.abs now (Model.dbRun (.strSet k v) now db).db) k = some ⟨.str v, none⟩ := by
  intro k v now db hinv hno
  obtain ⟨db2, hu, _, ha⟩ := set_result (DB.Inv.wf hinv) hno v none now
  show Spec.get (Spec.abs now (update (fun d => Model.strSet d k v none now) db).db) k = _
  rw [hu, ha, get_purge_put_self (sorted_abs (DB.Inv.wf hinv).names now)]
  rfl

/-- "…unless asked to keep it": a set with `KeepTTL()` (and no `IfNotExists()`) on a visible
string replaces the bytes and leaves the expiry as it was. -/
theorem keepttl_preserves : ∀ (k v b : Bytes) (et : Option Int) (o : SetOpts) (now : Int) (db : DB),
    db.Inv → o.keepTTL = true → o.ifNotExists = false →
    Spec.get (Spec.abs now db) k = some ⟨.str b, et⟩ →
    Spec.get (Spec.abs now (Model.dbRun (.strSetWith k v o) now db).db) k = some ⟨.str v, et⟩ := by
  intro k v b et o now db hinv hk hnx hg
  have hw := DB.Inv.wf hinv
  obtain ⟨hlive, hns⟩ := get_abs_live hw hg
  have hlive : liveAt now et = true := hlive
  have ht := strSetWith_table hw hns v o
  simp only [hg, hnx, hk, Bool.false_eq_true, if_false, if_true] at ht
  show Spec.get (Spec.abs now (update (fun x => Model.strSetWith x k v o now) db).db) k = _
  rw [ht.2, get_purge_put_self (sorted_abs hw.names now), hlive, if_pos rfl]

/-- An increment of a visible numeric string, within range, returns the sum, stores its canonical
text and leaves the expiry as it was. -/
theorem incr_preserves_ttl : ∀ (k b : Bytes) (et : Option Int) (n d : Int) (now : Int) (db : DB),
    db.Inv → Spec.get (Spec.abs now db) k = some ⟨.str b, et⟩ → valueInt b = some n →
    inInt64 d = true → inInt64 (n + d) = true →
    (Model.dbRun (.strIncr k d) now db).out = .ok (.int (n + d)) ∧
    Spec.get (Spec.abs now (Model.dbRun (.strIncr k d) now db).db) k
      = some ⟨.str (itoa (n + d)), et⟩ := by
  intro k b et n d now db hinv hg hn hd hnd
  have hw := DB.Inv.wf hinv
  obtain ⟨hlive, hns⟩ := get_abs_live hw hg
  have hlive : liveAt now et = true := hlive
  have hraw := strGetRaw_of_get hw hg
  have href := str_refines_partial (.strIncr k d) now db rfl hinv hd
    (by simpa [Stale, writeKeys] using hns) (by simp [Overflow, hraw, hn, hnd])
  simp only [Spec.step, Spec.strIncr, hg, hn, Spec.ok] at href
  refine ⟨href.1, ?_⟩
  rw [href.2, get_purge_put_self (sorted_abs hw.names now), hlive, if_pos rfl]

/-- "…stores the canonical text of the sum, which a following get returns": whenever an increment
succeeds with result `m`, a following get returns the decimal text of `m`, and that text reads
back as `m`. (Holds with and without overflow; not for a stale name, see `stale_incr_deviates`.) -/
theorem incr_roundtrip : ∀ (k : Bytes) (d m : Int) (now : Int) (db : DB), db.Inv →
    Spec.staleKey db now k = false →
    (Model.dbRun (.strIncr k d) now db).out = .ok (.int m) →
    (Model.dbRun (.strGet k) now (Model.dbRun (.strIncr k d) now db).db).out = .ok (.bytes (itoa m)) ∧
    valueInt (itoa m) = some m := by
  intro k d m now db hinv hns hout
  obtain ⟨hraw, hrange⟩ := strIncr_ok (DB.Inv.wf hinv) hns hout
  refine ⟨?_, ?_⟩
  · show (Model.strGet (update (fun x => Model.strIncr x k d now) db).db k now).out = _
    simp [Model.strGet, hraw, Res.ok]
  · simp only [inInt64, Bool.and_eq_true] at hrange
    exact Redka.Props.C17.valueInt_itoa m (of_decide_eq_true hrange.1) (of_decide_eq_true hrange.2)

/-- "…fails without effect when it is not one": on a visible string that is not the text of an
integer the increment reports a value-type error and the tables are untouched. -/
theorem incr_nonnumeric_fails : ∀ (k b : Bytes) (et : Option Int) (d : Int) (now : Int) (db : DB),
    db.Inv → Spec.get (Spec.abs now db) k = some ⟨.str b, et⟩ → valueInt b = none →
    (Model.dbRun (.strIncr k d) now db).out = .error .valueType ∧
    (Model.dbRun (.strIncr k d) now db).db = db := by
  intro k b et d now db hinv hg hn
  have hraw := strGetRaw_of_get (DB.Inv.wf hinv) hg
  have hout : (Model.dbRun (.strIncr k d) now db).out = .error .valueType := by
    show (update (fun x => Model.strIncr x k d now) db).out = _
    simp [update, Model.strIncr, hraw, hn, Res.err]
  exact ⟨hout, update_error_db hout⟩

/-- A value-type error leaves no trace in the tables, whatever the state. -/
theorem incr_nonnumeric_notrace : ∀ (k : Bytes) (d : Int) (now : Int) (db : DB),
    (Model.dbRun (.strIncr k d) now db).out = .error .valueType →
    (Model.dbRun (.strIncr k d) now db).db = db :=
  fun _ _ _ _ h => update_error_db h

/-! ### float increment -/

/-- "an increment reads the stored text as a number": the number `parseFloatDec` reads from a
decimal text is the float64 NEAREST to the rational the text denotes, ties to even — what
`strconv.ParseFloat` documents. (`parseFloatDec` hands the rational `n · 10^e' ` to `ratRound53` as
`p / q`; `numAt p t / denAt q t` is `p · 2^t / q`.) For every positive rational. -/
theorem float_parse_correctly_rounded : ∀ (p q : Nat), 0 < p → 0 < q → ∀ x : Dyadic,
    ratRound53 p q = some x →
    ∃ (m : Nat) (t : Int), x = Dyadic.ofIntWithPrec (m : Int) t ∧ 2 ^ 52 ≤ m ∧ m ≤ 2 ^ 53 ∧
      2 * ((Round.numAt p t : Int) - (m : Int) * Round.denAt q t).natAbs ≤ Round.denAt q t ∧
      (2 * ((Round.numAt p t : Int) - (m : Int) * Round.denAt q t).natAbs = Round.denAt q t → m % 2 = 0) :=
  fun p q hp hq x h => Round.ratRound53_nearest p q hp hq x h

/-- "…and stores the canonical text of the sum": the float64 sum `f64add x d = round53 (x + d)` is the
exact sum rounded to the nearest float64, ties to even (IEEE 754 addition), for every dyadic sum. -/
theorem float_sum_correctly_rounded : ∀ (n k : Int) (hn : n % 2 = 1),
    (natBits n.natAbs ≤ 53 → round53 (.ofOdd n k hn) = .ofOdd n k hn) ∧
    (53 < natBits n.natAbs →
      ∃ (m sh : Nat), sh = natBits n.natAbs - 53 ∧
        round53 (.ofOdd n k hn) = Dyadic.ofIntWithPrec (if n < 0 then -(m : Int) else (m : Int)) (k - sh) ∧
        2 ^ 52 ≤ m ∧ m ≤ 2 ^ 53 ∧
        2 * ((n.natAbs : Int) - (m : Int) * (2 ^ sh : Nat)).natAbs ≤ 2 ^ sh ∧
        (2 * ((n.natAbs : Int) - (m : Int) * (2 ^ sh : Nat)).natAbs = 2 ^ sh → m % 2 = 0)) := by
  intro n k hn
  constructor
  · intro h
    simp only [round53, h, if_true]
  · intro h
    have hapos : 0 < n.natAbs := by omega
    generalize ha : n.natAbs = a at *
    generalize hsh : natBits a - 53 = sh
    obtain ⟨q1, q2⟩ := Round.quot53 (sh := sh) hapos (by omega)
    obtain ⟨hnr, hte, hor⟩ := Round.roundUp_nearest a (2 ^ sh) _ _ (Nat.pow_pos (by decide)) rfl rfl
    obtain ⟨b1, b2⟩ := Round.round_bounds hor q1 q2
    refine ⟨_, sh, rfl, ?_, b1, b2, hnr, hte⟩
    have hhalf : 2 ^ sh = 2 * 2 ^ (sh - 1) := by
      rw [Nat.mul_comm, ← Nat.pow_succ]; congr 1; omega
    simp only [round53, ha, Nat.not_le.2 h, if_false, hsh, Nat.shiftRight_eq_div_pow,
      Round.roundUp_half]
    rw [← hhalf]

/-- non-vacuity: 1/10 rounds to 3602879701896397 / 2^55 (the double written 0.1), 1/3 to an odd multiple -/
example : ratRound53 1 10 = some (Dyadic.ofIntWithPrec 3602879701896397 55) := by decide +kernel
example : (ratRound53 1 3).isSome = true ∧ ratRound53 1 (10 ^ 400) = none := by decide +kernel

/-- the text `formatFloatDec` prints is never empty and reads back (through `core.Value.Float`) as
the number printed -/
theorem valueFloat_format {v : Dyadic} {txt : Bytes} (h : formatFloatDec v = some txt) :
    valueFloat txt = .val v := by
  have hp := Redka.Float.parse_format v txt h
  unfold valueFloat
  cases txt with
  | nil =>
    have h0 : parseFloatDec [] = .invalid := by decide
    rw [h0] at hp; cases hp
  | cons c t => simpa using hp

/-- a float increment that the specification answers with a number stores the canonical text of
that number under the expiry the key had -/
theorem spec_incrFloat_ok {s : State} {k : Bytes} {d v : Dyadic}
    (h : (Spec.strIncrFloat s k d).out = .ok (.score (.fin v))) :
    ∃ txt, formatFloatDec v = some txt ∧
      (Spec.strIncrFloat s k d).st = Spec.put s k ⟨.str txt, (Spec.get s k).bind (·.etime)⟩ := by
  revert h
  unfold Spec.strIncrFloat
  split
  · next hg =>
    rw [hg]
    split
    · intro h; cases h
    · intro h; cases h
    · split
      · intro h; cases h
      · intro h; cases h; exact ⟨_, ‹_›, rfl⟩
  · intro h; cases h
  · next hg =>
    rw [hg]
    split
    · intro h; cases h
    · intro h; cases h; exact ⟨_, ‹_›, rfl⟩

/-- "…stores the canonical text of the sum, which a following get returns", for the float
increment: whenever `IncrFloat` succeeds with result `v` (on a name that is not stale), the key
then holds the decimal text of `v`, that text reads back as exactly `v` (so the next float
increment starts from the sum), and the expiry is what it was. -/
theorem incrfloat_roundtrip : ∀ (k : Bytes) (d v : Dyadic) (now : Int) (db : DB), db.Inv →
    Spec.staleKey db now k = false →
    (Model.dbRun (.strIncrFloat k d) now db).out = .ok (.score (.fin v)) →
    ∃ txt, formatFloatDec v = some txt ∧ valueFloat txt = .val v ∧
      (Spec.get (Spec.abs now (Model.dbRun (.strIncrFloat k d) now db).db) k).map (·.val) = some (.str txt) ∧
      (Spec.get (Spec.abs now (Model.dbRun (.strIncrFloat k d) now db).db) k).map (·.etime)
        = some ((Spec.get (Spec.abs now db) k).bind (·.etime)) := by
  intro k d v now db hinv hns hout
  have hw := DB.Inv.wf hinv
  have href := str_refines_partial (.strIncrFloat k d) now db rfl hinv rfl
    (by simpa [Stale, writeKeys] using hns) rfl
  simp only [Spec.step] at href
  rw [hout] at href
  obtain ⟨txt, hf, hst⟩ := spec_incrFloat_ok href.1.symm
  have hlive : liveAt now ((Spec.get (Spec.abs now db) k).bind (·.etime)) = true := by
    cases hg : Spec.get (Spec.abs now db) k with
    | none => rfl
    | some e => exact (get_abs_live hw hg).1
  have hget := href.2.trans (congrArg (Spec.purge now) hst)
  refine ⟨txt, hf, valueFloat_format hf, ?_, ?_⟩ <;>
    rw [hget, get_purge_put_self (sorted_abs hw.names now), hlive] <;> rfl

/-- "…fails without effect when it is not one", for the float increment: a value-type error
leaves no trace in the tables, whatever the state. -/
theorem incrfloat_nonnumeric_notrace : ∀ (k : Bytes) (d : Dyadic) (now : Int) (db : DB),
    (Model.dbRun (.strIncrFloat k d) now db).out = .error .valueType →
    (Model.dbRun (.strIncrFloat k d) now db).db = db :=
  fun _ _ _ _ h => update_error_db h

def outScore : Out → Option Score
  | .ok (.score s) => some s
  | _ => none

/-- non-vacuity: "1.5" + 0.25 on a live key stores "1.75" and returns 1.75 -/
example :
    let db : DB := { keys := [⟨1, [107], 1, 1, none, 5, none⟩], strs := [⟨1, [49, 46, 53]⟩] }
    outScore (Model.dbRun (.strIncrFloat [107] (Dyadic.ofIntWithPrec 1 2)) 10 db).out
        = some (.fin (Dyadic.ofIntWithPrec 7 2)) ∧
      Model.strGetRaw (Model.dbRun (.strIncrFloat [107] (Dyadic.ofIntWithPrec 1 2)) 10 db).db [107] 10
        = some [49, 46, 55, 53] := by
  decide +kernel

/-! ### the decision table of the conditional set -/

/-- **The decision logic of `SetCmd.run` (`internal/rstring/set.go`), stated outright on the
model**, for every option record (`IfExists`, `IfNotExists`, `TTL`, `At`, `KeepTTL` in any
combination, also the ones the builder methods cannot produce), every key, value, clock value and
table state satisfying the invariant, the name not being a stale leftover (D05).

Read `r.out = .ok (.list [prev, created, updated])` as `SetOut{Prev, Created, Updated}`;
`r.db = db` says that no table row changed; the last line of a branch gives the keyspace the
tables stand for afterwards: the old one with `k ↦ (v, expiry)`, the key being gone at once when
that expiry is not in the future (`purge`).

  * the key does not exist: `IfExists` → nothing happens, `(nil, false, false)`; otherwise it is
    created, `(nil, true, false)`, expiring at `now + ttl` if `ttl > 0`, else at `At` if given,
    else never — and never with `KeepTTL` (there is no expiry to keep);
  * the key is a string `prev`: `IfNotExists` → nothing happens, `(prev, false, false)`; otherwise
    it is overwritten, `(prev, false, true)`, with the new expiry as above, or its old expiry
    with `KeepTTL`;
  * the key is of another type: `IfExists` → nothing happens, `(nil, false, false)` (for the
    command "the key exists" means "a string exists"); otherwise `ErrKeyType`, nothing happens. -/
theorem setcmd_matrix : ∀ (o : SetOpts) (k v : Bytes) (now : Int) (db : DB), db.Inv →
    Spec.staleKey db now k = false →
    let r := Model.dbRun (.strSetWith k v o) now db
    let newExpiry : Option Int := if o.ttl > 0 then some (now + o.ttl) else o.atMs
    let s := Spec.abs now db
    match Spec.get s k with
    | none =>
      if o.ifExists then r.out = .ok (.list [.nil, .bool false, .bool false]) ∧ r.db = db
      else r.out = .ok (.list [.nil, .bool true, .bool false]) ∧
        Spec.abs now r.db
          = Spec.purge now (Spec.put s k ⟨.str v, if o.keepTTL then none else newExpiry⟩)
    | some ⟨.str prev, oldExpiry⟩ =>
      if o.ifNotExists then r.out = .ok (.list [.bytes prev, .bool false, .bool false]) ∧ r.db = db
      else r.out = .ok (.list [.bytes prev, .bool false, .bool true]) ∧
        Spec.abs now r.db
          = Spec.purge now (Spec.put s k ⟨.str v, if o.keepTTL then oldExpiry else newExpiry⟩)
    | some _ =>
      if o.ifExists then r.out = .ok (.list [.nil, .bool false, .bool false]) ∧ r.db = db
      else r.out = .error .keyType ∧ r.db = db :=
  fun o _ v _ _ hinv hns => strSetWith_table (DB.Inv.wf hinv) hns v o

/-! ### the deviations are real -/

def bK : Bytes := [107]          -- "k"
def bV : Bytes := [118]          -- "v"

/-- one string key "k" = "5" whose expiry (5) has passed at `now = 10`, not yet cleaned up -/
def dbStaleStr : DB :=
  { keys := [{ id := 1, key := bK, ty := 1, version := 1, etime := some 5, mtime := 0, len := none }],
    strs := [{ kid := 1, value := [53] }] }

/-- one list key "k" = ["a"] whose expiry has passed, not yet cleaned up -/
def dbStaleList : DB :=
  { keys := [{ id := 1, key := bK, ty := 2, version := 1, etime := some 5, mtime := 0, len := some 1 }],
    lists := [{ kid := 1, pos := 0, elem := [97] }] }

/-- one string key "k" = "9223372036854775807" -/
def dbMaxInt : DB :=
  { keys := [{ id := 1, key := bK, ty := 1, version := 1, etime := none, mtime := 0, len := none }],
    strs := [{ kid := 1, value := [57,50,50,51,51,55,50,48,51,54,56,53,52,55,55,53,56,48,55] }] }

def outInt : Out → Option Int
  | .ok (.int m) => some m
  | _ => none

theorem out_of_outInt {o : Out} {m : Int} (h : outInt o = some m) : o = .ok (.int m) := by
  cases o with
  | error e => simp [outInt] at h
  | ok v => cases v <;> simp_all [outInt]

/-- D05 is real (increment). The key "k" expired at 5; at 10 it does not exist, so an increment
by 1 must create "k" = "1" without expiry. The model (like the code) answers 1 but reuses the
expired row and keeps its old expiry: the key still does not exist afterwards. -/
theorem stale_incr_deviates :
    dbStaleStr.Inv ∧ Stale (.strIncr bK 1) 10 dbStaleStr = true ∧
    Overflow (.strIncr bK 1) 10 dbStaleStr = false ∧
    (Model.dbRun (.strIncr bK 1) 10 dbStaleStr).out = .ok (.int 1) ∧
    Spec.get (Spec.abs 10 (Model.dbRun (.strIncr bK 1) 10 dbStaleStr).db) bK = none ∧
    Spec.get (Spec.purge 10 (Spec.step (.strIncr bK 1) 10 (Spec.abs 10 dbStaleStr)).st) bK
      = some ⟨.str [49], none⟩ := by
  refine ⟨by unfold DB.Inv; decide, by decide, by decide, by rfl, by decide, by decide +kernel⟩

/-- D05 is real (other type). The list "k" expired at 5; at 10 the name is free, so a set must
succeed. The model (like the code) runs into the expired list row and answers `ErrKeyType`. -/
theorem stale_othertype_deviates :
    dbStaleList.Inv ∧ Stale (.strSet bK bV) 10 dbStaleList = true ∧
    (Model.dbRun (.strSet bK bV) 10 dbStaleList).out = .error .keyType ∧
    (Spec.step (.strSet bK bV) 10 (Spec.abs 10 dbStaleList)).out = .ok .nil := by
  refine ⟨by unfold DB.Inv; decide, by decide, by rfl, by rfl⟩

/-- D17 is real. 9223372036854775807 + 1: the map answers 9223372036854775808, the model (like
Go's `int` addition) wraps around to -9223372036854775808. -/
theorem overflow_deviates :
    dbMaxInt.Inv ∧ Stale (.strIncr bK 1) 10 dbMaxInt = false ∧
    Overflow (.strIncr bK 1) 10 dbMaxInt = true ∧
    (Model.dbRun (.strIncr bK 1) 10 dbMaxInt).out = .ok (.int (-9223372036854775808)) ∧
    (Spec.step (.strIncr bK 1) 10 (Spec.abs 10 dbMaxInt)).out = .ok (.int 9223372036854775808) := by
  refine ⟨by unfold DB.Inv; decide, by decide, by decide +kernel,
    out_of_outInt (by decide +kernel), out_of_outInt (by decide +kernel)⟩

/-- Hence the refinement statement without the two classifiers is false. -/
theorem full_strength_is_false :
    ¬ (∀ (op : Op) (now : Int) (db : DB), IsStrOp op → db.Inv → ArgsInRange op = true →
        (Model.dbRun op now db).out = (Spec.step op now (Spec.abs now db)).out ∧
        Spec.abs now (Model.dbRun op now db).db
          = Spec.purge now (Spec.step op now (Spec.abs now db)).st) := by
  intro h
  have h1 := (h (.strSet bK bV) 10 dbStaleList rfl stale_othertype_deviates.1 rfl).1
  rw [stale_othertype_deviates.2.2.1, stale_othertype_deviates.2.2.2] at h1
  cases h1

/-- `ArgsInRange` is needed only because `Op.strIncr` carries an unbounded integer where Go has
an `int`: an "increment by 2^63" of a missing key wraps in the model. -/
theorem incr_arg_out_of_range :
    ArgsInRange (.strIncr bK 9223372036854775808) = false ∧
    (Model.dbRun (.strIncr bK 9223372036854775808) 10 {}).out = .ok (.int (-9223372036854775808)) ∧
    (Spec.step (.strIncr bK 9223372036854775808) 10 (Spec.abs 10 {})).out
      = .ok (.int 9223372036854775808) := by
  refine ⟨by decide, out_of_outInt (by decide +kernel), out_of_outInt (by decide +kernel)⟩

/-! ### non-vacuity: the hypotheses are satisfiable for every kind of operation -/

def bA : Bytes := [97]           -- "a"
def bB : Bytes := [98]           -- "b"
def bL : Bytes := [108]          -- "l"
def bN : Bytes := [110]          -- "n", not stored

/-- a live string "a" = "41", a live string "b" = "x" that expires at 100, a list "l" = ["e"] -/
def demo : DB :=
  { keys := [
      { id := 1, key := bA, ty := 1, version := 1, etime := none, mtime := 0, len := none },
      { id := 2, key := bB, ty := 1, version := 3, etime := some 100, mtime := 0, len := none },
      { id := 3, key := bL, ty := 2, version := 1, etime := none, mtime := 0, len := some 1 }],
    strs := [{ kid := 1, value := [52, 49] }, { kid := 2, value := [120] }],
    lists := [{ kid := 3, pos := 0, elem := [101] }] }

example : demo.Inv := by unfold DB.Inv; decide

/-- every hypothesis of `str_refines_partial` holds for an operation of each kind on `demo` -/
example : ∀ op ∈ [Op.strGet bA, .strGet bL, .strGetMany [bA, bB, bL, bN], .strSet bA bV,
      .strSet bL bV, .strSetExpires bN bV 50, .strIncr bA 1, .strIncr bB 1, .strIncr bN (-7),
      .strSetMany [(bA, bV), (bN, bV), (bA, bB)], .strSetMany [(bN, bV), (bL, bV)],
      .strSetWith bB bV { keepTTL := true }, .strSetWith bN bV { ifExists := true },
      .strSetWith bA bV { ifNotExists := true, ttl := 5 }, .strSetWith bL bV { atMs := some 3 }],
    IsStrOp op ∧ ArgsInRange op = true ∧ Stale op 10 demo = false ∧ Overflow op 10 demo = false := by
  decide +kernel

/-- the theorem instantiated: the increment of "a" = "41" on `demo` -/
example :
    (Model.dbRun (.strIncr bA 1) 10 demo).out = .ok (.int 42) ∧
    Spec.get (Spec.abs 10 (Model.dbRun (.strIncr bA 1) 10 demo).db) bA = some ⟨.str [52, 50], none⟩ :=
  incr_preserves_ttl bA [52, 49] none 41 1 10 demo (by unfold DB.Inv; decide) (by decide) (by decide)
    (by decide) (by decide) |> fun h => ⟨h.1, by rw [h.2]; decide +kernel⟩

/-- the table instantiated: `Set("b", "v").KeepTTL()` keeps the expiry 100 of "b" -/
example :
    Spec.get (Spec.abs 10 (Model.dbRun (.strSetWith bB bV { keepTTL := true }) 10 demo).db) bB
      = some ⟨.str bV, some 100⟩ :=
  keepttl_preserves bB bV [120] (some 100) { keepTTL := true } 10 demo (by unfold DB.Inv; decide)
    rfl rfl (by decide)

/-- a run on `demo` that satisfies the hypotheses of `str_seq_refines`: set, increment twice with
the clock advancing, conditional set, multi-get -/
def demoRun : List (Op × Int) :=
  [(.strSet bN [55], 10), (.strIncr bN 1, 11), (.strIncr bA (-1), 11),
   (.strSetWith bB bV { keepTTL := true }, 12), (.strGetMany [bA, bB, bN], 200)]

instance decCleanRun : ∀ tr db, Decidable (CleanRun tr db)
  | [], _ => isTrue trivial
  | (op, now) :: rest, db =>
    have := decCleanRun rest (Model.dbRun op now db).db
    inferInstanceAs (Decidable (_ ∧ _ ∧ _ ∧ _ ∧ _))

instance decClockOk : ∀ t tr, Decidable (ClockOk t tr)
  | _, [] => isTrue trivial
  | t, (_, now) :: rest =>
    have := decClockOk now rest
    inferInstanceAs (Decidable (t ≤ now ∧ ClockOk now rest))

example : ClockOk 10 demoRun ∧ CleanRun demoRun demo := by decide +kernel

/-- at 200 the key "b" (expiry 100) is gone; "n" went 7 → 8, "a" 41 → 40 -/
example : (runSpec demoRun (Spec.abs 10 demo)).2
    = [(bA, ⟨.str [52, 48], none⟩), (bL, ⟨.list [[101]], none⟩), (bN, ⟨.str [56], none⟩)] := by
  decide +kernel

end Redka.Props.C01
