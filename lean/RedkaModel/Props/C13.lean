/-
  C13 — command parsing.

  "…malformed invocations are answered with an error reply and change nothing. Command names and
  option keywords are recognised regardless of letter case, optional arguments are accepted in any
  order Redis accepts, and a value that happens to spell a keyword is still treated as a value."

  The statements are about the Lean model of `internal/parser` (`Model/Wire/Parser.lean`: the
  thirteen combinators as an interpreter over grammar descriptions), about the grammars REGENERATED
  from the Go source (`Generated/Grammar.lean`), about `command.Parse` (`Cmd/Parse.lean`) and about
  the handler chain (`Server.lean`). They hold for EVERY grammar built from the combinators and
  EVERY argument vector unless a statement names a generated table, in which case it is checked
  over that table by kernel evaluation.

  D11 (`parser.StringsN` panicked on a negative count) has been repaired in the Go tree; the model
  has no panic source left: `parser_total_no_panic` (every grammar, every argument vector),
  `parse_never_panics` (every request), `stringsN_refuses_iff`, `negative_numkeys_is_refused`;
  `grammars_with_stringsN` records where `StringsN` occurs.
  Known deviations of the real code, reproduced by the model, and how they show up here:
    D13  (repaired) `parser.Enum` and the CONFIG sub-command fold case → `enum_case_insensitive`,
         `enum_folds_case`, `grammars_with_enum`, `config_subcommand_folds_case`
    D20  `SET k v EX 0` is accepted as "no expiry" → `set_ex_zero_accepted`
  Only property theorems and non-vacuity examples live here; the lemmas are in
  `RedkaModel/Proofs/WireParser.lean`, `WireTable.lean`, `WirePanic.lean`, `WireReply.lean`,
  `WireOrder.lean`; the closed examples parse through `witnessRows` of `WireEval.lean`.
-/
import RedkaModel.Proofs.WireParser
import RedkaModel.Proofs.WireTable
import RedkaModel.Proofs.WirePanic
import RedkaModel.Proofs.WireReply
import RedkaModel.Proofs.WireOrder
import RedkaModel.Proofs.WireEval

namespace Redka.Props.C13

open Redka Redka.Wire Redka.WireProofs

/-! ### A.1 the pipeline is total: nothing panics -/

/-- **No grammar can panic, whatever the arguments** — any grammar built from the thirteen
combinators, `StringsN` included. -/
theorem parser_total_no_panic :
    ∀ (g : Grammar) (args : List Bytes), runGrammar g args ≠ .panic :=
  runGrammar_ne_panic

/-- `parser.StringsN` answers `ErrInvalidArgNum` exactly when something is left to parse and the
count slot, parsed earlier, is negative or larger than what is left … -/
theorem stringsN_refuses_iff :
    ∀ (slot nSlot : String) (args : List Bytes) (env : Env) (e : PErr),
      runP (.stringsN slot nSlot) args env = .fail e ↔
        e = .invalidArgNum ∧ args ≠ [] ∧
          (getInt env nSlot < 0 ∨ (args.length : Int) < getInt env nSlot) :=
  stringsN_fail_iff

/-- … in particular a negative count is refused (it used to panic in `make([]string, n)`: D11). -/
theorem stringsN_negative_refused :
    ∀ (slot nSlot : String) (args : List Bytes) (env : Env), args ≠ [] → getInt env nSlot < 0 →
      runP (.stringsN slot nSlot) args env = .fail .invalidArgNum :=
  WireProofs.stringsN_negative_refused

/-- Over the generated table: the grammars that contain `StringsN` are exactly the four
`numkeys` parsers. -/
theorem grammars_with_stringsN :
    grammarsWhere (fun g => hasStringsNL g.parsers) =
      ["zset.ParseZInter", "zset.ParseZInterStore", "zset.ParseZUnion", "zset.ParseZUnionStore"] :=
  stringsN_table

/-- The former D11 witness: the arguments `-1 k1` of `ZINTER` end in `ErrInvalidArgNum`. -/
theorem negative_numkeys_is_refused :
    isError .invalidArgNum (runGrammar Generated.grammar_ZInter [asciiBytes "-1", asciiBytes "k1"]) = true :=
  WireProofs.negative_numkeys_is_refused

/-- **`command.Parse` never panics**: every request, any command name, any arguments. -/
theorem parse_never_panics : ∀ req : List Bytes, ¬ poIsPanic (parse req) := by
  intro req h
  rw [parse_noPanic req] at h
  cases h

/-- no generated grammar contains a construct the extractor did not recognise -/
theorem no_unknown_constructs : grammarsWhere (fun g => hasUnknownL g.parsers) = [] :=
  unknown_table

/-! ### A.2 keywords and command names fold ASCII case -/

/-- `strings.EqualFold` as used for keywords is invariant under lower-casing either side … -/
theorem equalFold_ascii_lower :
    ∀ a n : Bytes, equalFold (a.map lowerAscii) n = equalFold a n ∧
      equalFold a (n.map lowerAscii) = equalFold a n :=
  WireProofs.equalFold_ascii_lower

/-- … and under upper-casing either side … -/
theorem equalFold_ascii_upper :
    ∀ a n : Bytes, equalFold (a.map upperAscii) n = equalFold a n ∧
      equalFold a (n.map upperAscii) = equalFold a n :=
  WireProofs.equalFold_ascii_upper

/-- … and, generally, under any change of ASCII case of the argument. -/
theorem equalFold_case_variant :
    ∀ (a a' : Bytes), CaseVariant a a' → ∀ n, equalFold a n = equalFold a' n :=
  fun _ _ h n => equalFold_caseVariant_left h n

/-- `Flag` and `Named` fire on `args[0]` iff it folds onto the name. -/
theorem flags_case_insensitive :
    (∀ (name dest : String) (a : Bytes) (r : List Bytes) (env : Env),
      runP (.flag name dest) (a :: r) env =
        if equalFold a (asciiBytes name) then .ret true r (setSlot env dest (.bool true))
        else .ret false (a :: r) env) ∧
    (∀ (name : String) (ps : List P) (a : Bytes) (r : List Bytes) (env : Env),
      runP (.named name ps) (a :: r) env =
        if equalFold a (asciiBytes name) then runNamed ps r env 0 ps.length
        else .ret false (a :: r) env) :=
  ⟨flag_step, named_step⟩

/-- **Option keywords are recognised regardless of letter case.** Whenever `Pipeline.Run` stands
before an argument `a` with only keyword-guarded parsers left (`Flag`, `Named`, `OneOf` of these,
nested to any depth), replacing `a` by any ASCII case variant does not change the outcome — the
slot environment on success, the error otherwise. -/
theorem keyword_case_insensitive :
    ∀ (fuel : Nat) (ps : List P), kwGuardedL ps = true →
      ∀ (a a' : Bytes), CaseVariant a a' → ∀ (r : List Bytes) (env : Env),
        runLoop fuel ps (a' :: r) env = runLoop fuel ps (a :: r) env :=
  runLoop_caseVariant

/-- The same for a whole grammar `positional values ++ options`: the first option keyword. -/
theorem keyword_case_insensitive_grammar :
    ∀ (g : Grammar), kwGuardedL (optTail g) = true →
      ∀ (vals : List Bytes), vals.length = positionalPrefix g →
        ∀ (a a' : Bytes), CaseVariant a a' → ∀ r : List Bytes,
          runGrammar g (vals ++ a' :: r) = runGrammar g (vals ++ a :: r) :=
  runGrammar_caseVariant

/-- **Command names are recognised regardless of letter case.** -/
theorem command_name_case_insensitive :
    ∀ (a a' : Bytes), CaseVariant a a' → ∀ rest : List Bytes, parse (a' :: rest) = parse (a :: rest) :=
  parse_name_caseVariant

/-- D13 (repaired in the Go tree): `parser.Enum` folds case and keeps the lowered value — `BEFORE`,
`Before` and `before` all select `before`; a value outside the list is a syntax error. -/
theorem enum_folds_case :
    storedBytes "where" (runP (.enum "where" ["before", "after"]) [asciiBytes "BEFORE"] []) = some (asciiBytes "before") ∧
    storedBytes "where" (runP (.enum "where" ["before", "after"]) [asciiBytes "Before"] []) = some (asciiBytes "before") ∧
    storedBytes "where" (runP (.enum "where" ["before", "after"]) [asciiBytes "before"] []) = some (asciiBytes "before") ∧
    isFail .syntaxError (runP (.enum "where" ["before", "after"]) [asciiBytes "BEFOR"] []) = true :=
  WireProofs.enum_folds_case

/-- **`Enum` values are recognised regardless of letter case**, for every list of allowed values and every
ASCII argument: the argument and its upper/lower-case variants run identically. -/
theorem enum_case_insensitive : ∀ (slot : String) (allowed : List String) (a a' : Bytes) (rest : List Bytes) (env : Env),
    a.all (· < 128) = true → a'.all (· < 128) = true → a.map lowerAscii = a'.map lowerAscii →
    runP (.enum slot allowed) (a :: rest) env = runP (.enum slot allowed) (a' :: rest) env := by
  intro slot allowed a a' rest env ha ha' h
  simp only [runP, enumLower, ha, ha', if_true, h]

/-- D13: the generated grammars that contain `Enum` (SCAN TYPE, LINSERT BEFORE|AFTER, AGGREGATE). -/
theorem grammars_with_enum :
    grammarsWhere (fun g => hasEnumL g.parsers) =
      ["key.ParseScan", "list.ParseLInsert", "zset.ParseZInter", "zset.ParseZInterStore",
       "zset.ParseZUnion", "zset.ParseZUnionStore"] :=
  enum_table

/-! ### A.3 positional values are values, whatever they spell -/

/-- **The positional prefix.** With `n = positionalPrefix g` leading `String`/`Bytes`/`Int`/`Float`
parsers and at least `n` arguments, `Pipeline.Run` binds the first `n` arguments to those slots
(`bindPos`: no keyword is consulted) and runs the option loop on the remaining arguments only. -/
theorem positional_prefix :
    ∀ (g : Grammar) (args : List Bytes), positionalPrefix g ≤ args.length → g.required ≤ args.length →
      runGrammar g args =
        match bindPos (posParsers g) (args.take (positionalPrefix g)) [] with
        | .ok env => runLoop (optTail g).length (optTail g) (args.drop (positionalPrefix g)) env
        | .error o => o :=
  runGrammar_positional

/-- **A value that happens to spell a keyword is still treated as a value.** In a successful run
of a grammar with distinct slot names, the `k`-th positional slot holds what its parser made of
the `k`-th argument and nothing else … -/
theorem positional_value_is_value :
    ∀ (g : Grammar) (args : List Bytes) (env : Env), (slotsOfL g.parsers).Nodup →
      positionalPrefix g ≤ args.length → runGrammar g args = .ok env →
      ∀ (k : Nat) (p : P) (a : Bytes), (posParsers g)[k]? = some p → args[k]? = some a →
        ∃ s v, posVal p a = .ok (s, v) ∧ getSlot env s = some v :=
  positional_bound

/-- … for a `String` or `Bytes` parser: the argument itself, byte for byte. -/
theorem positional_string_is_verbatim :
    ∀ (g : Grammar) (args : List Bytes) (env : Env), (slotsOfL g.parsers).Nodup →
      positionalPrefix g ≤ args.length → runGrammar g args = .ok env →
      ∀ (k : Nat) (s : String) (a : Bytes),
        ((posParsers g)[k]? = some (.string s) ∨ (posParsers g)[k]? = some (.bytes s)) →
        args[k]? = some a → getBytes env s = a := by
  intro g args env hnd hn hok k s a hp ha
  rcases hp with hp | hp <;>
  · obtain ⟨s', v, hv, hg⟩ := positional_bound g args env hnd hn hok k _ a hp ha
    simp only [posVal, Except.ok.injEq, Prod.mk.injEq] at hv
    obtain ⟨rfl, rfl⟩ := hv
    simp [getBytes, hg]

/-- Over the generated table: slot names are pairwise distinct in every grammar, and every grammar
with a slot `key` starts with `parser.String(&cmd.key)` — the key is always positional. -/
theorem key_is_positional :
    Generated.grammars.all (fun r => decide (slotsOfL r.2.2.parsers).Nodup) = true ∧
    Generated.grammars.all (fun r =>
      !(slotsOfL r.2.2.parsers).contains "key" || (slotsOfL (posParsers r.2.2)).contains "key") = true ∧
    Generated.grammars.all (fun r => !(slotsOfL r.2.2.parsers).contains "key" || firstIsKey r.2.2) = true :=
  ⟨slots_nodup_table, key_positional_table, key_first_table⟩

/-- The value of a `Named` option is a value too: after `MATCH`, the next argument is the pattern
even when it spells `count`. -/
theorem named_value_is_value :
    ∀ (name slot : String) (kw v : Bytes) (r : List Bytes) (env : Env),
      equalFold kw (asciiBytes name) = true →
      runP (.named name [.string slot]) (kw :: v :: r) env = .ret true r (setSlot env slot (.bytes v)) :=
  named_string_value

/-! ### A.4 optional arguments in any order

No counterexample to order-independence was found in the model: the value of a `Named` option is
consumed inside `Named` and is never looked at as a keyword (`named_value_is_value`). The one
interaction is the look-ahead of `OneOf`, whose later alternatives are tried on what FOLLOWS the
group it consumed; the theorem therefore asks that what follows the two swapped groups does not
start with another keyword of the two parsers involved (`hrest`). When that fails both orders end in
the same syntax error in every instance we evaluated (see the examples); the general proof of that
case is not done. -/

/-- **Options in any order** (state form). The remaining parsers are `A ++ p₁ :: B ++ p₂ :: C`, all
keyword-guarded; `p₁` consumes the group `a₁ :: v₁`, `p₂` the group `a₂ :: v₂` (`Consumes`: from the
front of any argument vector whose next argument is not another of its keywords); no other remaining
parser knows the keywords `a₁`, `a₂` (pairwise distinct keywords); the groups write different slots
(`hcomm`). Then `Pipeline.Run` ends the same way — the same value in every slot on success, the same
error otherwise — whichever of the two groups comes first. -/
theorem options_any_order :
    ∀ (A B C : List P) (p1 p2 : P), kwGuardedL (A ++ p1 :: B ++ p2 :: C) = true →
    ∀ (a1 : Bytes) (v1 : List Bytes) (a2 : Bytes) (v2 : List Bytes) (U1 U2 : Env → Env),
      Consumes p1 (a1 :: v1) U1 → Consumes p2 (a2 :: v2) U2 →
      (∀ q ∈ A ++ B ++ p2 :: C, kwMatch q a1 = false) →
      (∀ q ∈ A ++ p1 :: B ++ C, kwMatch q a2 = false) →
    ∀ rest : List Bytes, (∀ x, rest.head? = some x → kwMatch p1 x = false ∧ kwMatch p2 x = false) →
      (∀ e, EnvEq (U2 (U1 e)) (U1 (U2 e))) →
    ∀ (fuel : Nat) (env : Env),
      OutcomeEq (runLoop (fuel + 2) (A ++ p1 :: B ++ p2 :: C) (a1 :: v1 ++ (a2 :: v2 ++ rest)) env)
        (runLoop (fuel + 2) (A ++ p1 :: B ++ p2 :: C) (a2 :: v2 ++ (a1 :: v1 ++ rest)) env) :=
  swap_adjacent_groups

/-- The same for a whole grammar `positional values ++ options`. -/
theorem options_any_order_grammar :
    ∀ (g : Grammar) (A B C : List P) (p1 p2 : P), optTail g = A ++ p1 :: B ++ p2 :: C →
      kwGuardedL (optTail g) = true →
    ∀ (a1 : Bytes) (v1 : List Bytes) (a2 : Bytes) (v2 : List Bytes) (U1 U2 : Env → Env),
      Consumes p1 (a1 :: v1) U1 → Consumes p2 (a2 :: v2) U2 →
      (∀ q ∈ A ++ B ++ p2 :: C, kwMatch q a1 = false) →
      (∀ q ∈ A ++ p1 :: B ++ C, kwMatch q a2 = false) →
    ∀ rest : List Bytes, (∀ x, rest.head? = some x → kwMatch p1 x = false ∧ kwMatch p2 x = false) →
      (∀ e, EnvEq (U2 (U1 e)) (U1 (U2 e))) →
    ∀ vals : List Bytes, vals.length = positionalPrefix g →
      OutcomeEq (runGrammar g (vals ++ (a1 :: v1 ++ (a2 :: v2 ++ rest))))
        (runGrammar g (vals ++ (a2 :: v2 ++ (a1 :: v1 ++ rest)))) :=
  runGrammar_swap

/-- Which combinators consume which groups: a `Flag` its keyword; a `Named` with positional body its
keyword and one value per body parser (whatever the values spell); a `Named` with an `Enum` body its
keyword and an allowed value in any letter case (the slot receives the lowered value); a `OneOf` what one alternative consumes. These cover every option of
every generated grammar. -/
theorem option_groups :
    (∀ (name slot : String) (kw : Bytes), equalFold kw (asciiBytes name) = true →
      Consumes (.flag name slot) [kw] (fun e => setSlot e slot (.bool true))) ∧
    (∀ (name : String) (body : List P), (∀ q ∈ body, isPositional q = true) →
      ∀ (kw : Bytes), equalFold kw (asciiBytes name) = true →
      ∀ (vals : List Bytes), vals.length = body.length →
      ∀ (U : Env → Env), (∀ env, bindPos body vals env = .ok (U env)) →
        Consumes (.named name body) (kw :: vals) U) ∧
    (∀ (name slot : String) (allowed : List String) (kw v l : Bytes),
      equalFold kw (asciiBytes name) = true → enumLower allowed v = some l →
      allowed.any (fun s => asciiBytes s == l) = true →
        Consumes (.named name [.enum slot allowed]) [kw, v] (fun e => setSlot e slot (.bytes l))) ∧
    (∀ (A : List P) (p : P) (B : List P), kwGuardedL (A ++ B) = true →
      ∀ (a : Bytes) (v : List Bytes) (U : Env → Env), Consumes p (a :: v) U →
        (∀ q ∈ A ++ B, kwMatch q a = false) → Consumes (.oneOf (A ++ p :: B)) (a :: v) U) :=
  ⟨consumes_flag, consumes_named, consumes_named_enum, consumes_oneOf⟩

/-- Equal slot values give the same command object: every accessor used by `Cmd/Parse.lean`
respects `EnvEq`. -/
theorem envEq_same_fields :
    ∀ (e e' : Env), EnvEq e e' → ∀ k, getBytes e k = getBytes e' k ∧ getInt e k = getInt e' k ∧
      getBool e k = getBool e' k ∧ getFloat e k = getFloat e' k ∧ getList e k = getList e' k :=
  fun _ _ h k => ⟨h.getBytes k, h.getInt k, h.getBool k, h.getFloat k, h.getList k⟩

/-! ### A.5 malformed invocations -/

/-- **Malformed invocations are answered with an error reply and change nothing.** -/
theorem parse_error_no_state_change :
    ∀ (st : ConnState) (db : DB) (now : Int) (req : List Bytes) (e : RErr), parse req = .error e →
      handle st db now req = (st, db, [.err (errorText (asciiBytes e.text) [])]) :=
  handle_parse_error

/-! ### non-vacuity -/

section Examples

local notation "b" => bs
local notation "cmdOf" => pCmd
local notation "errOf" => pErr

/-- the no-panic theorem applies to every grammar, with or without `StringsN` -/
example (args : List Bytes) : runGrammar Generated.grammar_Set args ≠ .panic :=
  parser_total_no_panic _ args
example (args : List Bytes) : runGrammar Generated.grammar_ZInter args ≠ .panic :=
  parser_total_no_panic _ args
example : hasStringsNL Generated.grammar_ZInter.parsers = true := by decide

/-- the former D11 request at the level of `command.Parse`: one arity error -/
example : errOf (parse [b "ZINTER", b "-1", b "k1"]) = some .invalidArgNum := by
  simp only [parse_witness]; decide +kernel
example : atoi (b "-1") = some (-1) := by decide +kernel
/-- the hypotheses of `stringsN_negative_refused` are satisfiable -/
example : runP (.stringsN "keys" "n") [b "k1"] [("n", .int (-1))] = .fail .invalidArgNum :=
  stringsN_negative_refused _ _ _ _ (by simp) (by decide)

/-- case variants: `NX`, `nX`, `Nx`, `nx` -/
example : CaseVariant (b "NX") (b "nx") := by decide +kernel
example : CaseVariant (b "kEePtTl") (b "KEEPTTL") := by decide +kernel
example : ¬ CaseVariant (b "NX") (b "XX") := by decide +kernel
/-- U+017F folds onto `s` but is not an ASCII case variant of it: `equalFold` is coarser -/
example : equalFold [0xC5, 0xBF] (b "s") = true ∧ ¬ CaseVariant [0xC5, 0xBF] (b "s") := by decide +kernel

/-- `grammar_Set` is `key value` followed by keyword-guarded options only -/
example : positionalPrefix Generated.grammar_Set = 2 ∧ kwGuardedL (optTail Generated.grammar_Set) = true := by
  decide +kernel
example (r : List Bytes) :
    runGrammar Generated.grammar_Set ([b "k", b "v"] ++ b "Nx" :: r)
      = runGrammar Generated.grammar_Set ([b "k", b "v"] ++ b "NX" :: r) :=
  keyword_case_insensitive_grammar _ (by decide +kernel) _ (by decide +kernel) _ _ (by decide +kernel) r
/-- a keyword deeper in the vector, through the loop-state form: after `SET k v GET`, two option
groups are left and the next argument's case does not matter -/
example (r : List Bytes) (env : Env) :
    runLoop 2 [.oneOf [.flag "nx" "ifNX", .flag "xx" "ifXX"], .flag "keepttl" "keepTTL"] (b "KeepTTL" :: r) env
      = runLoop 2 [.oneOf [.flag "nx" "ifNX", .flag "xx" "ifXX"], .flag "keepttl" "keepTTL"] (b "keepttl" :: r) env :=
  keyword_case_insensitive _ _ (by decide) _ _ (by decide +kernel) r env
example : cmdOf (parse [b "sEt", b "k", b "v", b "Nx", b "eX", b "100"])
    = some (.set (b "k") (b "v") true false false 100000 none false) := by
  simp only [parse_witness]; decide +kernel
example (rest : List Bytes) : parse (b "sEt" :: rest) = parse (b "SET" :: rest) :=
  command_name_case_insensitive _ _ (by decide +kernel) rest

/-- D13 at the level of `command.Parse` -/
example : cmdOf (parse [b "LINSERT", b "k", b "BEFORE", b "p", b "e"])
    = some (.linsert (b "k") (b "before") (b "p") (b "e")) := by simp only [parse_witness]; decide +kernel
example : cmdOf (parse [b "LINSERT", b "k", b "before", b "p", b "e"])
    = some (.linsert (b "k") (b "before") (b "p") (b "e")) := by simp only [parse_witness]; decide +kernel
example : errOf (parse [b "LINSERT", b "k", b "BEFOR", b "p", b "e"]) = some .syntaxError := by
  simp only [parse_witness]; decide +kernel
theorem config_subcommand_folds_case :
    cmdOf (parse [b "CONFIG", b "GET", b "x"]) = some (.config (b "get") [b "x"]) ∧
    cmdOf (parse [b "CONFIG", b "get", b "x"]) = some (.config (b "get") [b "x"]) ∧
    errOf (parse [b "CONFIG", b "SET", b "x", b "y"]) = some .unknownSubcmd := by
  simp only [parse_witness]; decide +kernel

/-- D20: `SET k v EX 0` and `EX -1` are accepted and mean "no expiry" -/
theorem set_ex_zero_accepted :
    cmdOf (parse [b "SET", b "k", b "v", b "EX", b "0"]) = some (.set (b "k") (b "v") false false false 0 none false) ∧
    cmdOf (parse [b "SET", b "k", b "v", b "EX", b "-1"]) = some (.set (b "k") (b "v") false false false 0 none false) := by
  simp only [parse_witness]; decide +kernel

/-- positional values that spell keywords: `SET nx xx` stores the value `xx` under the key `nx` -/
example : cmdOf (parse [b "SET", b "nx", b "xx"]) = some (.set (b "nx") (b "xx") false false false 0 none false) := by
  simp only [parse_witness]; decide +kernel
example : (slotsOfL Generated.grammar_Set.parsers).Nodup := by decide +kernel
example : (posParsers Generated.grammar_Set)[0]? = some (.string "key") := rfl
example (env : Env) (h : runGrammar Generated.grammar_Set [b "get", b "keepttl", b "NX"] = .ok env) :
    getBytes env "key" = b "get" :=
  positional_string_is_verbatim _ _ env (by decide +kernel) (by decide +kernel) h 0 "key" _
    (.inl rfl) rfl
/-- … and that run does succeed -/
example : (envOf (runGrammar Generated.grammar_Set [b "get", b "keepttl", b "NX"])).isSome = true := by
  decide +kernel
/-- not after the positional slots: a third argument `withscore` of ZRANK is the flag -/
example : cmdOf (parse [b "ZRANK", b "k", b "m", b "withscore"]) = some (.zrank (b "k") (b "m") true) := by
  simp only [parse_witness]; decide +kernel
/-- `HSCAN k 0 MATCH count COUNT 5`: the pattern is `count` -/
example : cmdOf (parse [b "HSCAN", b "k", b "0", b "MATCH", b "count", b "COUNT", b "5"])
    = some (.hscan (b "k") 0 (b "count") 5) := by simp only [parse_witness]; decide +kernel

/-- options in any order on `grammar_Set`: `SET k v NX GET …` and `SET k v GET NX …` -/
example (rest : List Bytes)
    (hrest : ∀ x, rest.head? = some x →
      kwMatch (.oneOf [.flag "nx" "ifNX", .flag "xx" "ifXX"]) x = false ∧ kwMatch (.flag "get" "get") x = false) :
    OutcomeEq (runGrammar Generated.grammar_Set ([b "k", b "v"] ++ (b "NX" :: [] ++ (b "GET" :: [] ++ rest))))
      (runGrammar Generated.grammar_Set ([b "k", b "v"] ++ (b "GET" :: [] ++ (b "NX" :: [] ++ rest)))) :=
  options_any_order_grammar Generated.grammar_Set [] []
    [.oneOf [.named "ex" [.int "ttlSec"], .named "px" [.int "ttlMs"], .named "exat" [.int "atSec"],
      .named "pxat" [.int "atMs"], .flag "keepttl" "keepTTL"]]
    (.oneOf [.flag "nx" "ifNX", .flag "xx" "ifXX"]) (.flag "get" "get") rfl (by decide +kernel)
    (b "NX") [] (b "GET") [] _ _
    (consumes_oneOf [] (.flag "nx" "ifNX") [.flag "xx" "ifXX"] (by decide) _ _ _
      (consumes_flag "nx" "ifNX" _ (by decide +kernel)) (by decide +kernel))
    (consumes_flag "get" "get" _ (by decide +kernel))
    (by decide +kernel) (by decide +kernel) rest hrest
    (fun e => setSlot_comm e _ _ _ _ (by decide)) [b "k", b "v"] (by decide +kernel)
/-- … checked by evaluation, with an expiry option after them -/
example : cmdOf (parse [b "SET", b "k", b "v", b "NX", b "GET", b "EX", b "5"])
    = cmdOf (parse [b "SET", b "k", b "v", b "GET", b "NX", b "EX", b "5"]) ∧
    cmdOf (parse [b "SET", b "k", b "v", b "NX", b "GET", b "EX", b "5"])
      = some (.set (b "k") (b "v") true false true 5000 none false) := by
  simp only [parse_witness]; decide +kernel
/-- a `Named` group with two values against a flag: `ZRANGE k 0 1 LIMIT 1 2 WITHSCORES` -/
example : Consumes (.named "limit" [.int "offset", .int "count"]) [b "LIMIT", b "1", b "2"]
    (fun e => setSlot (setSlot e "offset" (.int 1)) "count" (.int 2)) :=
  consumes_named "limit" _ (by decide) _ (by decide +kernel) [b "1", b "2"] rfl _
    (fun env => by
      have h1 : atoi (b "1") = some 1 := by decide +kernel
      have h2 : atoi (b "2") = some 2 := by decide +kernel
      simp [bindPos, posVal, h1, h2])
example : cmdOf (parse [b "ZRANGE", b "k", b "0", b "1", b "LIMIT", b "1", b "2", b "WITHSCORES"])
    = cmdOf (parse [b "ZRANGE", b "k", b "0", b "1", b "WITHSCORES", b "LIMIT", b "1", b "2"]) := by
  simp only [parse_witness]; decide +kernel
/-- where `hrest` fails (the next argument is another keyword of the same `OneOf`) both orders are the
same syntax error -/
example : errOf (parse [b "SET", b "k", b "v", b "NX", b "GET", b "XX"]) = some .syntaxError ∧
    errOf (parse [b "SET", b "k", b "v", b "GET", b "NX", b "XX"]) = some .syntaxError := by
  simp only [parse_witness]; decide +kernel
/-- a value that spells another option's keyword does not disturb the order: `MATCH count COUNT 5` -/
example : cmdOf (parse [b "HSCAN", b "k", b "0", b "COUNT", b "5", b "MATCH", b "count"])
    = cmdOf (parse [b "HSCAN", b "k", b "0", b "MATCH", b "count", b "COUNT", b "5"]) := by
  simp only [parse_witness]; decide +kernel

/-- malformed invocations -/
example : parse [b "GET"] = .error .invalidArgNum := by
  rw [parse_witness]; rfl
example (st : ConnState) (db : DB) :
    handle st db 0 [b "SET", b "k"] = (st, db, [.err (b "ERR wrong number of arguments ()")]) := by
  rw [parse_error_no_state_change st db 0 _ .invalidArgNum (by rw [parse_witness]; rfl)]
  have e : errorText (asciiBytes RErr.invalidArgNum.text) [] = b "ERR wrong number of arguments ()" := by
    decide +kernel
  rw [e]

end Examples

end Redka.Props.C13
