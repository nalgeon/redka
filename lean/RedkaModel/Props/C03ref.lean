/-
  C03 — sets behave like mathematical sets (refinement proof).

  "For every sequence of set operations each key holds exactly the members a mathematical set would
  hold: add and remove report how many members actually changed, membership, cardinality and
  enumeration agree with one another, and union, intersection and difference return exactly the
  mathematical result for any list of keys, including repeated keys and keys that are missing or
  hold another type. The storing variants leave the destination holding exactly that result even
  when the destination is also one of the sources, and move and pop transfer or remove exactly one
  existing member."

  What is proved here. `Model.dbRun` is the statement-level model of the `DB`-level methods of
  `internal/rset` over the six tables; `Spec.step` is the mathematical set semantics on the
  abstract keyspace; `Spec.abs now db` is the keyspace a table state stands for at clock value
  `now`. `set_refines_partial` says that one call of any set operation (all fourteen with a
  specification; `Scan` has none, `Spec.step` answers `skip`) on any table state satisfying the
  structural invariant C11 (`DB.Inv`), with any arguments and any clock value, returns what the
  mathematical semantics returns and leaves tables that stand for exactly the new keyspace —
  outside two narrow, decidable classes of inputs on which the real code (and therefore the
  model) is known to deviate:

    * `Stale` (D05): the operation writes to a name whose stored key row has expired but has not
      been cleaned up yet;
    * `DestIsSource` (D08): a storing variant whose destination is also one of its sources.

  Each class is exactly an entry of the driver's catalogue (`classifiers_are_the_catalogue`) and is
  shown to be real by kernel-checked witnesses (`stale_add_deviates`, `stale_othertype_deviates`,
  `stale_store_unique_deviates`, `dest_is_source_deviates`), so the full-strength statement — in
  particular the property's clause "even when the destination is also one of the sources" — is
  FALSE of the code (`full_strength_is_false`).

  The former third class (D07, an intersection over a key list that names a key twice) is gone:
  the code now compares `count(distinct kid)` with the number of DISTINCT requested keys, and the
  clause "including repeated keys" is proved for intersection as well — `set_refines_partial` has
  no hypothesis on the key list, `inter_is_inter` and `interstore_holds_result` hold for any
  non-empty key list, and the former counterexamples now agree with the specification
  (`repeated_inter_now_agrees`, `repeated_interstore_now_agrees`).

  `set_seq_refines` lifts the single step to any sequence of set operations at non-decreasing clock
  values; it rests on `set_preserves_wf` (every set operation keeps `SetWF`, unconditionally).
  The clauses of the property are restated one by one below (`reads_agree`, `add_reports_new`,
  `remove_reports_removed`, `missing_reads_empty`, `union_is_union`, `inter_is_inter`,
  `diff_is_diff`, `*store_holds_result`, `pop_removes_one`, `move_transfers_one`).

  Results are compared with `=` on `Out` (`Spec.outEq` is built from `partial def`s and is opaque to
  the kernel); set results never contain key rows, so `=` is the stronger statement.
  For `Pop` and `Random` the oracle argument is the element the random choice produced; when it is
  absent or not a member the specification does not decide (`skip`), and the model answers the same
  `outOfDomain` marker, so the theorem covers these cases too (vacuously for the real code).

  Only the property theorems, the case principle of the family (`setOp_cases`) and non-vacuity
  examples live here; the lemmas are in `RedkaModel/Proofs/SetLib.lean`, `SetRef.lean`,
  `SetAlg.lean` and `SetCor.lean` (what set and hash share: `RowsLib.lean`).
-/
import RedkaModel.Proofs.SetCor

namespace Redka.Props.C03

open Redka Redka.Model Redka.Spec Redka.Model.SetRef

/-- the operations of `DB.Set()` that have a specification (`Scan` has none) -/
def isSetOp : Op → Bool
  | .setAdd .. | .setDelete .. | .setDiff _ | .setDiffStore .. | .setExists .. | .setInter _
  | .setInterStore .. | .setItems _ | .setLen _ | .setMove .. | .setPop .. | .setRandom ..
  | .setUnion _ | .setUnionStore .. => true
  | _ => false

def IsSetOp (op : Op) : Prop := isSetOp op = true

instance (op : Op) : Decidable (IsSetOp op) := inferInstanceAs (Decidable (_ = true))

/-- Case analysis over the family: what holds of the fourteen holds of every set operation. -/
theorem setOp_cases {motive : Op → Prop}
    (add : ∀ k es, motive (.setAdd k es)) (delete : ∀ k es, motive (.setDelete k es))
    (diff : ∀ ks, motive (.setDiff ks)) (diffStore : ∀ d ks, motive (.setDiffStore d ks))
    (exist : ∀ k e, motive (.setExists k e)) (inter : ∀ ks, motive (.setInter ks))
    (interStore : ∀ d ks, motive (.setInterStore d ks)) (items : ∀ k, motive (.setItems k))
    (len : ∀ k, motive (.setLen k)) (move : ∀ s d e, motive (.setMove s d e))
    (pop : ∀ k o, motive (.setPop k o)) (random : ∀ k o, motive (.setRandom k o))
    (union : ∀ ks, motive (.setUnion ks)) (unionStore : ∀ d ks, motive (.setUnionStore d ks)) :
    ∀ op, IsSetOp op → motive op := by
  intro op hop
  unfold IsSetOp isSetOp at hop
  split at hop
  · exact add _ _
  · exact delete _ _
  · exact diff _
  · exact diffStore _ _
  · exact exist _ _
  · exact inter _
  · exact interStore _ _
  · exact items _
  · exact len _
  · exact move _ _ _
  · exact pop _ _
  · exact random _ _
  · exact union _
  · exact unionStore _ _
  · cases hop

/-- The constructors the refinement theorem covers: every set operation with a specification.
Nothing is left out. -/
def Covered : Op → Bool := isSetOp

/-- D05, exactly as in `Spec.known`: some name the operation writes to is held by a stored row
whose expiry has passed -/
def Stale (op : Op) (now : Int) (db : DB) : Bool :=
  (Spec.writeKeys op).any (Spec.staleKey db now)

/-- D08, exactly as in `Spec.known`: a storing variant whose destination is one of the sources -/
def DestIsSource : Op → Bool
  | .setDiffStore d ks | .setInterStore d ks | .setUnionStore d ks => ks.contains d
  | _ => false

/-- The two classifiers are the entries D05 and D08 of the catalogue of known findings that the
driver consults (`Spec.known`), for every set operation: the catalogue lists nothing else for this
family. -/
theorem classifiers_are_the_catalogue : ∀ (inTx : Bool) (op : Op) (now : Int) (db : DB), IsSetOp op →
    Spec.known inTx op now db
      = (if Stale op now db then ["D05"] else []) ++ (if DestIsSource op then ["D08"] else []) := by
  intro inTx op now db
  revert op
  apply setOp_cases <;> intros <;> rfl

theorem stale_one {db : DB} {now : Int} {k : Bytes} (h : [k].any (Spec.staleKey db now) = false) :
    Spec.staleKey db now k = false := by
  simpa using h

/-- Every set operation keeps `SetWF` (for every state and argument, deviation classes included). -/
theorem set_preserves_wf : ∀ (op : Op) (now : Int) (db : DB), IsSetOp op → SetWF db →
    SetWF (Model.dbRun op now db).db := by
  intro op now db hop hw
  have read : ∀ {op}, Spec.isRead op = true → SetWF (Model.dbRun op now db).db :=
    fun h => (Clean.read_db_unchanged _ now db h).symm ▸ hw
  revert op
  apply setOp_cases
  case add => exact fun k es => update_pres hw (setAdd_wf hw k es now)
  case delete => exact fun k es => update_pres hw (setDelete_wf hw k es now)
  case diff => exact fun _ => read rfl
  case diffStore => exact fun d ks => update_pres hw (setStore_wf hw d ks now _)
  case exist => exact fun _ _ => read rfl
  case inter => exact fun _ => read rfl
  case interStore => exact fun d ks => update_pres hw (setStore_wf hw d ks now _)
  case items => exact fun _ => read rfl
  case len => exact fun _ => read rfl
  case move => exact fun s d e => update_pres hw (setMove_wf hw s d e now)
  case pop => exact fun k o => update_pres hw (setPop_wf hw k o now)
  case random => exact fun _ _ => read rfl
  case union => exact fun _ => read rfl
  case unionStore => exact fun d ks => update_pres hw (setStore_wf hw d ks now _)

/-- … in particular the part `DB.WF` shared with the other families. -/
theorem set_preserves_dbwf : ∀ (op : Op) (now : Int) (db : DB), IsSetOp op → SetWF db →
    (Model.dbRun op now db).db.WF :=
  fun op now db hop hw => (set_preserves_wf op now db hop hw).wf

/-- The refinement under `SetWF`, the consequence of the invariant that the proof uses (`DB.WF`,
uniqueness of `(kid, elem)`, no orphan `rset` rows, cached lengths) and that every set operation
preserves (`set_preserves_wf`). -/
theorem set_refines_wf : ∀ (op : Op) (now : Int) (db : DB),
    IsSetOp op → SetWF db → Stale op now db = false → DestIsSource op = false →
    let r := Model.dbRun op now db
    r.out = (Spec.step op now (Spec.abs now db)).out ∧
      Spec.abs now r.db = Spec.purge now (Spec.step op now (Spec.abs now db)).st := by
  intro op now db hop hw
  have fin : ∀ {op s}, IsSetOp op → RefS now (Model.dbRun op now db) s →
      (Model.dbRun op now db).out = s.out ∧ Spec.abs now (Model.dbRun op now db).db = Spec.purge now s.st :=
    fun hop h => h.refines (set_preserves_wf _ now db hop hw).names
  revert op
  apply setOp_cases
  case add => exact fun k es hst _ => fin rfl (run_setAdd hw now (stale_one hst) es)
  case delete => exact fun k es _ _ => fin rfl (run_setDelete hw now k es)
  case diff => exact fun ks _ _ => fin rfl (run_setDiff hw now ks)
  case diffStore => exact fun d ks hst hds => fin rfl (run_setDiffStore hw now (stale_one hst) hds)
  case exist => exact fun k e _ _ => fin rfl (setExists_refS hw.wf now k e)
  case inter => exact fun ks _ _ => fin rfl (run_setInter hw now ks)
  case interStore => exact fun d ks hst hds => fin rfl (run_setInterStore hw now (stale_one hst) hds)
  case items => exact fun k _ _ => fin rfl (setItems_refS hw.wf now k)
  case len => exact fun k _ _ => fin rfl (setLen_refS hw now k)
  case move => exact fun s d e hst _ => fin rfl (setMove_refS hw (stale_one hst) s e)
  case pop => exact fun k o _ _ => fin rfl (setPop_refS hw now k o)
  case random => exact fun k o _ _ => fin rfl (setRandom_refS hw.wf now k o)
  case union => exact fun ks _ _ => fin rfl (run_setUnion hw now ks)
  case unionStore => exact fun d ks hst hds => fin rfl (run_setUnionStore hw now (stale_one hst) hds)

/-- **C03, partial refinement.** One call of any set operation, on any table state satisfying the
structural invariant, for any arguments and any clock value, outside the classes `Stale` (D05)
and `DestIsSource` (D08): the model returns exactly what the mathematical set semantics returns,
and the tables afterwards stand for exactly the new keyspace.

All fourteen operations with a specification are covered (`Covered = isSetOp`): add, delete, the
three set algebra reads for any list of keys — repeated keys, missing keys and keys of another
type included, for intersection too —, the three storing variants, exists, items, len, move, pop
and random (the last two with the chosen element as oracle). No argument-range hypothesis is
needed: no set operation takes a Go `int`.

The full-strength statement (without the two classifiers) is FALSE of the code: see
`full_strength_is_false`. -/
theorem set_refines_partial : ∀ (op : Op) (now : Int) (db : DB),
    IsSetOp op → db.Inv → Stale op now db = false → DestIsSource op = false →
    let r := Model.dbRun op now db
    r.out = (Spec.step op now (Spec.abs now db)).out ∧
      Spec.abs now r.db = Spec.purge now (Spec.step op now (Spec.abs now db)).st :=
  fun op now db hop hinv => set_refines_wf op now db hop (SetWF.of_inv hinv)

/-- `Covered` leaves nothing out: it is the whole family. -/
theorem covered_is_everything : ∀ op, IsSetOp op → Covered op = true := fun _ h => h

/-- a run of timed calls on the tables: the results, and the tables at the end -/
def runModel : List (Op × Int) → DB → List Out × DB
  | [], db => ([], db)
  | (op, now) :: rest, db =>
    let r := Model.dbRun op now db
    let t := runModel rest r.db
    (r.out :: t.1, t.2)

/-- the same run on the abstract keyspace; a key disappears when the clock reaches its expiry -/
def runSpec : List (Op × Int) → State → List Out × State
  | [], s => ([], s)
  | (op, now) :: rest, s =>
    let r := Spec.step op now (Spec.purge now s)
    let t := runSpec rest (Spec.purge now r.st)
    (r.out :: t.1, t.2)

/-- no call of the run falls into a known deviation class, judged on the tables it meets -/
def CleanRun : List (Op × Int) → DB → Prop
  | [], _ => True
  | (op, now) :: rest, db =>
    IsSetOp op ∧ Stale op now db = false ∧ DestIsSource op = false ∧
      CleanRun rest (Model.dbRun op now db).db

/-- the clock does not run backwards -/
def ClockOk : Int → List (Op × Int) → Prop
  | _, [] => True
  | t, (_, now) :: rest => t ≤ now ∧ ClockOk now rest

def lastClock : Int → List (Op × Int) → Int
  | t, [] => t
  | _, (_, now) :: rest => lastClock now rest

/-- **C03 for sequences.** Any sequence of set operations at non-decreasing clock values, started
on well-formed tables and never meeting a known deviation class: every call returns what the
mathematical semantics returns, and at the end the tables stand for exactly its keyspace. -/
theorem set_seq_refines : ∀ (tr : List (Op × Int)) (t : Int) (db : DB), SetWF db → ClockOk t tr →
    CleanRun tr db →
    (runModel tr db).1 = (runSpec tr (Spec.abs t db)).1 ∧
      Spec.abs (lastClock t tr) (runModel tr db).2 = (runSpec tr (Spec.abs t db)).2
  | [], _, _, _, _, _ => ⟨rfl, rfl⟩
  | (op, now) :: rest, t, db, hw, hc, hcl => by
    obtain ⟨hop, hst, hds, hrest⟩ := hcl
    obtain ⟨href1, href2⟩ := set_refines_wf op now db hop hw hst hds
    have ih := set_seq_refines rest now (Model.dbRun op now db).db
      (set_preserves_wf op now db hop hw) hc.2 hrest
    simp only [runModel, runSpec, lastClock]
    rw [← abs_mono hw.names hc.1, ← href1, ← href2]
    exact ⟨by rw [ih.1], ih.2⟩

/-- … in particular from any state satisfying the C11 invariant. -/
theorem set_seq_refines_inv : ∀ (tr : List (Op × Int)) (t : Int) (db : DB), db.Inv → ClockOk t tr →
    CleanRun tr db →
    (runModel tr db).1 = (runSpec tr (Spec.abs t db)).1 ∧
      Spec.abs (lastClock t tr) (runModel tr db).2 = (runSpec tr (Spec.abs t db)).2 :=
  fun tr t db hinv => set_seq_refines tr t db (SetWF.of_inv hinv)

/-! ### the property, clause by clause

`Spec.setAt s k` is the set of members the keyspace `s` holds under `k` (empty when the key is
missing or of another type); it is a duplicate-free list, so its length is a cardinality. -/

/-- "membership, cardinality and enumeration agree with one another": for every key, state and
clock value, `Items` enumerates a duplicate-free list, `Len` is its length and `Exists` is
membership in it — and that list is the set the tables stand for. -/
theorem reads_agree : ∀ (k : Bytes) (now : Int) (db : DB), db.Inv →
    let m := Spec.setAt (Spec.abs now db) k
    m.Nodup ∧
    (Model.dbRun (.setItems k) now db).out = .ok (.list (m.map .bytes)) ∧
    (Model.dbRun (.setLen k) now db).out = .ok (.int m.length) ∧
    ∀ e, (Model.dbRun (.setExists k e) now db).out = .ok (.bool (m.contains e)) := by
  intro k now db hinv
  have hw := SetWF.of_inv hinv
  exact ⟨(ssorted_setAt_abs hw now k).nodup, (setItems_refS hw.wf now k).1, (setLen_refS hw now k).1,
    fun e => (setExists_refS hw.wf now k e).1⟩

/-- "keys that are missing or hold another type" read as the empty set. -/
theorem missing_reads_empty : ∀ (k : Bytes) (now : Int) (db : DB), db.Inv →
    (∀ m et, Spec.get (Spec.abs now db) k ≠ some ⟨.set m, et⟩) →
    (Model.dbRun (.setItems k) now db).out = .ok (.list []) ∧
    (Model.dbRun (.setLen k) now db).out = .ok (.int 0) ∧
    ∀ e, (Model.dbRun (.setExists k e) now db).out = .ok (.bool false) := by
  intro k now db hinv hne
  have hm : Spec.setAt (Spec.abs now db) k = [] := by
    unfold Spec.setAt
    split
    · rename_i m et h; exact absurd h (hne m et)
    · rfl
  have h := reads_agree k now db hinv
  simp only [hm] at h
  exact ⟨h.2.1, h.2.2.1, h.2.2.2⟩

/-- "add … report[s] how many members actually changed": on a name that is free or holds a set
(and is not a stale leftover, D05), `Add` reports the growth of the cardinality, and afterwards
the key holds exactly the old members and the given ones. -/
theorem add_reports_new : ∀ (k : Bytes) (es : List Bytes) (now : Int) (db : DB), db.Inv →
    Spec.staleKey db now k = false → FreeOrSet (Spec.abs now db) k →
    let before := Spec.setAt (Spec.abs now db) k
    let r := Model.dbRun (.setAdd k es) now db
    let after := Spec.setAt (Spec.abs now r.db) k
    r.out = .ok (.int ((after.length : Int) - before.length)) ∧ after.Nodup ∧
      ∀ x, x ∈ after ↔ x ∈ before ∨ x ∈ es := by
  intro k es now db hinv hns hno before r after
  have hw := SetWF.of_inv hinv
  have h := run_setAdd hw now hns es
  have hs := spec_setAdd hno es
  have hafter : after = sunion before es := by
    show Spec.setAt (Spec.abs now r.db) k = _
    rw [h.2]; exact hs.2
  refine ⟨?_, ?_, ?_⟩
  · rw [hafter]; exact h.1.trans hs.1
  · rw [hafter]; exact (SSorted.sunion es (ssorted_setAt_abs hw now k)).nodup
  · intro x; rw [hafter, mem_sunion]

/-- "…and remove": `Delete` reports the loss of cardinality, and afterwards the key holds exactly
the old members that were not listed. No side condition: this holds for every state. -/
theorem remove_reports_removed : ∀ (k : Bytes) (es : List Bytes) (now : Int) (db : DB), db.Inv →
    let before := Spec.setAt (Spec.abs now db) k
    let r := Model.dbRun (.setDelete k es) now db
    let after := Spec.setAt (Spec.abs now r.db) k
    r.out = .ok (.int ((before.length : Int) - after.length)) ∧
      ∀ x, x ∈ after ↔ x ∈ before ∧ x ∉ es := by
  intro k es now db hinv before r after
  have hw := SetWF.of_inv hinv
  have h := run_setDelete hw now k es
  have hs := spec_setDelete (Spec.abs now db) k es
  have hafter : after = sdiff before es := by
    show Spec.setAt (Spec.abs now r.db) k = _
    rw [h.2]; exact hs.2
  refine ⟨?_, ?_⟩
  · rw [hafter]; exact h.1.trans hs.1
  · intro x; rw [hafter, mem_sdiff]

/-- "union … return[s] exactly the mathematical result for any list of keys, including repeated
keys and keys that are missing or hold another type": a duplicate-free list of exactly the
elements that are members of some named set. -/
theorem union_is_union : ∀ (ks : List Bytes) (now : Int) (db : DB), db.Inv →
    ∃ l : List Bytes, (Model.dbRun (.setUnion ks) now db).out = .ok (.list (l.map .bytes)) ∧
      l.Nodup ∧ ∀ e, e ∈ l ↔ ∃ k ∈ ks, e ∈ Spec.setAt (Spec.abs now db) k := by
  intro ks now db hinv
  have hw := SetWF.of_inv hinv
  exact ⟨_, (run_setUnion hw now ks).1, (ssorted_setUnionOf _ ks).nodup, mem_setUnionOf _ ks⟩

/-- "…difference": exactly the members of the first set that are in none of the others, for any
list of keys (repeated, missing, of another type). -/
theorem diff_is_diff : ∀ (k : Bytes) (rest : List Bytes) (now : Int) (db : DB), db.Inv →
    ∃ l : List Bytes, (Model.dbRun (.setDiff (k :: rest)) now db).out = .ok (.list (l.map .bytes)) ∧
      l.Nodup ∧ ∀ e, e ∈ l ↔ e ∈ Spec.setAt (Spec.abs now db) k ∧
        ∀ x ∈ rest, e ∉ Spec.setAt (Spec.abs now db) x := by
  intro k rest now db hinv
  have hw := SetWF.of_inv hinv
  exact ⟨_, (run_setDiff hw now (k :: rest)).1, (ssorted_setDiffOf hw now (k :: rest)).nodup,
    mem_setDiffOf_cons _ k rest⟩

/-- "…intersection": exactly the common members, for any non-empty list of keys — repeated
keys, missing keys and keys of another type included (a missing key or a key of another type
reads as the empty set, so the intersection is then empty). -/
theorem inter_is_inter : ∀ (ks : List Bytes) (now : Int) (db : DB), db.Inv → ks ≠ [] →
    ∃ l : List Bytes, (Model.dbRun (.setInter ks) now db).out = .ok (.list (l.map .bytes)) ∧
      l.Nodup ∧ ∀ e, e ∈ l ↔ ∀ k ∈ ks, e ∈ Spec.setAt (Spec.abs now db) k := by
  intro ks now db hinv hne
  have hw := SetWF.of_inv hinv
  exact ⟨_, (run_setInter hw now ks).1, (ssorted_setInterOf hw now ks).nodup, mem_setInterOf _ hne⟩

private theorem store_dest {now : Int} {db : DB} {op : Op} {d : Bytes} {ks result : List Bytes}
    (h : RefS now (Model.dbRun op now db) (Spec.setStore (Spec.abs now db) d ks result))
    (hne : ks ≠ []) (hno : FreeOrSet (Spec.abs now db) d) :
    (Model.dbRun op now db).out = .ok (.int result.length) ∧
      Spec.setAt (Spec.abs now (Model.dbRun op now db).db) d = result := by
  have hs := spec_setStore (List.isEmpty_eq_false_iff.2 hne) hno result
  exact ⟨h.1.trans hs.1, by rw [h.2]; exact hs.2⟩

/-- "The storing variants leave the destination holding exactly that result": `UnionStore` into a
destination that is free or a set, is not a stale leftover (D05) and is not one of the sources
(D08 — with the destination among the sources the clause is false, `dest_is_source_deviates`). -/
theorem unionstore_holds_result : ∀ (d : Bytes) (ks : List Bytes) (now : Int) (db : DB), db.Inv →
    ks ≠ [] → Spec.staleKey db now d = false → ks.contains d = false →
    FreeOrSet (Spec.abs now db) d →
    let r := Model.dbRun (.setUnionStore d ks) now db
    ∃ l : List Bytes, r.out = .ok (.int l.length) ∧ Spec.setAt (Spec.abs now r.db) d = l ∧ l.Nodup ∧
      ∀ e, e ∈ l ↔ ∃ k ∈ ks, e ∈ Spec.setAt (Spec.abs now db) k := by
  intro d ks now db hinv hne hns hds hno
  have hw := SetWF.of_inv hinv
  obtain ⟨h1, h2⟩ := store_dest (run_setUnionStore hw now hns hds) hne hno
  exact ⟨_, h1, h2, (ssorted_setUnionOf _ ks).nodup, mem_setUnionOf _ ks⟩

/-- the same for `DiffStore` -/
theorem diffstore_holds_result : ∀ (d k : Bytes) (rest : List Bytes) (now : Int) (db : DB), db.Inv →
    Spec.staleKey db now d = false → (k :: rest).contains d = false →
    FreeOrSet (Spec.abs now db) d →
    let r := Model.dbRun (.setDiffStore d (k :: rest)) now db
    ∃ l : List Bytes, r.out = .ok (.int l.length) ∧ Spec.setAt (Spec.abs now r.db) d = l ∧ l.Nodup ∧
      ∀ e, e ∈ l ↔ e ∈ Spec.setAt (Spec.abs now db) k ∧
        ∀ x ∈ rest, e ∉ Spec.setAt (Spec.abs now db) x := by
  intro d k rest now db hinv hns hds hno
  have hw := SetWF.of_inv hinv
  obtain ⟨h1, h2⟩ := store_dest (run_setDiffStore hw now hns hds) (by simp) hno
  exact ⟨_, h1, h2, (ssorted_setDiffOf hw now (k :: rest)).nodup, mem_setDiffOf_cons _ k rest⟩

/-- the same for `InterStore`, for any non-empty list of sources (repeated ones included) -/
theorem interstore_holds_result : ∀ (d : Bytes) (ks : List Bytes) (now : Int) (db : DB), db.Inv →
    ks ≠ [] → Spec.staleKey db now d = false → ks.contains d = false →
    FreeOrSet (Spec.abs now db) d →
    let r := Model.dbRun (.setInterStore d ks) now db
    ∃ l : List Bytes, r.out = .ok (.int l.length) ∧ Spec.setAt (Spec.abs now r.db) d = l ∧ l.Nodup ∧
      ∀ e, e ∈ l ↔ ∀ k ∈ ks, e ∈ Spec.setAt (Spec.abs now db) k := by
  intro d ks now db hinv hne hns hds hno
  have hw := SetWF.of_inv hinv
  obtain ⟨h1, h2⟩ := store_dest (run_setInterStore hw now hns hds) hne hno
  exact ⟨_, h1, h2, (ssorted_setInterOf hw now ks).nodup, mem_setInterOf _ hne⟩

/-- "pop … remove[s] exactly one existing member": when the random choice falls on the member
`e`, `Pop` returns `e`, the set is one smaller and holds exactly the other members. -/
theorem pop_removes_one : ∀ (k e : Bytes) (now : Int) (db : DB), db.Inv →
    e ∈ Spec.setAt (Spec.abs now db) k →
    let before := Spec.setAt (Spec.abs now db) k
    let r := Model.dbRun (.setPop k (some e)) now db
    let after := Spec.setAt (Spec.abs now r.db) k
    r.out = .ok (.bytes e) ∧ after.length + 1 = before.length ∧
      ∀ x, x ∈ after ↔ x ∈ before ∧ x ≠ e := by
  intro k e now db hinv hm before r after
  have hw := SetWF.of_inv hinv
  have h : RefS now (Model.dbRun (.setPop k (some e)) now db) _ := setPop_refS hw now k (some e)
  have hsp : Spec.setPop (Spec.abs now db) k (some e)
      = ⟨.ok (.bytes e), (Spec.setDelete (Spec.abs now db) k [e]).st⟩ := by
    simp [Spec.setPop, smem, hm]
  rw [hsp] at h
  have hafter : after = sdiff before [e] := by
    show Spec.setAt (Spec.abs now r.db) k = _
    rw [h.2]; exact (spec_setDelete _ k [e]).2
  refine ⟨h.1, ?_, ?_⟩
  · rw [hafter]; exact length_filter_ne (ssorted_setAt_abs hw now k).nodup hm
  · intro x; rw [hafter, mem_sdiff]; simp

/-- "move … transfer[s] exactly one existing member": between two different keys, the destination
being free or a set (and not a stale leftover, D05), a member `e` of the source leaves the source
and joins the destination; nothing else changes in either. -/
theorem move_transfers_one : ∀ (src dst e : Bytes) (now : Int) (db : DB), db.Inv → src ≠ dst →
    Spec.staleKey db now dst = false → FreeOrSet (Spec.abs now db) dst →
    e ∈ Spec.setAt (Spec.abs now db) src →
    let s := Spec.abs now db
    let r := Model.dbRun (.setMove src dst e) now db
    let s' := Spec.abs now r.db
    r.out = .ok .nil ∧ (∀ x, x ∈ Spec.setAt s' src ↔ x ∈ Spec.setAt s src ∧ x ≠ e) ∧
      (∀ x, x ∈ Spec.setAt s' dst ↔ x ∈ Spec.setAt s dst ∨ x = e) := by
  intro src dst e now db hinv hne hns hno hm s r s'
  have hw := SetWF.of_inv hinv
  have h : RefS now (Model.dbRun (.setMove src dst e) now db) _ := setMove_refS hw hns src e
  have hsp : Spec.setMove s src dst e
      = ⟨.ok .nil, (Spec.setAdd (Spec.setDelete s src [e]).st dst [e]).st⟩ := by
    cases hg : Spec.get s dst with
    | none => simp [Spec.setMove, smem, hm, hg, s]
    | some en =>
      obtain ⟨v, et⟩ := en
      obtain ⟨m, rfl⟩ := hno v et hg
      simp [Spec.setMove, smem, hm, hg, s]
  rw [show Spec.setMove (Spec.abs now db) src dst e = _ from hsp] at h
  have hs' : s' = (Spec.setAdd (Spec.setDelete s src [e]).st dst [e]).st := h.2
  have hd1 : Spec.get (Spec.setDelete s src [e]).st dst = Spec.get s dst :=
    spec_setDelete_other s hne [e]
  have hno1 : FreeOrSet (Spec.setDelete s src [e]).st dst := by
    intro v et hg; rw [hd1] at hg; exact hno v et hg
  refine ⟨h.1, ?_, ?_⟩
  · intro x
    rw [hs', setAt_congr (spec_setAdd_other _ (fun h => hne h.symm) [e]), (spec_setDelete s src [e]).2,
      mem_sdiff]
    simp
  · intro x
    rw [hs', (spec_setAdd hno1 [e]).2, mem_sunion, setAt_congr hd1]
    simp

/-- …and when `e` is not a member of the source, `Move` fails with `ErrNotFound` and no table row
changes. -/
theorem move_missing_member : ∀ (src dst e : Bytes) (now : Int) (db : DB), db.Inv →
    Spec.staleKey db now dst = false → e ∉ Spec.setAt (Spec.abs now db) src →
    (Model.dbRun (.setMove src dst e) now db).out = .error .notFound ∧
      (Model.dbRun (.setMove src dst e) now db).db = db := by
  intro src dst e now db hinv hns hm
  have hw := SetWF.of_inv hinv
  have h : RefS now (Model.dbRun (.setMove src dst e) now db) _ := setMove_refS hw hns src e
  have hout : (Model.dbRun (.setMove src dst e) now db).out = .error .notFound := by
    rw [h.1]; simp [Spec.setMove, smem, hm, Spec.er]
  exact ⟨hout, update_error_db hout⟩

/-! ### the deviations are real -/

def kK : Bytes := [107]          -- "k"
def kS : Bytes := [115]          -- "s"
def kT : Bytes := [116]          -- "t"
def kD : Bytes := [100]          -- "d", not stored
def eA : Bytes := [97]           -- "a"
def eB : Bytes := [98]           -- "b"

/-- a set key "k" = {"a"} whose expiry (5) has passed at `now = 10`, not yet cleaned up, and a
live set "s" = {"a"} -/
def dbStaleSet : DB :=
  { keys := [{ id := 1, key := kK, ty := 3, version := 1, etime := some 5, mtime := 0, len := some 1 },
             { id := 2, key := kS, ty := 3, version := 1, etime := none, mtime := 0, len := some 1 }],
    sets := [{ rowid := 1, kid := 1, elem := eA }, { rowid := 2, kid := 2, elem := eA }] }

/-- a list key "k" = ["a"] whose expiry has passed, not yet cleaned up -/
def dbStaleList : DB :=
  { keys := [{ id := 1, key := kK, ty := 2, version := 1, etime := some 5, mtime := 0, len := some 1 }],
    lists := [{ kid := 1, pos := 0, elem := eA }] }

/-- two live sets: "s" = {"a"}, "t" = {"b"} -/
def dbTwo : DB :=
  { keys := [{ id := 1, key := kS, ty := 3, version := 1, etime := none, mtime := 0, len := some 1 },
             { id := 2, key := kT, ty := 3, version := 1, etime := none, mtime := 0, len := some 1 }],
    sets := [{ rowid := 1, kid := 1, elem := eA }, { rowid := 2, kid := 2, elem := eB }] }

/-- D05 is real (add). The set "k" expired at 5; at 10 it does not exist, so adding "b" must
create "k" = {"b"} without expiry. The model (like the code) answers 1 but reuses the expired row
and keeps its old expiry: the key still does not exist afterwards (and when it is looked at with an
earlier clock it holds the old member "a" as well). -/
theorem stale_add_deviates :
    dbStaleSet.Inv ∧ Stale (.setAdd kK [eB]) 10 dbStaleSet = true ∧
    DestIsSource (.setAdd kK [eB]) = false ∧
    (Model.dbRun (.setAdd kK [eB]) 10 dbStaleSet).out = .ok (.int 1) ∧
    Spec.get (Spec.abs 10 (Model.dbRun (.setAdd kK [eB]) 10 dbStaleSet).db) kK = none ∧
    Spec.get (Spec.abs 4 (Model.dbRun (.setAdd kK [eB]) 10 dbStaleSet).db) kK
      = some ⟨.set [eA, eB], some 5⟩ ∧
    Spec.get (Spec.purge 10 (Spec.step (.setAdd kK [eB]) 10 (Spec.abs 10 dbStaleSet)).st) kK
      = some ⟨.set [eB], none⟩ := by
  refine ⟨by unfold DB.Inv; decide, by decide, rfl, by rfl, by decide +kernel, by decide +kernel,
    by decide +kernel⟩

/-- D05 is real (other type). The list "k" expired at 5; at 10 the name is free, so an add must
succeed. The model (like the code) runs into the expired list row and answers `ErrKeyType`. -/
theorem stale_othertype_deviates :
    dbStaleList.Inv ∧ Stale (.setAdd kK [eB]) 10 dbStaleList = true ∧
    (Model.dbRun (.setAdd kK [eB]) 10 dbStaleList).out = .error .keyType ∧
    (Spec.step (.setAdd kK [eB]) 10 (Spec.abs 10 dbStaleList)).out = .ok (.int 1) := by
  refine ⟨by unfold DB.Inv; decide, by decide, by rfl, by rfl⟩

/-- D05 is real (storing variant): storing the union of "s" = {"a"} into the expired "k" = {"a"}.
The destination does not exist, so it must be created holding {"a"}. The model (like the code)
does not wipe the expired destination, reuses its row and then inserts "a" a second time: the
`insert … select` has no conflict clause and fails on the unique index. -/
theorem stale_store_unique_deviates :
    Stale (.setUnionStore kK [kS]) 10 dbStaleSet = true ∧
    DestIsSource (.setUnionStore kK [kS]) = false ∧
    (Model.dbRun (.setUnionStore kK [kS]) 10 dbStaleSet).out = .error .sqlUnique ∧
    (Spec.step (.setUnionStore kK [kS]) 10 (Spec.abs 10 dbStaleSet)).out = .ok (.int 1) := by
  refine ⟨by decide, by decide, by rfl, by rfl⟩

/-- D07 is gone. The intersection of "s" = {"a"} with itself is {"a"}; the code used to answer the
empty set (`having count(distinct kid) = 2`), now it counts the distinct requested keys and the
model (like the code) answers {"a"}, as the specification does. -/
theorem repeated_inter_now_agrees :
    dbTwo.Inv ∧ Stale (.setInter [kS, kS]) 10 dbTwo = false ∧
    DestIsSource (.setInter [kS, kS]) = false ∧
    (Model.dbRun (.setInter [kS, kS]) 10 dbTwo).out = .ok (.list [.bytes eA]) ∧
    (Spec.step (.setInter [kS, kS]) 10 (Spec.abs 10 dbTwo)).out = .ok (.list [.bytes eA]) := by
  refine ⟨by unfold DB.Inv; decide, by decide, rfl, by rfl, by rfl⟩

/-- …and the storing variant: the destination "d" ends up holding {"a"}. -/
theorem repeated_interstore_now_agrees :
    Stale (.setInterStore kD [kS, kS]) 10 dbTwo = false ∧
    DestIsSource (.setInterStore kD [kS, kS]) = false ∧
    (Model.dbRun (.setInterStore kD [kS, kS]) 10 dbTwo).out = .ok (.int 1) ∧
    (Spec.step (.setInterStore kD [kS, kS]) 10 (Spec.abs 10 dbTwo)).out = .ok (.int 1) ∧
    Spec.setAt (Spec.abs 10 (Model.dbRun (.setInterStore kD [kS, kS]) 10 dbTwo).db) kD = [eA] := by
  refine ⟨by decide, by decide, by rfl, by rfl, by decide +kernel⟩

/-- …and a repeated key next to a different one: "s" ∩ "t" ∩ "s" = {"a"} ∩ {"b"} = ∅ is still
empty, because "t" does not hold "a" — not because the count is off. -/
theorem repeated_inter_disjoint_empty :
    (Model.dbRun (.setInter [kS, kT, kS]) 10 dbTwo).out = .ok (.list []) ∧
    (Spec.step (.setInter [kS, kT, kS]) 10 (Spec.abs 10 dbTwo)).out = .ok (.list []) :=
  ⟨by rfl, by rfl⟩

/-- D08 is real. Storing the union of "s" = {"a"} and "t" = {"b"} into "s" must leave "s" = {"a",
"b"} and report 2. The model (like the code) wipes "s" first and computes the union of the wiped
"s" and "t": it reports 1 and leaves "s" = {"b"}. -/
theorem dest_is_source_deviates :
    dbTwo.Inv ∧ Stale (.setUnionStore kS [kS, kT]) 10 dbTwo = false ∧
    DestIsSource (.setUnionStore kS [kS, kT]) = true ∧
    (Model.dbRun (.setUnionStore kS [kS, kT]) 10 dbTwo).out = .ok (.int 1) ∧
    (Spec.step (.setUnionStore kS [kS, kT]) 10 (Spec.abs 10 dbTwo)).out = .ok (.int 2) ∧
    Spec.setAt (Spec.abs 10 (Model.dbRun (.setUnionStore kS [kS, kT]) 10 dbTwo).db) kS = [eB] ∧
    Spec.setAt (Spec.step (.setUnionStore kS [kS, kT]) 10 (Spec.abs 10 dbTwo)).st kS = [eA, eB] := by
  refine ⟨by unfold DB.Inv; decide, by decide, by decide, by rfl, by rfl, by decide +kernel,
    by decide +kernel⟩

/-- D08 is real (difference): "s" \ "t" stored into "s" must leave "s" = {"a"}; the model leaves
it empty. -/
theorem dest_is_source_diff_deviates :
    DestIsSource (.setDiffStore kS [kS, kT]) = true ∧
    (Model.dbRun (.setDiffStore kS [kS, kT]) 10 dbTwo).out = .ok (.int 0) ∧
    (Spec.step (.setDiffStore kS [kS, kT]) 10 (Spec.abs 10 dbTwo)).out = .ok (.int 1) := by
  refine ⟨by decide, by rfl, by rfl⟩

private theorem int_ne {a b : Int} (h : a ≠ b) : (Except.ok (Val.int a) : Out) ≠ .ok (.int b) := by
  intro he; cases he; exact h rfl

/-- Hence the refinement statement without the two classifiers is false: the property's clause
"even when the destination is also one of the sources" does not hold of the code. -/
theorem full_strength_is_false :
    ¬ (∀ (op : Op) (now : Int) (db : DB), IsSetOp op → db.Inv →
        (Model.dbRun op now db).out = (Spec.step op now (Spec.abs now db)).out ∧
        Spec.abs now (Model.dbRun op now db).db
          = Spec.purge now (Spec.step op now (Spec.abs now db)).st) := by
  intro h
  have h1 := (h (.setUnionStore kS [kS, kT]) 10 dbTwo rfl dest_is_source_deviates.1).1
  rw [dest_is_source_deviates.2.2.2.1, dest_is_source_deviates.2.2.2.2.1] at h1
  exact int_ne (by decide) h1

/-- Each classifier is needed on its own: with the other one in place the statement is still
false. -/
theorem stale_is_needed :
    ¬ (∀ (op : Op) (now : Int) (db : DB), IsSetOp op → db.Inv → DestIsSource op = false →
        (Model.dbRun op now db).out = (Spec.step op now (Spec.abs now db)).out) := by
  intro h
  have h1 := h (.setUnionStore kK [kS]) 10 dbStaleSet rfl stale_add_deviates.1
    stale_store_unique_deviates.2.1
  rw [stale_store_unique_deviates.2.2.1, stale_store_unique_deviates.2.2.2] at h1
  cases h1

theorem dest_is_source_is_needed :
    ¬ (∀ (op : Op) (now : Int) (db : DB), IsSetOp op → db.Inv → Stale op now db = false →
        (Model.dbRun op now db).out = (Spec.step op now (Spec.abs now db)).out) := by
  intro h
  have h1 := h (.setUnionStore kS [kS, kT]) 10 dbTwo rfl dest_is_source_deviates.1
    dest_is_source_deviates.2.1
  rw [dest_is_source_deviates.2.2.2.1, dest_is_source_deviates.2.2.2.2.1] at h1
  exact int_ne (by decide) h1

/-! ### non-vacuity: the hypotheses are satisfiable for every kind of operation -/

def kA : Bytes := [97]           -- "a"
def kB : Bytes := [98]           -- "b"
def kL : Bytes := [108]          -- "l"
def kC : Bytes := [99]           -- "c"
def kN : Bytes := [110]          -- "n", not stored
def eW : Bytes := [119]          -- "w"
def eX : Bytes := [120]          -- "x"
def eY : Bytes := [121]          -- "y"
def eZ : Bytes := [122]          -- "z"

/-- a live set "a" = {"x","y"}, a live set "b" = {"y","z"} that expires at 100, a list "l" = ["e"],
a string "c" = "v" -/
def demo : DB :=
  { keys := [
      { id := 1, key := kA, ty := 3, version := 1, etime := none, mtime := 0, len := some 2 },
      { id := 2, key := kB, ty := 3, version := 3, etime := some 100, mtime := 0, len := some 2 },
      { id := 3, key := kL, ty := 2, version := 1, etime := none, mtime := 0, len := some 1 },
      { id := 4, key := kC, ty := 1, version := 1, etime := none, mtime := 0, len := none }],
    strs := [{ kid := 4, value := [118] }],
    lists := [{ kid := 3, pos := 0, elem := [101] }],
    sets := [{ rowid := 1, kid := 1, elem := eY }, { rowid := 2, kid := 1, elem := eX },
             { rowid := 3, kid := 2, elem := eZ }, { rowid := 4, kid := 2, elem := eY }] }

example : demo.Inv := by unfold DB.Inv; decide

/-- every hypothesis of `set_refines_partial` holds for operations of each kind on `demo`:
repeated and missing keys, keys of another type, empty key lists, failing moves, every oracle -/
example : ∀ op ∈ [Op.setAdd kA [eX, eW, eW], .setAdd kN [eX, eY, eX], .setAdd kL [eX], .setAdd kA [],
      .setDelete kA [eX, eW], .setDelete kN [eX], .setDelete kC [eX],
      .setDiff [kA, kB, kN, kL], .setDiff [kA, kA], .setDiff [], .setInter [kA, kB], .setInter [kA, kL],
      .setInter [kA, kA], .setInter [kB, kA, kB, kA], .setInter [kA, kN, kA], .setInter [], .setUnion [kA, kA, kL, kN, kB], .setUnion [],
      .setDiffStore kN [kA, kB], .setDiffStore kB [kA, kA], .setDiffStore kL [kA],
      .setInterStore kN [kA, kB], .setInterStore kL [kA, kB], .setInterStore kA [],
      .setInterStore kN [kA, kB, kA], .setInterStore kC [kB, kB],
      .setUnionStore kN [kA, kB, kL, kA], .setUnionStore kB [kA, kC], .setUnionStore kN [],
      .setExists kA eX, .setExists kL eX, .setItems kA, .setItems kN, .setLen kB, .setLen kC,
      .setMove kA kB eX, .setMove kA kA eX, .setMove kA kN eX, .setMove kA kL eX, .setMove kN kA eX,
      .setMove kA kB eZ, .setPop kA (some eX), .setPop kA (some eZ), .setPop kA none, .setPop kN none,
      .setPop kL (some eX), .setRandom kB (some eZ), .setRandom kB none, .setRandom kN none],
    IsSetOp op ∧ Stale op 10 demo = false ∧ DestIsSource op = false := by
  decide +kernel

/-- the intersection clause instantiated on repeated keys: "b" ∩ "a" ∩ "b" ∩ "a" = {"y"} -/
example : (Model.dbRun (.setInter [kB, kA, kB, kA]) 10 demo).out = .ok (.list [.bytes eY]) := by rfl

example : ∃ l : List Bytes, (Model.dbRun (.setInter [kB, kA, kB, kA]) 10 demo).out
      = .ok (.list (l.map .bytes)) ∧ l.Nodup ∧
      ∀ e, e ∈ l ↔ ∀ k ∈ [kB, kA, kB, kA], e ∈ Spec.setAt (Spec.abs 10 demo) k :=
  inter_is_inter _ 10 demo (by unfold DB.Inv; decide) (by simp)

/-- `InterStore("n", "a", "b", "a")` reports 1 and "n" becomes {"y"} -/
example :
    (Model.dbRun (.setInterStore kN [kA, kB, kA]) 10 demo).out = .ok (.int 1) ∧
    Spec.setAt (Spec.abs 10 (Model.dbRun (.setInterStore kN [kA, kB, kA]) 10 demo).db) kN = [eY] :=
  ⟨by rfl, by decide +kernel⟩

/-- the clauses instantiated on `demo`: "a" ∪ "a" ∪ "l" ∪ "n" ∪ "b" = {"x","y","z"} -/
example : (Model.dbRun (.setUnion [kA, kA, kL, kN, kB]) 10 demo).out
    = .ok (.list [.bytes eX, .bytes eY, .bytes eZ]) := by rfl

example : ∃ l : List Bytes, (Model.dbRun (.setUnion [kA, kA, kL, kN, kB]) 10 demo).out
      = .ok (.list (l.map .bytes)) ∧ l.Nodup ∧
      ∀ e, e ∈ l ↔ ∃ k ∈ [kA, kA, kL, kN, kB], e ∈ Spec.setAt (Spec.abs 10 demo) k :=
  union_is_union _ 10 demo (by unfold DB.Inv; decide)

/-- `Add("a", "x", "w", "w")` reports 1 and "a" becomes {"w","x","y"} -/
example :
    (Model.dbRun (.setAdd kA [eX, eW, eW]) 10 demo).out = .ok (.int 1) ∧
    Spec.setAt (Spec.abs 10 (Model.dbRun (.setAdd kA [eX, eW, eW]) 10 demo).db) kA = [eW, eX, eY] :=
  ⟨by rfl, by decide +kernel⟩

/-- `DiffStore("b", "a", "a")` leaves "b" empty and keeps its expiry 100 -/
example :
    Spec.get (Spec.abs 10 (Model.dbRun (.setDiffStore kB [kA, kA]) 10 demo).db) kB
      = some ⟨.set [], some 100⟩ := by decide +kernel

/-- a run on `demo` that satisfies the hypotheses of `set_seq_refines`: add, move, the clock
advances, store an intersection (over a key list with a repeated key), pop, store a union over a key that has expired meanwhile -/
def demoRun : List (Op × Int) :=
  [(.setAdd kN [eX, eZ], 10), (.setMove kA kN eY, 11), (.setInterStore kC [kA], 11),
   (.setInterStore kD [kB, kN, kB], 12), (.setPop kN (some eZ), 12), (.setUnionStore kA [kB, kN, kD], 200),
   (.setLen kA, 200)]

instance decCleanRun : ∀ tr db, Decidable (CleanRun tr db)
  | [], _ => isTrue trivial
  | (op, now) :: rest, db =>
    have := decCleanRun rest (Model.dbRun op now db).db
    inferInstanceAs (Decidable (_ ∧ _ ∧ _ ∧ _))

instance decClockOk : ∀ t tr, Decidable (ClockOk t tr)
  | _, [] => isTrue trivial
  | t, (_, now) :: rest =>
    have := decClockOk now rest
    inferInstanceAs (Decidable (t ≤ now ∧ ClockOk now rest))

example : ClockOk 10 demoRun ∧ CleanRun demoRun demo := by decide +kernel

/-- at 200 the key "b" (expiry 100) is gone, so "a" = "n" ∪ "d" = {"x","y"} ∪ {"y","z"}; the
store into the string "c" was refused -/
example : (runSpec demoRun (Spec.abs 10 demo)).2
    = [(kA, ⟨.set [eX, eY, eZ], none⟩), (kC, ⟨.str [118], none⟩), (kD, ⟨.set [eY, eZ], none⟩),
       (kL, ⟨.list [[101]], none⟩), (kN, ⟨.set [eX, eY], none⟩)] := by
  decide +kernel

end Redka.Props.C03
