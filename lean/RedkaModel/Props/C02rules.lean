/-
  C02 — the index rule of the property, clause by clause, for `Range` and `Trim`:

    "negative indexes count from the tail"      range_negative_start, range_negative_stop
    "out-of-range bounds are clamped"           range_clamps_start, range_clamps_stop, range_past_end_empty
    "inverted or empty ranges select nothing"   range_inverted_empty
    in-range bounds select positions a … b      range_in_range
    a range is a contiguous piece of the list   range_infix
    `Trim` leaves what `Range` returned         trim_keeps_range
    sorted-set ranks (C05)                      rank_negative_empty, rank_inverted_empty, rank_in_range, rank_stop_clamped

  Each holds for every list and all integers, with no side condition: they are corollaries of
  `range_refines` / `trim_refines` (full strength since the repair of D01/D02 — before it every one of them
  was false of the code somewhere in the region of `raw_slice_exact_region`). `listRange_refines` /
  `listTrim_refines` (`Proofs/ListRef`) carry them to the tables: the model's `listRange` returns `Spec.lrange` of the
  stored elements.
-/
import RedkaModel.Props.C02idx

namespace Redka.Props.C02
open Redka Redka.Model Redka.Proofs.Index

theorem normIdx_neg {n a : Int} (h : a < 0) : Spec.normIdx n a = n + a := if_pos h

theorem normIdx_nonneg {n a : Int} (h : 0 ≤ a) : Spec.normIdx n a = a := if_neg (by omega)

/-- the Redis window as one `take` of one `drop`, on the raw arguments -/
theorem lrange_take_drop {α} (l : List α) (a b : Int) :
    Spec.lrange l a b =
      (l.drop (Spec.normIdx l.length a).toNat).take
        (Spec.normIdx l.length b - max (Spec.normIdx l.length a) 0 + 1).toNat := by
  rw [lrange_eq_clampSlice, clampSlice_eq]

/-- "negative indexes count from the tail": a negative start within the list is the same as its
distance from the head -/
theorem range_negative_start {α} (l : List α) (a b : Int) (ha : a < 0) (ha' : -(l.length : Int) ≤ a) :
    modelRange l a b = modelRange l ((l.length : Int) + a) b := by
  rw [range_refines, range_refines, lrange_take_drop, lrange_take_drop,
    normIdx_nonneg (a := (l.length : Int) + a) (by omega), normIdx_neg ha]

theorem range_negative_stop {α} (l : List α) (a b : Int) (hb : b < 0) (hb' : -(l.length : Int) ≤ b) :
    modelRange l a b = modelRange l a ((l.length : Int) + b) := by
  rw [range_refines, range_refines, lrange_take_drop, lrange_take_drop,
    normIdx_nonneg (a := (l.length : Int) + b) (by omega), normIdx_neg hb]

/-- "out-of-range bounds are clamped": a start before the head is the head -/
theorem range_clamps_start {α} (l : List α) (a b : Int) (ha : a ≤ -(l.length : Int)) :
    modelRange l a b = modelRange l 0 b := by
  have h : Spec.normIdx l.length a ≤ 0 := by unfold Spec.normIdx; split <;> omega
  rw [range_refines, range_refines, lrange_take_drop, lrange_take_drop, normIdx_nonneg (Int.le_refl 0),
    Int.max_eq_right h, Int.toNat_of_nonpos h, Int.max_self]
  rfl

/-- … and a stop past the tail is the tail (`-1`) -/
theorem range_clamps_stop {α} (l : List α) (a b : Int) (hb : (l.length : Int) ≤ b) :
    modelRange l a b = modelRange l a (-1) := by
  rw [range_refines, range_refines, lrange_take_drop, lrange_take_drop, normIdx_nonneg (a := b) (by omega),
    normIdx_neg (a := -1) (by decide), List.take_of_length_le, List.take_of_length_le] <;>
  rw [List.length_drop] <;> omega

/-- "inverted or empty ranges select nothing" -/
theorem range_inverted_empty {α} (l : List α) (a b : Int)
    (h : Spec.normIdx l.length b < Spec.normIdx l.length a) : modelRange l a b = [] := by
  rw [range_refines, lrange_take_drop, show (_ - _ + 1 : Int).toNat = 0 by omega, List.take_zero]

theorem range_past_end_empty {α} (l : List α) (a b : Int) (h : (l.length : Int) ≤ a) :
    modelRange l a b = [] := by
  rw [range_refines, lrange_take_drop, normIdx_nonneg (a := a) (by omega), List.drop_eq_nil_of_le (by omega),
    List.take_nil]

/-- in-range, ordered, non-negative bounds select exactly the elements at positions `a … b` -/
theorem range_in_range {α} (l : List α) (a b : Nat) (hab : a ≤ b) (hb : b < l.length) :
    modelRange l a b = (l.drop a).take (b - a + 1) ∧ (modelRange l (a : Int) (b : Int)).length = b - a + 1 := by
  have h : modelRange l a b = (l.drop a).take (b - a + 1) := by
    rw [range_refines, lrange_take_drop, normIdx_nonneg (a := a) (by omega),
      normIdx_nonneg (a := b) (by omega), Int.toNat_natCast, show ((b : Int) - max (a : Int) 0 + 1).toNat = b - a + 1 by omega]
  refine ⟨h, ?_⟩
  rw [h, List.length_take, List.length_drop]; omega

/-- a range is always a contiguous piece of the list -/
theorem range_infix {α} (l : List α) (a b : Int) : modelRange l a b <:+: l := by
  rw [range_refines, lrange_take_drop]
  exact (List.take_prefix _ _).isInfix.trans (List.drop_suffix _ _).isInfix

/-- after `Trim(a, b)` the list is exactly what `Range(a, b)` returned before -/
theorem trim_keeps_range {α} (l : List α) (a b : Int) :
    modelRange (modelTrimKeep l a b) 0 (-1) = Spec.lrange l a b := by
  rw [full_range_is_list, trim_refines]; rfl

example : modelRange ['a', 'b', 'c', 'd'] (-3) 2 = modelRange ['a', 'b', 'c', 'd'] 1 2 :=
  range_negative_start _ _ _ (by decide) (by decide)
example : modelRange ['a', 'b', 'c'] (-7) 1 = ['a', 'b'] := by decide
example : modelRange ['a', 'b', 'c'] 1 99 = modelRange ['a', 'b', 'c'] 1 (-1) := range_clamps_stop _ _ _ (by decide)
example : modelRange ['a', 'b', 'c'] (-1) (-2) = [] := range_inverted_empty _ _ _ (by decide)
example : (modelRange ['a', 'b', 'c', 'd'] (1 : Nat) (2 : Nat)).length = 2 := (range_in_range _ 1 2 (by decide) (by decide)).2

/-! ### sorted-set ranks (C05): the same rule, without negative indexes -/

/-- sorted-set ranks are never negative: a negative bound selects nothing (range and remove alike) -/
theorem rank_negative_empty {α} (l : List α) (a b : Int) (h : a < 0 ∨ b < 0) :
    modelRankRange l a b = [] ∧ modelRankDelete l a b = [] := by
  rw [rank_delete_refines, rank_range_refines]
  unfold Spec.rankSlice
  have : a < 0 ∨ b < 0 ∨ a > b := by omega
  simp [this]

/-- an inverted rank interval selects nothing -/
theorem rank_inverted_empty {α} (l : List α) (a b : Int) (h : b < a) :
    modelRankRange l a b = [] ∧ modelRankDelete l a b = [] := by
  rw [rank_delete_refines, rank_range_refines]
  unfold Spec.rankSlice
  have : a < 0 ∨ b < 0 ∨ a > b := by omega
  simp [this]

/-- in-range ranks select exactly the positions `a … b`; a stop past the end is clamped -/
theorem rank_in_range {α} (l : List α) (a b : Nat) (hab : a ≤ b) :
    modelRankRange l a b = (l.drop a).take (b - a + 1) := by
  rw [rank_range_refines]
  unfold Spec.rankSlice
  have : ¬ ((a : Int) < 0 ∨ (b : Int) < 0 ∨ (a : Int) > b) := by omega
  rw [if_neg this]
  congr 1
  omega

theorem rank_stop_clamped {α} (l : List α) (a b : Nat) (hab : a ≤ b) (hb : l.length ≤ b + 1) :
    modelRankRange l a b = l.drop a := by
  rw [rank_in_range l a b hab, List.take_of_length_le]
  rw [List.length_drop]; omega

example : modelRankRange [0, 1, 2, 3, 4] (2 : Nat) (100 : Nat) = [2, 3, 4] := rank_stop_clamped _ 2 100 (by decide) (by decide)
example : modelRankDelete [0, 1, 2, 3, 4] (-1) 3 = [] := (rank_negative_empty _ _ _ (Or.inl (by decide))).2

end Redka.Props.C02
