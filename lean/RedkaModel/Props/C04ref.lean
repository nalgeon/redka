/-
  C04 — hashes behave like a map from key to a field-to-value map (refinement proof).

  "For every sequence of hash operations each key holds exactly the field-to-value map an
  in-memory map would hold: set, multi-set and set-if-absent report truthfully which fields were
  created rather than overwritten, get, multi-get, exists, fields, values, items and length agree
  with one another, delete reports exactly the number of fields removed, and integer and float
  increments behave as on strings (missing field counts as zero, non-numeric fields fail without
  effect)."

  What is proved here. `Model.dbRun` is the statement-level model of the `DB`-level methods of
  `internal/rhash` over the six tables; `Spec.step` is the in-memory map; `Spec.abs now db` is the
  keyspace a table state stands for at clock value `now` (only unexpired keys). The theorem
  `hash_refines_partial` says that one call of any hash operation but `Scan` (`Covered`: the thirteen
  `Delete, Exists, Fields, Get, GetMany, Incr, IncrFloat, Items, Len, Set, SetMany, SetNotExists,
  Values`), on any table state satisfying the structural invariant C11 (`DB.Inv`),
  with any arguments and any clock value, returns what the map returns and leaves tables that stand
  for the map's new state — outside two narrow, decidable classes of inputs on which the real code
  (and therefore the model) is known to deviate:

    * `Stale` (known finding D05): the operation writes to a name whose stored key row has expired
      but has not been cleaned up yet;
    * `Overflow` (known finding D17): an integer increment whose exact sum does not fit in int64.

  Both are shown to be real by concrete witnesses (`stale_set_deviates`, `stale_incr_deviates`,
  `stale_othertype_deviates`, `overflow_deviates`), so the full-strength statement is false
  (`full_strength_is_false`).

  Argument hypotheses (about the *encoding* of the arguments, not about the code):
    * `ArgsInRange`: `Op.hashIncr` carries an unbounded `Int` where Go has an `int`
      (`incr_arg_out_of_range` shows the statement is false without it);
    * `DistinctFields`: `Op.hashSetMany` carries a list where Go has a `map[string]any`, whose
      fields are distinct by construction (`repeated_field_deviates` shows the statement is false
      for a list with a repeated field). The model applies the items in list order; Go iterates
      the map in an unspecified order: `setmany_order_irrelevant` shows that the order does not
      matter, neither for the result nor for the keyspace the tables stand for afterwards.

  Float increment is covered on the numeric domain of `valueFloat` / `formatFloatDec` (plain decimal
  texts denoting dyadic rationals, sums with at most 15 significant digits); outside it model and
  specification both answer "not decided" and change nothing, so the theorem holds there trivially.
  Out of scope (`Covered op = false`, `uncovered_are_skip`): `Scan`, for which `Spec.step` answers
  `skip` (scans are C16's business).

  `hash_seq_refines` lifts the single step to any sequence of covered hash operations at
  non-decreasing clock values. It rests on `hash_preserves_hwf` (the operations keep `HWF`, the
  consequence of the invariant the proofs use) and on `Spec.abs_mono`.

  Results are compared with `=` on `Out` (`Spec.outEq` is built from `partial def`s and is opaque
  to the kernel); hash results never contain key rows, so `=` is the stronger statement.

  Lemmas live in `RedkaModel/Proofs/HashRows.lean` (the `rhash` table as a list of rows),
  `HashRef.lean` (tables against the abstraction) and `HashOps.lean` (one lemma per operation).
-/
import RedkaModel.Proofs.HashOps
import RedkaModel.Props.C17

namespace Redka.Props.C04

open Redka Redka.Model Redka.Spec Redka.HashRef

/-- the operations of `DB.Hash()` -/
def isHashOp : Op → Bool
  | .hashDelete .. | .hashExists .. | .hashFields _ | .hashGet .. | .hashGetMany .. | .hashIncr ..
  | .hashIncrFloat .. | .hashItems _ | .hashLen _ | .hashScan .. | .hashSet .. | .hashSetMany ..
  | .hashSetNotExists .. | .hashValues _ => true
  | _ => false

/-- the hash operations the theorem speaks about: all but `Scan` -/
def Covered : Op → Bool
  | .hashDelete .. | .hashExists .. | .hashFields _ | .hashGet .. | .hashGetMany .. | .hashIncr ..
  | .hashIncrFloat .. | .hashItems _ | .hashLen _ | .hashSet .. | .hashSetMany .. | .hashSetNotExists ..
  | .hashValues _ => true
  | _ => false

def IsFamOp (op : Op) : Prop := Covered op = true

instance (op : Op) : Decidable (IsFamOp op) := inferInstanceAs (Decidable (_ = true))

/-- Case analysis over the covered operations: what holds of the thirteen holds of every one. -/
theorem famOp_cases {motive : Op → Prop}
    (delete : ∀ k fs, motive (.hashDelete k fs)) (exist : ∀ k f, motive (.hashExists k f))
    (fields : ∀ k, motive (.hashFields k)) (get : ∀ k f, motive (.hashGet k f))
    (getMany : ∀ k fs, motive (.hashGetMany k fs)) (incr : ∀ k f d, motive (.hashIncr k f d))
    (incrFloat : ∀ k f d, motive (.hashIncrFloat k f d)) (items : ∀ k, motive (.hashItems k))
    (len : ∀ k, motive (.hashLen k)) (set : ∀ k f v, motive (.hashSet k f v))
    (setMany : ∀ k items, motive (.hashSetMany k items))
    (setNX : ∀ k f v, motive (.hashSetNotExists k f v)) (values : ∀ k, motive (.hashValues k)) :
    ∀ op, IsFamOp op → motive op := by
  intro op hop
  unfold IsFamOp Covered at hop
  split at hop
  · exact delete _ _
  · exact exist _ _
  · exact fields _
  · exact get _ _
  · exact getMany _ _
  · exact incr _ _ _
  · exact incrFloat _ _ _
  · exact items _
  · exact len _
  · exact set _ _ _
  · exact setMany _ _
  · exact setNX _ _ _
  · exact values _
  · cases hop

/-- …and over the whole family: the covered operations and `Scan`. -/
theorem hashOp_cases {motive : Op → Prop} (fam : ∀ op, IsFamOp op → motive op)
    (scan : ∀ k c p n, motive (.hashScan k c p n)) : ∀ op, isHashOp op = true → motive op := by
  intro op hop
  unfold isHashOp at hop
  split at hop
  iterate 9 exact fam _ rfl
  · exact scan _ _ _ _
  iterate 4 exact fam _ rfl
  · cases hop

/-- what `Covered` leaves out of the family (`Scan`) the specification never decides -/
theorem uncovered_are_skip : ∀ (op : Op) (now : Int) (s : State), isHashOp op = true →
    Covered op = false → (Spec.step op now s).out = .error .outOfDomain := by
  intro op now s h1
  revert op
  apply hashOp_cases
  · intro op hop h2; rw [hop] at h2; cases h2
  · intros; rfl

/-- …and `Covered` holds of operations of the family only -/
theorem covered_is_hash : ∀ op, Covered op = true → isHashOp op = true := by
  apply famOp_cases <;> intros <;> rfl

/-- D05, exactly as in `Spec.known`: the name the operation writes to is held by a stored row
whose expiry has passed -/
def Stale (op : Op) (now : Int) (db : DB) : Bool :=
  (Spec.writeKeys op).any (Spec.staleKey db now)

/-- D17, exactly as in `Spec.known`: the stored field is an integer and the exact sum does not fit
in int64 -/
def Overflow (op : Op) (now : Int) (db : DB) : Bool :=
  match op with
  | .hashIncr k f d =>
    (match Model.hashGetRaw db k f now with
     | some v => (match valueInt v with
       | some n => !inInt64 (n + d)
       | none => false)
     | none => false)
  | _ => false

/-- the increment argument is a Go `int` -/
def ArgsInRange : Op → Bool
  | .hashIncr _ _ d => inInt64 d
  | _ => true

/-- the items of a multi-set come from a Go map: their fields are pairwise different -/
def DistinctFields : Op → Bool
  | .hashSetMany _ items => nodupB (items.map (·.1))
  | _ => true

/-- The two classifiers are the entries D05 and D17 of the catalogue of known findings that the
driver consults (`Spec.known`), for every hash operation (covered or not). -/
theorem classifiers_are_the_catalogue : ∀ (inTx : Bool) (op : Op) (now : Int) (db : DB),
    isHashOp op = true →
    Spec.known inTx op now db
      = (if Stale op now db then ["D05"] else []) ++ (if Overflow op now db then ["D17"] else []) := by
  intro inTx op now db
  revert op
  refine hashOp_cases (famOp_cases ?_ ?_ ?_ ?_ ?_ ?incr ?_ ?_ ?_ ?_ ?_ ?_ ?_) ?_
  case incr =>
    intro k f d
    simp only [Spec.known, Stale, Overflow]
    congr 1
    split
    · rename_i v h1
      split
      · rename_i n h2; simp [h1, h2]
      · rename_i h2; simp [h1, h2]
    · rename_i h1; simp [h1]
  all_goals intros; rfl

theorem stale_one {db : DB} {now : Int} {k : Bytes} (h : [k].any (Spec.staleKey db now) = false) :
    Spec.staleKey db now k = false := by
  simpa using h

/-- The theorem under `HWF`, the consequence of the invariant that the proof uses (`DB.WF`, the
unique index on `(kid, field)`, the cached length of hash keys, no orphan rows) and that every
hash operation preserves (`hash_preserves_hwf`). -/
theorem hash_refines_hwf : ∀ (op : Op) (now : Int) (db : DB),
    IsFamOp op → HWF db → ArgsInRange op = true → DistinctFields op = true →
    Stale op now db = false → Overflow op now db = false →
    let r := Model.dbRun op now db
    r.out = (Spec.step op now (Spec.abs now db)).out ∧
      Spec.abs now r.db = Spec.purge now (Spec.step op now (Spec.abs now db)).st := by
  intro op now db hop hw
  revert op
  apply famOp_cases
  case delete => exact fun k fs _ _ _ _ => hashDelete_refines hw now k fs
  case exist => exact fun k f _ _ _ _ => hashExists_refines hw now k f
  case fields => exact fun k _ _ _ _ => hashFields_refines hw.wf now k
  case get => exact fun k f _ _ _ _ => hashGet_refines hw now k f
  case getMany => exact fun k fs _ _ _ _ => hashGetMany_refines hw.wf now k fs
  case incr =>
    intro k f d harg _ hst hov
    refine hashIncr_refines hw (stale_one hst) f d harg ?_
    intro b n hb hn
    simpa [Overflow, hb, hn] using hov
  case incrFloat => exact fun k f d _ _ hst _ => hashIncrFloat_refines hw (stale_one hst) f d
  case items => exact fun k _ _ _ _ => hashItems_refines hw.wf now k
  case len => exact fun k _ _ _ _ => hashLen_refines hw now k
  case set => exact fun k f v _ _ hst _ => hashSet_refines hw (stale_one hst) f v
  case setMany => exact fun k items _ hdist hst _ => hashSetMany_refines hw (stale_one hst) ((nodupB_iff _).1 hdist)
  case setNX => exact fun k f v _ _ hst _ => hashSetNX_refines hw (stale_one hst) f v
  case values => exact fun k _ _ _ _ => hashValues_refines hw.wf now k

/-- **C04, partial refinement.** One call of any covered hash operation, on any table state
satisfying the structural invariant, for any arguments (increment a Go `int`, multi-set items with
distinct fields) and any clock value, outside the classes `Stale` (D05) and `Overflow` (D17): the
model returns exactly what the in-memory map returns, and the tables afterwards stand for exactly
the map's new state.

The full-strength statement (without `Stale`, `Overflow`) is FALSE of the code: see
`stale_set_deviates`, `stale_incr_deviates`, `stale_othertype_deviates`, `overflow_deviates`. -/
theorem hash_refines_partial : ∀ (op : Op) (now : Int) (db : DB),
    IsFamOp op → db.Inv → ArgsInRange op = true → DistinctFields op = true →
    Stale op now db = false → Overflow op now db = false →
    let r := Model.dbRun op now db
    r.out = (Spec.step op now (Spec.abs now db)).out ∧
      Spec.abs now r.db = Spec.purge now (Spec.step op now (Spec.abs now db)).st :=
  fun op now db hop hinv => hash_refines_hwf op now db hop (DB.Inv.hwf hinv)

/-- Every covered hash operation keeps `HWF` (for every state and argument, deviation classes
included). -/
theorem hash_preserves_hwf : ∀ (op : Op) (now : Int) (db : DB), IsFamOp op → HWF db →
    HWF (Model.dbRun op now db).db := by
  intro op now db hop hw
  have read : ∀ {op}, Spec.isRead op = true → HWF (Model.dbRun op now db).db :=
    fun h => (Clean.read_db_unchanged _ now db h).symm ▸ hw
  revert op
  apply famOp_cases
  case delete => exact fun k fs => update_pres hw (hashDelete_hwf hw k fs now)
  case incr => exact fun k f d => update_pres hw ((hashIncr_steps f d).hwf hw)
  case incrFloat => exact fun k f d => update_pres hw ((hashIncrFloat_steps f d).hwf hw)
  case set => exact fun k f v => update_pres hw ((hashSet_steps f v).hwf hw)
  case setMany => exact fun k items => update_pres hw ((hashSetMany_steps items).hwf hw)
  case setNX => exact fun k f v => update_pres hw ((hashSetNotExists_steps f v).hwf hw)
  all_goals intros; exact read rfl

/-- in particular the part `DB.WF` shared with the other families -/
theorem hash_preserves_wf : ∀ (op : Op) (now : Int) (db : DB), IsFamOp op → HWF db →
    (Model.dbRun op now db).db.WF :=
  fun op now db hop hw => (hash_preserves_hwf op now db hop hw).wf

/-- a run of timed calls on the tables: the results, and the tables at the end -/
def runModel : List (Op × Int) → DB → List Out × DB
  | [], db => ([], db)
  | (op, now) :: rest, db =>
    let r := Model.dbRun op now db
    let t := runModel rest r.db
    (r.out :: t.1, t.2)

/-- the same run on the in-memory map; a key disappears when the clock reaches its expiry -/
def runSpec : List (Op × Int) → State → List Out × State
  | [], s => ([], s)
  | (op, now) :: rest, s =>
    let r := Spec.step op now (Spec.purge now s)
    let t := runSpec rest (Spec.purge now r.st)
    (r.out :: t.1, t.2)

/-- no call of the run falls into a known deviation class, judged on the tables it meets -/
def CleanRun : List (Op × Int) → DB → Prop
  | [], _ => True
  | (op, now) :: rest, db =>
    IsFamOp op ∧ ArgsInRange op = true ∧ DistinctFields op = true ∧ Stale op now db = false ∧
      Overflow op now db = false ∧ CleanRun rest (Model.dbRun op now db).db

/-- the clock does not run backwards -/
def ClockOk : Int → List (Op × Int) → Prop
  | _, [] => True
  | t, (_, now) :: rest => t ≤ now ∧ ClockOk now rest

def lastClock : Int → List (Op × Int) → Int
  | t, [] => t
  | _, (_, now) :: rest => lastClock now rest

/-- **C04 for sequences.** Any sequence of covered hash operations at non-decreasing clock values,
started on tables satisfying the invariant part and never meeting a known deviation class: every
call returns what the in-memory map returns, and at the end the tables stand for exactly the
map. -/
theorem hash_seq_refines : ∀ (tr : List (Op × Int)) (t : Int) (db : DB), HWF db → ClockOk t tr →
    CleanRun tr db →
    (runModel tr db).1 = (runSpec tr (Spec.abs t db)).1 ∧
      Spec.abs (lastClock t tr) (runModel tr db).2 = (runSpec tr (Spec.abs t db)).2
  | [], _, _, _, _, _ => ⟨rfl, rfl⟩
  | (op, now) :: rest, t, db, hw, hc, hcl => by
    obtain ⟨hop, harg, hdist, hst, hov, hrest⟩ := hcl
    obtain ⟨href1, href2⟩ := hash_refines_hwf op now db hop hw harg hdist hst hov
    have ih := hash_seq_refines rest now (Model.dbRun op now db).db
      (hash_preserves_hwf op now db hop hw) hc.2 hrest
    simp only [runModel, runSpec, lastClock]
    rw [← abs_mono hw.wf.names hc.1, ← href1, ← href2]
    exact ⟨by rw [ih.1], ih.2⟩

/-- … in particular from any state satisfying the C11 invariant. -/
theorem hash_seq_refines_inv : ∀ (tr : List (Op × Int)) (t : Int) (db : DB), db.Inv → ClockOk t tr →
    CleanRun tr db →
    (runModel tr db).1 = (runSpec tr (Spec.abs t db)).1 ∧
      Spec.abs (lastClock t tr) (runModel tr db).2 = (runSpec tr (Spec.abs t db)).2 :=
  fun tr t db hinv => hash_seq_refines tr t db (DB.Inv.hwf hinv)

/-- `SetMany` takes a Go map, which is iterated in an unspecified order; the model applies a list
in order. For items with distinct fields every order gives the same result and tables that stand
for the same keyspace (they may differ in rowids, which nothing but `Scan` observes). -/
theorem setmany_order_irrelevant : ∀ (k : Bytes) (items items' : List (Bytes × Bytes)) (now : Int)
    (db : DB), db.Inv → items.Perm items' → (items.map (·.1)).Nodup →
    Spec.staleKey db now k = false →
    (Model.dbRun (.hashSetMany k items) now db).out = (Model.dbRun (.hashSetMany k items') now db).out ∧
    Spec.abs now (Model.dbRun (.hashSetMany k items) now db).db
      = Spec.abs now (Model.dbRun (.hashSetMany k items') now db).db := by
  intro k items items' now db hinv hp hnd hns
  have hw := DB.Inv.hwf hinv
  have hnd' : (items'.map (·.1)).Nodup := (hp.map _).nodup_iff.1 hnd
  have h1 := hashSetMany_refines hw hns hnd
  have h2 := hashSetMany_refines hw hns hnd'
  have hsp := specSetMany_perm (s := Spec.abs now db) (k := k) hp hnd (fun h et hg => by
    have hs := hashAt_sorted hw now k
    rwa [hashAt, hg] at hs)
  unfold Refines at h1 h2
  rw [hsp] at h1
  exact ⟨h1.1.trans h2.1.symm, h1.2.trans h2.2.symm⟩

/-- the field-to-value map the key `k` holds at `now`, in field order; empty for a key that does
not exist (or holds another type) -/
def fieldMap (now : Int) (db : DB) (k : Bytes) : List (Bytes × Bytes) := hashAt (Spec.abs now db) k

/-- it is a map: fields strictly increasing, so no field occurs twice -/
theorem fieldMap_sorted : ∀ (now : Int) (db : DB) (k : Bytes), db.Inv → Sorted (fieldMap now db k) :=
  fun now _ k hinv => hashAt_sorted (DB.Inv.hwf hinv) now k

/-- "get, multi-get, exists, fields, values, items and length agree with one another": on any
state satisfying the invariant, whatever sits at the name, all seven reads are functions of one
and the same field map. -/
theorem reads_agree : ∀ (k : Bytes) (now : Int) (db : DB), db.Inv →
    let m := fieldMap now db k
    (Model.dbRun (.hashItems k) now db).out
        = .ok (.list (m.map (fun p => .list [.bytes p.1, .bytes p.2]))) ∧
    (Model.dbRun (.hashFields k) now db).out = .ok (.list (m.map (fun p => .bytes p.1))) ∧
    (Model.dbRun (.hashValues k) now db).out
        = .ok (.list ((sortBy bytesLt (m.map (·.2))).map .bytes)) ∧
    (Model.dbRun (.hashLen k) now db).out = .ok (.int m.length) ∧
    (∀ f, (Model.dbRun (.hashGet k f) now db).out
        = match aget m f with
          | some v => .ok (.bytes v)
          | none => .error .notFound) ∧
    (∀ f, (Model.dbRun (.hashExists k f) now db).out = .ok (.bool (aget m f).isSome)) ∧
    (∀ fs, (Model.dbRun (.hashGetMany k fs) now db).out
        = .ok (.list ((m.filter (fun p => fs.contains p.1)).map
            (fun p => .list [.bytes p.1, .bytes p.2])))) := by
  intro k now db hinv
  have hw := DB.Inv.hwf hinv
  refine ⟨(hashItems_refines hw.wf now k).1, ?_, ?_, (hashLen_refines hw now k).1, ?_,
    fun f => (hashExists_refines hw now k f).1, fun fs => (hashGetMany_refines hw.wf now k fs).1⟩
  · refine Eq.trans (hashFields_refines hw.wf now k).1 ?_
    simp [Spec.ok, Spec.bytesList, List.map_map, fieldMap, Function.comp_def]
  · exact (hashValues_refines hw.wf now k).1
  · intro f
    refine Eq.trans (hashGet_refines hw now k f).1 ?_
    unfold Spec.hashGet fieldMap
    cases aget (hashAt (Spec.abs now db) k) f <;> rfl

/-- the length is the number of fields (and of items) enumerated -/
theorem len_counts_fields : ∀ (k : Bytes) (now : Int) (db : DB), db.Inv →
    ∃ fields items : List Val,
      (Model.dbRun (.hashFields k) now db).out = .ok (.list fields) ∧
      (Model.dbRun (.hashItems k) now db).out = .ok (.list items) ∧
      (Model.dbRun (.hashLen k) now db).out = .ok (.int fields.length) ∧
      items.length = fields.length := by
  intro k now db hinv
  obtain ⟨h1, h2, _, h4, _⟩ := reads_agree k now db hinv
  exact ⟨_, _, h2, h1, by rw [h4, List.length_map], by rw [List.length_map, List.length_map]⟩

/-- "missing key reads as empty" -/
theorem missing_key_reads_empty : ∀ (k : Bytes) (now : Int) (db : DB), db.Inv →
    Spec.get (Spec.abs now db) k = none →
    (Model.dbRun (.hashItems k) now db).out = .ok (.list []) ∧
    (Model.dbRun (.hashFields k) now db).out = .ok (.list []) ∧
    (Model.dbRun (.hashValues k) now db).out = .ok (.list []) ∧
    (Model.dbRun (.hashLen k) now db).out = .ok (.int 0) ∧
    (∀ f, (Model.dbRun (.hashGet k f) now db).out = .error .notFound) ∧
    (∀ f, (Model.dbRun (.hashExists k f) now db).out = .ok (.bool false)) ∧
    (∀ fs, (Model.dbRun (.hashGetMany k fs) now db).out = .ok (.list [])) ∧
    (∀ fs, (Model.dbRun (.hashDelete k fs) now db).out = .ok (.int 0)) := by
  intro k now db hinv hg
  have hm : fieldMap now db k = [] := by simp [fieldMap, hashAt, hg]
  obtain ⟨h1, h2, h3, h4, h5, h6, h7⟩ := reads_agree k now db hinv
  rw [hm] at h1 h2 h3 h4 h5 h6 h7
  refine ⟨h1, h2, h3, h4, h5, h6, h7, ?_⟩
  intro fs
  refine Eq.trans (hashDelete_refines (DB.Inv.hwf hinv) now k fs).1 ?_
  simp [Spec.hashDelete, hg, Spec.ok]

/-- the name holds a hash or nothing (visibly): no key of another type is in the way -/
def NotOtherType (now : Int) (db : DB) (k : Bytes) : Prop :=
  ∀ e, Spec.get (Spec.abs now db) k = some e → ∃ h, e.val = .hash h

theorem fieldMap_cases {now : Int} {db : DB} {k : Bytes} (hw : db.WF) (hno : NotOtherType now db k) :
    ∃ et, Writable (Spec.abs now db) k (fieldMap now db k) et ∧ liveAt now et = true := by
  cases hg : Spec.get (Spec.abs now db) k with
  | none => exact ⟨none, .inl ⟨hg, by simp [fieldMap, hashAt, hg], rfl⟩, rfl⟩
  | some e =>
    obtain ⟨h, hv⟩ := hno e hg
    obtain ⟨val, et⟩ := e
    simp only at hv
    subst hv
    exact ⟨et, .inr (by simp [fieldMap, hashAt, hg]), (get_abs_live hw hg).1⟩

/-- "set … report[s] truthfully which fields were created rather than overwritten": `Set` answers
`true` exactly when the field did not exist, and afterwards the key holds the old map with
`f ↦ v` (all other fields untouched). -/
theorem set_on_fieldmap : ∀ (k f v : Bytes) (now : Int) (db : DB), db.Inv →
    Spec.staleKey db now k = false → NotOtherType now db k →
    let m := fieldMap now db k
    let r := Model.dbRun (.hashSet k f v) now db
    r.out = .ok (.bool (aget m f).isNone) ∧ fieldMap now r.db k = aput m f v := by
  intro k f v now db hinv hns hno
  have hw := DB.Inv.hwf hinv
  obtain ⟨et, hwr, hlive⟩ := fieldMap_cases hw.wf hno
  have href : Refines now (Model.dbRun (.hashSet k f v) now db) _ := hashSet_refines hw hns f v
  rw [hashSet_writable hwr] at href
  exact ⟨href.1, hashAt_after hw.wf hlive href.2⟩

/-- a value that was set is the value read -/
theorem get_after_set : ∀ (k f v : Bytes) (now : Int) (db : DB), db.Inv →
    Spec.staleKey db now k = false → NotOtherType now db k →
    (Model.dbRun (.hashGet k f) now (Model.dbRun (.hashSet k f v) now db).db).out = .ok (.bytes v) := by
  intro k f v now db hinv hns hno
  have hw := DB.Inv.hwf hinv
  have hw' := hash_preserves_hwf (.hashSet k f v) now db rfl hw
  have hm := (set_on_fieldmap k f v now db hinv hns hno).2
  refine Eq.trans (hashGet_refines hw' now k f).1 ?_
  unfold Spec.hashGet
  unfold fieldMap at hm
  rw [hm, aget_aput]
  simp [Spec.ok]

/-- "set-if-absent": when the field exists nothing happens and the answer is `false`; otherwise it
is created and the answer is `true`. -/
theorem setnx_on_fieldmap : ∀ (k f v : Bytes) (now : Int) (db : DB), db.Inv →
    Spec.staleKey db now k = false → NotOtherType now db k →
    let m := fieldMap now db k
    let r := Model.dbRun (.hashSetNotExists k f v) now db
    ((aget m f).isSome = true → r.out = .ok (.bool false) ∧ fieldMap now r.db k = m) ∧
    (aget m f = none → r.out = .ok (.bool true) ∧ fieldMap now r.db k = aput m f v) := by
  intro k f v now db hinv hns hno
  have hw := DB.Inv.hwf hinv
  obtain ⟨et, hwr, hlive⟩ := fieldMap_cases hw.wf hno
  have href : Refines now (Model.dbRun (.hashSetNotExists k f v) now db) _ :=
    hashSetNX_refines hw hns f v
  rw [hashSetNX_writable hwr] at href
  refine ⟨fun hs => ?_, fun hf => ?_⟩
  · rw [if_pos hs] at href
    exact ⟨href.1, congrArg (hashAt · k) (href.2.trans (purge_abs hw.wf.names now))⟩
  · rw [if_neg (by rw [hf]; exact Bool.false_ne_true)] at href
    exact ⟨href.1, hashAt_after hw.wf hlive href.2⟩

/-- "multi-set": the answer is the number of items whose field did not exist, and afterwards the
key holds the old map with every item put in. -/
theorem setmany_on_fieldmap : ∀ (k : Bytes) (items : List (Bytes × Bytes)) (now : Int) (db : DB),
    db.Inv → (items.map (·.1)).Nodup → items ≠ [] →
    Spec.staleKey db now k = false → NotOtherType now db k →
    let m := fieldMap now db k
    let r := Model.dbRun (.hashSetMany k items) now db
    r.out = .ok (.int (items.filter (fun p => (aget m p.1).isNone)).length) ∧
    fieldMap now r.db k = items.foldl (fun acc p => aput acc p.1 p.2) m := by
  intro k items now db hinv hnd hne hns hno
  have hw := DB.Inv.hwf hinv
  obtain ⟨et, hwr, hlive⟩ := fieldMap_cases hw.wf hno
  have href : Refines now (Model.dbRun (.hashSetMany k items) now db) _ :=
    hashSetMany_refines hw hns hnd
  rw [hashSetMany_writable hwr (by cases items <;> simp_all)] at href
  exact ⟨href.1, hashAt_after hw.wf hlive href.2⟩

/-- "delete reports exactly the number of fields removed": afterwards the key holds the old map
without the listed fields, and the answer is the difference of the two sizes — which is what
`Len` reports before and after. -/
theorem delete_on_fieldmap : ∀ (k : Bytes) (fs : List Bytes) (now : Int) (db : DB), db.Inv →
    let m := fieldMap now db k
    let r := Model.dbRun (.hashDelete k fs) now db
    fieldMap now r.db k = m.filter (fun p => !fs.contains p.1) ∧
    r.out = .ok (.int ((m.length : Int) - (fieldMap now r.db k).length)) ∧
    (Model.dbRun (.hashLen k) now db).out = .ok (.int m.length) ∧
    (Model.dbRun (.hashLen k) now r.db).out = .ok (.int (fieldMap now r.db k).length) := by
  intro k fs now db hinv
  have hw := DB.Inv.hwf hinv
  have hw' := hash_preserves_hwf (.hashDelete k fs) now db rfl hw
  have href : Refines now (Model.dbRun (.hashDelete k fs) now db)
      (Spec.hashDelete (Spec.abs now db) k fs) := hashDelete_refines hw now k fs
  obtain ⟨hout, hst⟩ := spec_hashDelete (Spec.abs now db) k fs
  have hmap : fieldMap now (Model.dbRun (.hashDelete k fs) now db).db k
      = (fieldMap now db k).filter (fun p => !fs.contains p.1) := by
    show hashAt (Spec.abs now (Model.dbRun (.hashDelete k fs) now db).db) k = _
    rcases hst with ⟨hs, hsame⟩ | ⟨et, hg, hs⟩
    · rw [href.2, hs, purge_abs hw.wf.names]; exact hsame.symm
    · exact hashAt_after hw.wf (get_abs_live hw.wf hg).1 (hs ▸ href.2)
  refine ⟨hmap, ?_, (hashLen_refines hw now k).1, (hashLen_refines hw' now k).1⟩
  rw [hmap]
  exact href.1.trans hout

/-- "integer … increments behave as on strings (missing field counts as zero …)": the increment
reads the field as a number (`0` when the field or the key is missing), answers the sum, and
afterwards the field holds the canonical decimal text of the sum, which reads back as the sum. -/
theorem incr_on_fieldmap : ∀ (k f : Bytes) (d n : Int) (now : Int) (db : DB), db.Inv →
    Spec.staleKey db now k = false → NotOtherType now db k →
    let m := fieldMap now db k
    valueInt ((aget m f).getD []) = some n → inInt64 d = true → inInt64 (n + d) = true →
    let r := Model.dbRun (.hashIncr k f d) now db
    r.out = .ok (.int (n + d)) ∧ fieldMap now r.db k = aput m f (itoa (n + d)) ∧
    valueInt (itoa (n + d)) = some (n + d) := by
  intro k f d n now db hinv hns hno m hn hd hnd
  have hw := DB.Inv.hwf hinv
  have hrt : valueInt (itoa (n + d)) = some (n + d) := by
    simp only [inInt64, Bool.and_eq_true] at hnd
    exact Redka.Props.C17.valueInt_itoa (n + d) (of_decide_eq_true hnd.1) (of_decide_eq_true hnd.2)
  have hn' : valueInt ((aget (hashAt (Spec.abs now db) k) f).getD []) = some n := hn
  obtain ⟨et, hwr, hlive⟩ := fieldMap_cases hw.wf hno
  have href : Refines now (Model.dbRun (.hashIncr k f d) now db) (Spec.hashIncr (Spec.abs now db) k f d) := by
    refine hashIncr_refines hw hns f d hd ?_
    intro b n2 hb hn2
    rw [hashGetRaw_abs hw] at hb
    rw [hb, Option.getD_some, hn2] at hn'
    cases hn'
    exact hnd
  rw [hashIncr_writable hwr, show valueInt ((aget (fieldMap now db k) f).getD []) = some n from hn] at href
  exact ⟨href.1, hashAt_after hw.wf hlive href.2, hrt⟩

/-- "…non-numeric fields fail without effect": on a visible hash whose field is not the text of
an integer the increment reports a value-type error and the tables are untouched. -/
theorem incr_nonnumeric_fails : ∀ (k f b : Bytes) (d : Int) (now : Int) (db : DB), db.Inv →
    aget (fieldMap now db k) f = some b → valueInt b = none →
    (Model.dbRun (.hashIncr k f d) now db).out = .error .valueType ∧
    (Model.dbRun (.hashIncr k f d) now db).db = db := by
  intro k f b d now db hinv hf hn
  have hw := DB.Inv.hwf hinv
  have hraw : Model.hashGetRaw db k f now = some b := (hashGetRaw_abs hw now k f).trans hf
  have hout : (Model.dbRun (.hashIncr k f d) now db).out = .error .valueType := by
    show (update (fun x => Model.hashIncr x k f d now) db).out = _
    simp [update, Model.hashIncr, hraw, hn, Res.err]
  exact ⟨hout, update_error_db hout⟩

def bK : Bytes := [107]          -- "k"
def bA : Bytes := [97]           -- "a"
def bB : Bytes := [98]           -- "b"
def bV : Bytes := [118]          -- "v"

/-- one hash key "k" = {a: "5"} whose expiry (5) has passed at `now = 10`, not yet cleaned up -/
def dbStaleHash : DB :=
  { keys := [{ id := 1, key := bK, ty := 4, version := 1, etime := some 5, mtime := 0, len := some 1 }],
    hashes := [{ rowid := 1, kid := 1, field := bA, value := [53] }] }

/-- one list key "k" = ["a"] whose expiry has passed, not yet cleaned up -/
def dbStaleList : DB :=
  { keys := [{ id := 1, key := bK, ty := 2, version := 1, etime := some 5, mtime := 0, len := some 1 }],
    lists := [{ kid := 1, pos := 0, elem := [97] }] }

/-- one hash key "k" = {a: "9223372036854775807"} -/
def dbMaxInt : DB :=
  { keys := [{ id := 1, key := bK, ty := 4, version := 1, etime := none, mtime := 0, len := some 1 }],
    hashes := [{ rowid := 1, kid := 1, field := bA,
                 value := [57,50,50,51,51,55,50,48,51,54,56,53,52,55,55,53,56,48,55] }] }

/-- one hash key "k" = {a: "1"} -/
def dbOne : DB :=
  { keys := [{ id := 1, key := bK, ty := 4, version := 1, etime := none, mtime := 0, len := some 1 }],
    hashes := [{ rowid := 1, kid := 1, field := bA, value := [49] }] }

def outInt : Out → Option Int
  | .ok (.int m) => some m
  | _ => none

theorem out_of_outInt {o : Out} {m : Int} (h : outInt o = some m) : o = .ok (.int m) := by
  cases o with
  | error e => simp [outInt] at h
  | ok v => cases v <;> simp_all [outInt]

/-- D05 is real (set). The hash "k" expired at 5; at 10 it does not exist, so setting field "b"
must create "k" = {b: "v"} without expiry. The model (like the code) answers `true` but reuses the
expired row — old field, old expiry and all: the key still does not exist afterwards. -/
theorem stale_set_deviates :
    dbStaleHash.Inv ∧ Stale (.hashSet bK bB bV) 10 dbStaleHash = true ∧
    Overflow (.hashSet bK bB bV) 10 dbStaleHash = false ∧
    (Model.dbRun (.hashSet bK bB bV) 10 dbStaleHash).out = .ok (.bool true) ∧
    Spec.get (Spec.abs 10 (Model.dbRun (.hashSet bK bB bV) 10 dbStaleHash).db) bK = none ∧
    Spec.get (Spec.purge 10 (Spec.step (.hashSet bK bB bV) 10 (Spec.abs 10 dbStaleHash)).st) bK
      = some ⟨.hash [(bB, bV)], none⟩ := by
  refine ⟨by unfold DB.Inv; decide, by decide, by decide, by rfl, by decide, by decide +kernel⟩

/-- D05 is real (increment): same state, increment of the leftover field "a" = "5" by 1. The map
answers 1 (the key does not exist); the model answers 1 as well (its read is guarded) but writes
into the expired row, and the key still does not exist afterwards. -/
theorem stale_incr_deviates :
    Stale (.hashIncr bK bA 1) 10 dbStaleHash = true ∧
    Overflow (.hashIncr bK bA 1) 10 dbStaleHash = false ∧
    (Model.dbRun (.hashIncr bK bA 1) 10 dbStaleHash).out = .ok (.int 1) ∧
    Spec.get (Spec.abs 10 (Model.dbRun (.hashIncr bK bA 1) 10 dbStaleHash).db) bK = none ∧
    Spec.get (Spec.purge 10 (Spec.step (.hashIncr bK bA 1) 10 (Spec.abs 10 dbStaleHash)).st) bK
      = some ⟨.hash [(bA, [49])], none⟩ := by
  refine ⟨by decide, by decide, out_of_outInt (by decide +kernel), by decide +kernel,
    by decide +kernel⟩

/-- D05 is real (other type). The list "k" expired at 5; at 10 the name is free, so a hash set
must succeed. The model (like the code) runs into the expired list row and answers `ErrKeyType`. -/
theorem stale_othertype_deviates :
    dbStaleList.Inv ∧ Stale (.hashSet bK bA bV) 10 dbStaleList = true ∧
    (Model.dbRun (.hashSet bK bA bV) 10 dbStaleList).out = .error .keyType ∧
    (Spec.step (.hashSet bK bA bV) 10 (Spec.abs 10 dbStaleList)).out = .ok (.bool true) := by
  refine ⟨by unfold DB.Inv; decide, by decide, by rfl, by rfl⟩

/-- D17 is real. 9223372036854775807 + 1: the map answers 9223372036854775808, the model (like
Go's `int` addition) wraps around to -9223372036854775808. -/
theorem overflow_deviates :
    dbMaxInt.Inv ∧ Stale (.hashIncr bK bA 1) 10 dbMaxInt = false ∧
    Overflow (.hashIncr bK bA 1) 10 dbMaxInt = true ∧
    (Model.dbRun (.hashIncr bK bA 1) 10 dbMaxInt).out = .ok (.int (-9223372036854775808)) ∧
    (Spec.step (.hashIncr bK bA 1) 10 (Spec.abs 10 dbMaxInt)).out = .ok (.int 9223372036854775808) := by
  refine ⟨by unfold DB.Inv; decide, by decide, by decide +kernel,
    out_of_outInt (by decide +kernel), out_of_outInt (by decide +kernel)⟩

/-- Hence the refinement statement without the two classifiers is false. -/
theorem full_strength_is_false :
    ¬ (∀ (op : Op) (now : Int) (db : DB), IsFamOp op → db.Inv → ArgsInRange op = true →
        DistinctFields op = true →
        (Model.dbRun op now db).out = (Spec.step op now (Spec.abs now db)).out ∧
        Spec.abs now (Model.dbRun op now db).db
          = Spec.purge now (Spec.step op now (Spec.abs now db)).st) := by
  intro h
  have h1 := (h (.hashSet bK bA bV) 10 dbStaleList rfl stale_othertype_deviates.1 rfl rfl).1
  rw [stale_othertype_deviates.2.2.1, stale_othertype_deviates.2.2.2] at h1
  cases h1

/-- …and it is false for `Stale` alone (without dropping `Overflow`) and for `Overflow` alone. -/
theorem each_classifier_is_needed :
    (∃ op now db, IsFamOp op ∧ db.Inv ∧ ArgsInRange op = true ∧ DistinctFields op = true ∧
      Overflow op now db = false ∧
      (Model.dbRun op now db).out ≠ (Spec.step op now (Spec.abs now db)).out) ∧
    (∃ op now db, IsFamOp op ∧ db.Inv ∧ ArgsInRange op = true ∧ DistinctFields op = true ∧
      Stale op now db = false ∧
      (Model.dbRun op now db).out ≠ (Spec.step op now (Spec.abs now db)).out) := by
  refine ⟨⟨.hashSet bK bA bV, 10, dbStaleList, rfl, stale_othertype_deviates.1, rfl, rfl, rfl, ?_⟩,
    ⟨.hashIncr bK bA 1, 10, dbMaxInt, rfl, overflow_deviates.1, rfl, rfl, overflow_deviates.2.1, ?_⟩⟩
  · rw [stale_othertype_deviates.2.2.1, stale_othertype_deviates.2.2.2]
    intro h; cases h
  · rw [overflow_deviates.2.2.2.1, overflow_deviates.2.2.2.2]
    intro h
    have := congrArg outInt h
    simp [outInt] at this

/-- `ArgsInRange` is needed only because `Op.hashIncr` carries an unbounded integer where Go has
an `int`: an "increment by 2^63" of a missing field wraps in the model. -/
theorem incr_arg_out_of_range :
    ArgsInRange (.hashIncr bK bA 9223372036854775808) = false ∧
    (Model.dbRun (.hashIncr bK bA 9223372036854775808) 10 {}).out
      = .ok (.int (-9223372036854775808)) ∧
    (Spec.step (.hashIncr bK bA 9223372036854775808) 10 (Spec.abs 10 {})).out
      = .ok (.int 9223372036854775808) := by
  refine ⟨by decide, out_of_outInt (by decide +kernel), out_of_outInt (by decide +kernel)⟩

/-- `DistinctFields` is needed only because `Op.hashSetMany` carries a list where Go has a map: for
the "map" {a: "v", a: "b"} on "k" = {a: "1"} the model's single `count(field)` statement finds one
existing row among two items and answers 1 created, the item-by-item specification answers 0. -/
theorem repeated_field_deviates :
    dbOne.Inv ∧ DistinctFields (.hashSetMany bK [(bA, bV), (bA, bB)]) = false ∧
    Stale (.hashSetMany bK [(bA, bV), (bA, bB)]) 10 dbOne = false ∧
    (Model.dbRun (.hashSetMany bK [(bA, bV), (bA, bB)]) 10 dbOne).out = .ok (.int 1) ∧
    (Spec.step (.hashSetMany bK [(bA, bV), (bA, bB)]) 10 (Spec.abs 10 dbOne)).out = .ok (.int 0) := by
  refine ⟨by unfold DB.Inv; decide, by decide, by decide,
    out_of_outInt (by decide +kernel), out_of_outInt (by decide +kernel)⟩

/-! ### non-vacuity: the hypotheses are satisfiable for every kind of operation -/

def bH : Bytes := [104]          -- "h"
def bG : Bytes := [103]          -- "g"
def bS : Bytes := [115]          -- "s"
def bN : Bytes := [110]          -- "n", not stored

/-- a hash "h" = {a: "41", b: "x"}, a hash "g" = {a: "7"} that expires at 100, a string "s" -/
def demo : DB :=
  { keys := [
      { id := 1, key := bH, ty := 4, version := 1, etime := none, mtime := 0, len := some 2 },
      { id := 2, key := bG, ty := 4, version := 3, etime := some 100, mtime := 0, len := some 1 },
      { id := 3, key := bS, ty := 1, version := 1, etime := none, mtime := 0, len := none }],
    strs := [{ kid := 3, value := [120] }],
    hashes := [{ rowid := 1, kid := 1, field := bB, value := [120] },
               { rowid := 2, kid := 1, field := bA, value := [52, 49] },
               { rowid := 3, kid := 2, field := bA, value := [55] }] }

example : demo.Inv := by unfold DB.Inv; decide

/-- every hypothesis of `hash_refines_partial` holds for an operation of each kind on `demo` -/
example : ∀ op ∈ [Op.hashGet bH bA, .hashGet bS bA, .hashGet bN bA, .hashExists bH bB,
      .hashFields bH, .hashValues bH, .hashItems bG, .hashLen bH, .hashGetMany bH [bA, bV],
      .hashSet bH bA bV, .hashSet bN bA bV, .hashSet bS bA bV, .hashSetNotExists bH bA bV,
      .hashSetNotExists bG bB bV, .hashSetMany bH [(bA, bV), (bV, bV)], .hashSetMany bN [(bA, bV)],
      .hashSetMany bS [], .hashIncr bH bA 1, .hashIncr bH bB 1, .hashIncr bG bV (-7),
      .hashIncr bN bA 5, .hashDelete bH [bA, bV], .hashDelete bS [bA], .hashDelete bN []],
    IsFamOp op ∧ ArgsInRange op = true ∧ DistinctFields op = true ∧ Stale op 10 demo = false ∧
      Overflow op 10 demo = false := by
  decide +kernel

/-- the theorem instantiated: the increment of "h".a = "41" on `demo` -/
example :
    (Model.dbRun (.hashIncr bH bA 1) 10 demo).out = .ok (.int 42) ∧
    fieldMap 10 (Model.dbRun (.hashIncr bH bA 1) 10 demo).db bH = [(bA, [52, 50]), (bB, [120])] := by
  have hg : Spec.get (Spec.abs 10 demo) bH = some ⟨.hash [(bA, [52, 49]), (bB, [120])], none⟩ := by
    decide +kernel
  have h := incr_on_fieldmap bH bA 1 41 10 demo (by unfold DB.Inv; decide) (by decide)
    (fun e he => ⟨_, by rw [hg] at he; cases he; rfl⟩) (by decide +kernel) (by decide) (by decide)
  exact ⟨h.1, by rw [h.2.1]; decide +kernel⟩

/-- a run on `demo` that satisfies the hypotheses of `hash_seq_refines`: create a hash, add to it,
increment with the clock advancing, delete, and read after "g" has expired -/
def demoRun : List (Op × Int) :=
  [(.hashSet bN bA [55], 10), (.hashSetMany bN [(bB, bV), (bA, [56])], 11), (.hashIncr bN bA 1, 11),
   (.hashSetNotExists bG bA bV, 12), (.hashDelete bH [bB], 12), (.hashItems bG, 200),
   (.hashLen bN, 200)]

instance decCleanRun : ∀ tr db, Decidable (CleanRun tr db)
  | [], _ => isTrue trivial
  | (op, now) :: rest, db =>
    have := decCleanRun rest (Model.dbRun op now db).db
    inferInstanceAs (Decidable (_ ∧ _ ∧ _ ∧ _ ∧ _ ∧ _))

instance decClockOk : ∀ t tr, Decidable (ClockOk t tr)
  | _, [] => isTrue trivial
  | t, (_, now) :: rest =>
    have := decClockOk now rest
    inferInstanceAs (Decidable (t ≤ now ∧ ClockOk now rest))

example : ClockOk 10 demoRun ∧ CleanRun demoRun demo := by decide +kernel

/-- at 200 the key "g" (expiry 100) is gone; "n" was created as {a: "7"}, then {a: "8", b: "v"},
then a ↦ "9"; "h" lost its field b -/
example : (runSpec demoRun (Spec.abs 10 demo)).2
    = [(bH, ⟨.hash [(bA, [52, 49])], none⟩), (bN, ⟨.hash [(bA, [57]), (bB, bV)], none⟩),
       (bS, ⟨.str [120], none⟩)] := by
  decide +kernel

end Redka.Props.C04
