/-
  Property C12: reads, refusals and nothing-to-do outcomes leave no trace.

  "An operation that is a pure read, or that is refused (wrong type, invalid value, syntax error),
  or that reports there was nothing to do (missing key, element or pivot, index out of range, unmet
  condition), changes nothing at all: not the data, not any key's expiry, version or modification
  time, and not any cached length. This holds on the handle and over the wire, and for the
  nothing-to-do outcomes also inside a caller-managed transaction or MULTI block that goes on to
  commit, so a database is observationally identical before and after any such operation."

  Every statement below is about the statement-level model (`Model.tx` = the `Tx` method, no
  rollback, partial effects stay; `Model.dbRun` = the `DB` method with the wrapper the source uses)
  and concludes RAW equality of the whole `DB` value: all six tables, hence every key row's
  `version`, `mtime`, `etime` and `len`, are the very same lists.

  All 85 constructors of `Op` are covered by every theorem; there is no `Covered` side condition
  and no excluded class: the classifier `K` of `nothing_to_do_notrace_tx_partial` is empty. Until
  the repair "list insert looks for the pivot before touching the key" it held defect D04
  (`InsertAfter` / `InsertBefore` with an absent pivot rewrote the key row, then reported "not
  found"); the model of the repaired method has no failing path that has written, so
  `nothing_to_do_notrace_tx` holds at full strength.
-/
import RedkaModel.Proofs.NoTrace

namespace Redka.Props.C12

open Redka Redka.Proofs.NoTrace

/-! ### pure reads -/

/-- A pure read leaves all six tables exactly as they were — at `Tx` level, so also inside a
caller-managed transaction that goes on to commit (`inTx` arbitrary). -/
theorem read_notrace : ∀ (inTx : Bool) (op : Op) (now : Int) (db : DB),
    Spec.isRead op = true → (Model.tx inTx op now db).db = db :=
  Proofs.NoTrace.read_notrace

/-- The same on the handle. -/
theorem read_notrace_db : ∀ (op : Op) (now : Int) (db : DB),
    Spec.isRead op = true → (Model.dbRun op now db).db = db := by
  intro op now db h
  rw [Dispatch.dbRun_of_read h]
  exact Proofs.NoTrace.read_notrace false op now db h

/-! ### refusals -/

/-- Every `DB`-level call that reports an error — any error, for all 85 operations — leaves all
six tables exactly as they were. For `update`-wrapped methods this is the rollback; for the
methods that run straight on a handle it is a fact about each of their error paths. -/
theorem refusal_notrace_db : ∀ (op : Op) (now : Int) (db : DB),
    (∃ e, (Model.dbRun op now db).out = .error e) → (Model.dbRun op now db).db = db :=
  fun _ _ _ ⟨_, he⟩ => Proofs.NoTrace.refusal_notrace_db he

/-! ### nothing to do -/

/-- Inside a caller-managed transaction (no rollback), every nothing-to-do outcome leaves all six
tables exactly as they were — full strength, all operations. No invariant is needed: in particular
`Delete` returning 0 on a set / hash / sorted set needs none, because the model (like the code)
skips the key update when no row was deleted. -/
theorem nothing_to_do_notrace_tx : ∀ (op : Op) (now : Int) (db : DB),
    Spec.nothingToDo op (Model.tx true op now db).out = true → (Model.tx true op now db).db = db :=
  fun _ _ _ h => Proofs.NoTrace.nothing_to_do_notrace h

/-- The same in the shape "outside a classifier `K` of known deviations"; `K` is empty
(`K_is_empty`). -/
theorem nothing_to_do_notrace_tx_partial : ∀ (op : Op) (now : Int) (db : DB),
    Spec.nothingToDo op (Model.tx true op now db).out = true → K op now db = false →
    (Model.tx true op now db).db = db :=
  fun op now db h _ => nothing_to_do_notrace_tx op now db h

theorem K_is_empty : ∀ (op : Op) (now : Int) (db : DB), K op now db = false := fun _ _ _ => rfl

/-- On the handle. -/
theorem nothing_to_do_notrace_db : ∀ (op : Op) (now : Int) (db : DB),
    Spec.nothingToDo op (Model.dbRun op now db).out = true → (Model.dbRun op now db).db = db :=
  fun _ _ _ h => Proofs.NoTrace.nothing_to_do_notrace_db h

/-- The situation of the former defect D04, on the repaired model: the list `k` holds the single
element `a`; `InsertAfter k b x` inside a transaction reports "pivot not found", a nothing-to-do
outcome, and the key row is untouched. -/
def d04db : DB :=
  { keys := [{ id := 1, key := [107], ty := TList, version := 1, etime := none, mtime := 0, len := some 1 }],
    lists := [{ kid := 1, pos := 0, elem := [97] }] }

theorem d04_repaired :
    Spec.nothingToDo (.listInsertAfter [107] [98] [120])
      (Model.tx true (.listInsertAfter [107] [98] [120]) 7 d04db).out = true ∧
    (Model.tx true (.listInsertAfter [107] [98] [120]) 7 d04db).db = d04db ∧
    Spec.nothingToDo (.listInsertBefore [107] [98] [120])
      (Model.tx true (.listInsertBefore [107] [98] [120]) 7 d04db).out = true ∧
    (Model.tx true (.listInsertBefore [107] [98] [120]) 7 d04db).db = d04db := by
  decide +kernel

/-! ### the judgement the correspondence driver applies (`Spec.noTrace`) -/

/-- On the handle, the model never fails the C12 judgement. -/
theorem noTrace_db : ∀ (op : Op) (now : Int) (db : DB),
    Spec.noTrace false op db (Model.dbRun op now db).db (Model.dbRun op now db).out ≠ some false := by
  intro op now db
  unfold Spec.noTrace
  split
  · rename_i ht
    have hsame : (Model.dbRun op now db).db = db := by
      simp only [Spec.traceless, Bool.or_eq_true, Bool.and_eq_true, Bool.not_false, true_and] at ht
      rcases ht with (hr | hn) | he
      · exact read_notrace_db op now db hr
      · exact nothing_to_do_notrace_db op now db hn
      · cases hout : (Model.dbRun op now db).out with
        | ok v => rw [hout] at he; cases he
        | error e => exact refusal_notrace_db op now db ⟨e, hout⟩
    rw [hsame]; simp
  · simp

/-- Inside a transaction the model never fails it either. -/
theorem noTrace_tx : ∀ (op : Op) (now : Int) (db : DB),
    Spec.noTrace true op db (Model.tx true op now db).db (Model.tx true op now db).out ≠ some false := by
  intro op now db
  unfold Spec.noTrace
  split
  · rename_i ht
    have hsame : (Model.tx true op now db).db = db := by
      simp only [Spec.traceless, Bool.or_eq_true, Bool.and_eq_true, Bool.not_true, false_and,
        or_false, Bool.false_eq_true] at ht
      rcases ht with hr | hn
      · exact read_notrace true op now db hr
      · exact nothing_to_do_notrace_tx op now db hn
    rw [hsame]; simp
  · simp

/-! ### non-vacuity -/

def db1 : DB :=
  { keys := [{ id := 1, key := [107], ty := TString, version := 3, etime := some 50, mtime := 2, len := none },
             { id := 2, key := [115], ty := TSet, version := 1, etime := none, mtime := 1, len := some 1 }],
    strs := [{ kid := 1, value := [118] }],
    sets := [{ rowid := 1, kid := 2, elem := [97] }] }

/-- a read that succeeds -/
example : Spec.isRead (.strGet [107]) = true ∧
    (Model.tx true (.strGet [107]) 7 db1).out matches .ok (.bytes [118]) := by decide +kernel
/-- a refusal: `Incr` on a set key is a type error at `DB` level, after `sqlUpdate1` has failed -/
example : ∃ e, (Model.dbRun (.strIncr [115] 1) 7 db1).out = .error e := ⟨.keyType, rfl⟩
/-- a refusal that needs the rollback: `Set` on a set key -/
example : ∃ e, (Model.dbRun (.strSet [115] [1]) 7 db1).out = .error e := ⟨.keyType, rfl⟩
/-- a refusal that needs the rollback: `Move` of a member to a name held by a string — the `Tx`
method has already removed the member from the source when adding to the destination fails;
`DB.Update` undoes it -/
example : (∃ e, (Model.dbRun (.setMove [115] [107] [97]) 7 db1).out = .error e) ∧
    (Model.tx true (.setMove [115] [107] [97]) 7 db1).db ≠ db1 ∧
    (Model.dbRun (.setMove [115] [107] [97]) 7 db1).db = db1 :=
  ⟨⟨.keyType, rfl⟩, by decide +kernel, by decide +kernel⟩
/-- nothing to do, `ok` flavour: deleting an absent member -/
example : Spec.nothingToDo (.setDelete [115] [[98]]) (Model.tx true (.setDelete [115] [[98]]) 7 db1).out = true := by decide +kernel
/-- nothing to do, error flavour: `Expire` of a missing key -/
example : Spec.nothingToDo (.keyExpire [120] 5) (Model.tx true (.keyExpire [120] 5) 7 db1).out = true := by decide +kernel
/-- nothing to do on a list insert: the key is missing -/
example : Spec.nothingToDo (.listInsertAfter [120] [98] [120])
      (Model.tx true (.listInsertAfter [120] [98] [120]) 7 db1).out = true := by decide +kernel
/-- the same operations do write when there is something to do -/
example : (Model.tx true (.setDelete [115] [[97]]) 7 db1).db ≠ db1 := by decide +kernel

end Redka.Props.C12
