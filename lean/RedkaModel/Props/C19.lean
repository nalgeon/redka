/-
  Property C19: key metadata tells the truth.

  "A live key's version number strictly increases with every successful change to its value or
  expiry and is untouched by reads and refused operations, its modification time never runs
  backwards and is refreshed by every successful change to its value, and its type and expiry as
  reported by the key lookup always match what the type-specific operations and the expiry
  commands last established; a key that is deleted (or fully replaced by a storing operation) and
  created again starts a new history."

  Every statement is about the statement-level model (`Model.tx true` = the `Tx` method inside a
  caller-managed transaction, partial effects of a failing method stay; `Model.dbRun` = the `DB`
  method with the wrapper the source uses), for ALL states satisfying the C11 invariant, ALL
  arguments and clock values, and ALL 85 constructors of `Op` (`Covered op = true` for all).

    * `meta_rules_db_partial` / `meta_rules_tx_partial`: the judgement `Spec.metaOK` that the
      driver applies to every real step holds of every model step, under the clock assumption
      `MonoClock now db` (no stored modification time is ahead of the clock of the call —
      `clock_is_needed` shows the statement is false without it) and outside the classifiers
      `KnownMeta` (K1, K2) / `KnownMetaTx` (K1, K2, K3), each with a closed witness, checked by
      evaluation, that `metaOK` really is false there (`k1_breaks`, `k2_breaks`, `k3_breaks`).
      The classifiers are EXACT (`meta_rules_db_exact`, `meta_rules_tx_exact`): the judgement
      holds if and only if the step is not classified. All three classes concern the destination
      row of a storing method; for every other row of every step nothing is excluded (`one_step`).
    * the readable corollaries, none of which needs a classifier, and only the two about the
      modification time not running backwards need the clock assumption;
    * `version_monotone_along_history`, `mtime_monotone_along_history`: histories;
    * `type_etime_truthful_*`: "type and expiry as reported by the key lookup" — corollaries of
      the six family refinement theorems.

  Definitions (`MonoClock`, `Covered`, `KnownMeta`, `KnownMetaTx`, `rowAt`, `ContRowM`, `Survives`,
  `ChangedIn`, `Clocked`, `createKey`, `tyEt`, `Truthful`, the witness databases) live in
  `Proofs/Meta*.lean`, namespace `Redka.MetaProofs`.
-/
import RedkaModel.Proofs.MetaHist
import RedkaModel.Proofs.MetaCor
import RedkaModel.Proofs.MetaTruth
import RedkaModel.Proofs.MetaWit
import RedkaModel.Proofs.MetaExact
import RedkaModel.Props.C01
import RedkaModel.Props.C02ref
import RedkaModel.Props.C03ref
import RedkaModel.Props.C04ref
import RedkaModel.Props.C05ref
import RedkaModel.Props.C06ref
import RedkaModel.Props.C11
import RedkaModel.Props.C12

namespace Redka.Props.C19

open Redka Redka.Model Redka.Spec Redka.MetaProofs Redka.InvP

/-- `Spec.metaOK` (a `Bool` built from `List.all`, `List.find?`, `decide`) says: every key row of
the post-state meets `RowOK` — `FreshRow` (version ≥ 1, mtime = now) for the destination of a
successful store, otherwise `PlainRow`: `ContRow` against the pre-state row with the same id and
name, "version grew, mtime = now, same type" against a pre-state row with the same id only
(rename), `FreshRow` when the id is new. -/
theorem metaOK_characterisation : ∀ (op : Op) (now : Int) (pre post : DB) (res : Out),
    Spec.metaOK op now pre post res = true ↔ ∀ r' ∈ post.keys, RowOK op now pre post res r' :=
  metaOK_iff

theorem covered_all : ∀ op : Op, Covered op = true := fun _ => rfl

/-- **C19 on the handle.** -/
theorem meta_rules_db_partial : ∀ (op : Op) (now : Int) (db : DB), db.Inv → MonoClock now db →
    Covered op = true → KnownMeta op now db = false →
    let r := Model.dbRun op now db
    Spec.metaOK op now db r.db r.out = true :=
  fun op now db h hm _ hk => metaOK_db op now db h hm hk

/-- **C19 inside a caller-managed transaction** (no rollback: the partial effects of a failing
method are judged too). -/
theorem meta_rules_tx_partial : ∀ (op : Op) (now : Int) (db : DB), db.Inv → MonoClock now db →
    Covered op = true → KnownMetaTx op now db = false →
    let r := Model.tx true op now db
    Spec.metaOK op now db r.db r.out = true :=
  fun op now db h hm _ hk => metaOK_tx op now db h hm hk

/-- The classifier is exact: on the handle the judgement holds if and only if the step is not
classified (the "only if" needs no clock assumption: `known_breaks_db`). -/
theorem meta_rules_db_exact : ∀ (op : Op) (now : Int) (db : DB), db.Inv → MonoClock now db →
    (Spec.metaOK op now db (Model.dbRun op now db).db (Model.dbRun op now db).out = true ↔
      KnownMeta op now db = false) := by
  intro op now db h hm
  constructor
  · intro hok
    cases hk : KnownMeta op now db
    · rfl
    · rw [known_db_false h hk] at hok; cases hok
  · exact fun hk => metaOK_db op now db h hm hk

theorem meta_rules_tx_exact : ∀ (op : Op) (now : Int) (db : DB), db.Inv → MonoClock now db →
    (Spec.metaOK op now db (Model.tx true op now db).db (Model.tx true op now db).out = true ↔
      KnownMetaTx op now db = false) := by
  intro op now db h hm
  constructor
  · intro hok
    cases hk : KnownMetaTx op now db
    · rfl
    · rw [known_tx_false h hk] at hok; cases hok
  · exact fun hk => metaOK_tx op now db h hm hk

theorem known_breaks_db : ∀ (op : Op) (now : Int) (db : DB), db.Inv → KnownMeta op now db = true →
    Spec.metaOK op now db (Model.dbRun op now db).db (Model.dbRun op now db).out = false :=
  fun _ _ _ h hk => known_db_false h hk

theorem known_breaks_tx : ∀ (op : Op) (now : Int) (db : DB), db.Inv → KnownMetaTx op now db = true →
    Spec.metaOK op now db (Model.tx true op now db).db (Model.tx true op now db).out = false :=
  fun _ _ _ h hk => known_tx_false h hk

/-- only storing methods are ever classified -/
theorem known_only_stores : ∀ (op : Op) (now : Int) (db : DB), Spec.storeDest op = none →
    KnownMeta op now db = false ∧ KnownMetaTx op now db = false := by
  intro op now db h
  simp [KnownMetaTx, KnownMeta, KnownStoreErr, h]

/-- at the `DB` level the third class is empty: the wrapper rolls a failing store back -/
theorem known_db_is_k1_k2 : ∀ (op : Op) (now : Int) (db : DB),
    KnownMetaTx op now db = (KnownMeta op now db || KnownStoreErr op now db) := fun _ _ _ => rfl

/-- Reads, refusals and nothing-to-do outcomes (C12): every key row — version, mtime, etime,
type, len — is the very same. -/
theorem reads_and_refusals_keep_metadata : ∀ (op : Op) (now : Int) (db : DB),
    Spec.traceless false op (Model.dbRun op now db).out = true →
    (Model.dbRun op now db).db = db ∧
    ∀ i k, rowAt (Model.dbRun op now db).db i k = rowAt db i k := by
  intro op now db ht
  have hsame : (Model.dbRun op now db).db = db := by
    simp only [Spec.traceless, Bool.or_eq_true, Bool.and_eq_true, Bool.not_false, true_and] at ht
    rcases ht with (hr | hn) | he
    · exact C12.read_notrace_db op now db hr
    · exact C12.nothing_to_do_notrace_db op now db hn
    · cases hout : (Model.dbRun op now db).out with
      | ok v => rw [hout] at he; cases he
      | error e => exact C12.refusal_notrace_db op now db ⟨e, hout⟩
  exact ⟨hsame, fun i k => by rw [hsame]⟩

/-- the same inside a caller-managed transaction (there a refusal may leave partial effects, so
only reads and nothing-to-do outcomes are traceless) -/
theorem reads_and_refusals_keep_metadata_tx : ∀ (op : Op) (now : Int) (db : DB),
    Spec.traceless true op (Model.tx true op now db).out = true →
    (Model.tx true op now db).db = db := by
  intro op now db ht
  simp only [Spec.traceless, Bool.or_eq_true, Bool.and_eq_true, Bool.not_true, false_and,
    or_false, Bool.false_eq_true] at ht
  rcases ht with hr | hn
  · exact C12.read_notrace true op now db hr
  · exact C12.nothing_to_do_notrace_tx op now db hn

/-- The key row with id `i` and name `k` before and after ONE call that is not a store into `k`:
no classifier and no clock assumption. All the following corollaries are projections of this. -/
theorem one_step : ∀ (op : Op) (now : Int) (db : DB) (i : Int) (k : Bytes) (r r' : KeyRow),
    db.Inv → Spec.storeDest op ≠ some k → rowAt db i k = some r →
    rowAt (Model.dbRun op now db).db i k = some r' →
    ContRowM now db (Model.dbRun op now db).db r r' :=
  fun _ _ _ _ _ _ _ h hs hr hr' => step_cont h hs hr hr'

theorem one_step_tx : ∀ (op : Op) (now : Int) (db : DB) (i : Int) (k : Bytes) (r r' : KeyRow),
    db.Inv → Spec.storeDest op ≠ some k → rowAt db i k = some r →
    rowAt (Model.tx true op now db).db i k = some r' →
    ContRowM now db (Model.tx true op now db).db r r' :=
  fun op now db _ _ _ _ h hs hr hr' => (tx_sum true op now db (WF.of_inv h)).cont (WF.of_inv h) hs hr hr'

/-- If the value or the expiry of a surviving key row changed, its version strictly increased. -/
theorem version_strictly_increases_on_change :
    ∀ (op : Op) (now : Int) (db : DB) (i : Int) (k : Bytes) (r r' : KeyRow),
    db.Inv → Spec.storeDest op ≠ some k → rowAt db i k = some r →
    rowAt (Model.dbRun op now db).db i k = some r' →
    (Spec.absVal db r ≠ Spec.absVal (Model.dbRun op now db).db r' ∨ r.etime ≠ r'.etime) →
    r.version < r'.version :=
  fun _ _ _ _ _ _ _ h hs hr hr' hch => (step_cont h hs hr hr').2.2.2.1 hch

/-- … and it never decreases, nor does the type change. -/
theorem version_never_decreases :
    ∀ (op : Op) (now : Int) (db : DB) (i : Int) (k : Bytes) (r r' : KeyRow),
    db.Inv → Spec.storeDest op ≠ some k → rowAt db i k = some r →
    rowAt (Model.dbRun op now db).db i k = some r' → r.version ≤ r'.version ∧ r.ty = r'.ty :=
  fun _ _ _ _ _ _ _ h hs hr hr' => ⟨(step_cont h hs hr hr').1, (step_cont h hs hr hr').2.2.1⟩

/-- A change of the value refreshes the modification time. -/
theorem mtime_refreshed_on_value_change :
    ∀ (op : Op) (now : Int) (db : DB) (i : Int) (k : Bytes) (r r' : KeyRow),
    db.Inv → Spec.storeDest op ≠ some k → rowAt db i k = some r →
    rowAt (Model.dbRun op now db).db i k = some r' →
    Spec.absVal db r ≠ Spec.absVal (Model.dbRun op now db).db r' → r'.mtime = now :=
  fun _ _ _ _ _ _ _ h hs hr hr' hch => (step_cont h hs hr hr').2.2.2.2 hch

/-- The modification time never runs backwards — provided the clock does not. -/
theorem mtime_never_backwards :
    ∀ (op : Op) (now : Int) (db : DB) (i : Int) (k : Bytes) (r r' : KeyRow),
    db.Inv → MonoClock now db → Spec.storeDest op ≠ some k → rowAt db i k = some r →
    rowAt (Model.dbRun op now db).db i k = some r' → r.mtime ≤ r'.mtime :=
  fun _ _ _ _ _ _ _ h hm hs hr hr' => (step_cont h hs hr hr').2.1 hm

/-- … and the clock assumption is inherited by the post-state, for the same clock value (hence
for any later one). -/
theorem clock_assumption_preserved : ∀ (op : Op) (now : Int) (db : DB), db.Inv →
    MonoClock now db → MonoClock now (Model.dbRun op now db).db :=
  fun op now db h hm => db_mono op now db h hm

/-- `Expire` / `ExpireAt` / `Persist` on a live key: its row gets version + 1 and the new expiry
— nothing else: not the modification time, not the type, not the name. (Every other row is
covered by `one_step`: for these three methods the value part of `ContRowM` is vacuous.) -/
theorem expire_bumps_version_not_mtime : ∀ (k : Bytes) (now : Int) (db : DB) (r : KeyRow),
    db.Inv → db.liveKey k now = some r →
    (∀ t, rowAt (Model.dbRun (.keyExpireAt k t) now db).db r.id k =
      some { r with version := r.version + 1, etime := some t }) ∧
    (∀ ttl, rowAt (Model.dbRun (.keyExpire k ttl) now db).db r.id k =
      some { r with version := r.version + 1, etime := some (now + ttl) }) ∧
    rowAt (Model.dbRun (.keyPersist k) now db).db r.id k =
      some { r with version := r.version + 1, etime := none } := by
  intro k now db r h hl
  obtain ⟨hat, hp⟩ := expiry_rows (WF.of_inv h) hl
  exact ⟨hat, fun ttl => hat (now + ttl), hp⟩

/-- … and no other row's version, mtime, value or type moves (their `etime` is theirs too). -/
theorem expire_touches_one_row : ∀ (op : Op) (now : Int) (db : DB),
    (match op with | .keyExpire .. | .keyExpireAt .. | .keyPersist _ => True | _ => False) →
    ∀ r' ∈ (Model.dbRun op now db).db.keys, ∃ r ∈ db.keys,
      r' = r ∨ (r' = { r with version := r'.version, etime := r'.etime } ∧ r.version < r'.version) := by
  intro op now db hop
  cases op with
  | keyExpire k ttl => exact (keyExpire_step (db := db) k ttl now).keys
  | keyExpireAt k t => exact (keyExpireAt_step (db := db) k t now).keys
  | keyPersist k => exact (keyPersist_step (db := db) k now).keys
  | _ => cases hop

/-- A successful store (with a non-empty source list) starts a new history for its destination:
version 1, modification time of the call — whatever the destination was before (absent, or a
live key of the family with any version). The one exception is the D05 situation, a stored row
whose expiry has passed (`staleKey`): see `store_onto_stale_continues`. -/
theorem store_starts_new_history : ∀ (op : Op) (d : Bytes) (now : Int) (db : DB), db.Inv →
    Spec.storeDest op = some d → emptyStore op = false → Spec.staleKey db now d = false →
    Spec.isErr (Model.dbRun op now db).out = false →
    ∀ r' ∈ (Model.dbRun op now db).db.keys, r'.key = d → r'.version = 1 ∧ r'.mtime = now := by
  intro op d now db h hd hne hst hE r' hr' hk
  obtain ⟨hmt, hcase⟩ := store_dest_row (WF.of_inv h) hd hne hE r' hr' hk
  cases hcase with
  | new _ hv => exact ⟨hv, hmt⟩
  | stale r hr hkr _ _ _ hlive =>
    exfalso
    have hf : db.findKey d = some r := hkr ▸ findKey_of_mem (WF.of_inv h) hr
    simp [Spec.staleKey, hf, hlive] at hst
  | live r0 _ hsm _ => exact ⟨hsm.version, hmt⟩

/-- The judgement the driver applies to every observed store (`Spec.storeHistory`, verdict `H`) is
never violated by the model of the code: on the handle, for every operation, state and clock. -/
theorem store_history_judgement : ∀ (op : Op) (now : Int) (db : DB), db.Inv →
    Spec.storeHistory op now db (Model.dbRun op now db).db (Model.dbRun op now db).out ≠ some false := by
  intro op now db h
  unfold Spec.storeHistory
  cases hd : Spec.storeDest op with
  | none => simp
  | some d =>
    dsimp only
    split
    · simp
    · rename_i hc
      simp only [Bool.or_eq_true, not_or, Bool.not_eq_true] at hc
      have hne : emptyStore op = false := by rw [← hc.1.2]; cases op <;> rfl
      have hall := store_starts_new_history op d now db h hd hne hc.2 hc.1.1
      have : ((Model.dbRun op now db).db.keys.all
          (fun r' => r'.key != d || (r'.version == 1 && r'.mtime == now))) = true :=
        List.all_eq_true.2 (fun r' hr' => by
          by_cases hk : r'.key = d
          · simp [hall r' hr' hk]
          · simp [hk])
      simp [this]

/-- In the D05 situation the destination row continues: version + 1 (and mtime = now). -/
theorem store_onto_stale_continues : ∀ (op : Op) (d : Bytes) (now : Int) (db : DB) (r : KeyRow),
    db.Inv → Spec.storeDest op = some d → emptyStore op = false → db.findKey d = some r →
    r.live now = false → Spec.isErr (Model.dbRun op now db).out = false →
    ∀ r' ∈ (Model.dbRun op now db).db.keys, r'.key = d →
      r'.version = r.version + 1 ∧ r'.mtime = now ∧ r'.id = r.id := by
  intro op d now db r h hd hne hf hlive hE r' hr' hk
  have hw := WF.of_inv h
  obtain ⟨hrm, hrk⟩ := findKey_some hf
  obtain ⟨hmt, hcase⟩ := store_dest_row hw hd hne hE r' hr' hk
  cases hcase with
  | new hfree _ => exact absurd hrk (hfree r hrm).1
  | stale r2 hr2 hkr hid _ hv _ =>
    have : r2 = r := eq_of_key_eq hw.uKey hr2 hrm (hkr.trans hrk.symm)
    subst this
    exact ⟨hv, hmt, hid⟩
  | live r0 hl _ _ =>
    exfalso
    obtain ⟨hr0, hk0, _⟩ := liveKeyT_some hl
    have : r0 = r := eq_of_key_eq hw.uKey hr0 hrm (hk0.trans hrk.symm)
    subst this
    rw [liveKeyT_live hl] at hlive
    cases hlive

/-- A key that is deleted and created again starts a new history: after `Delete` of `k`, any
method that creates `k` with one key upsert (`createKey`) leaves `k` with version 1 and the
modification time of the call — even when the new row reuses the id of the deleted one
(`recreated_reuses_id`). (`SetMany`-style methods run one upsert per item and may end above 1.) -/
theorem recreated_key_starts_at_version_one :
    ∀ (ks : List Bytes) (k : Bytes) (now now' : Int) (db : DB) (op : Op),
    db.Inv → db.fk = true → k ∈ ks → Spec.staleKey db now k = false → createKey op = some k →
    let db1 := (Model.dbRun (.keyDelete ks) now db).db
    ∀ r' ∈ (Model.dbRun op now' db1).db.keys, r'.key = k → r'.version = 1 ∧ r'.mtime = now' := by
  intro ks k now now' db op h hfk hk hst hc
  exact create_fresh_db (WF.of_inv (C11.inv_step_db (.keyDelete ks) now db h hfk)) now' hc
    (keyDelete_absent (WF.of_inv h) hk hst)

/-- A successful rename carries the row over: same id, type, expiry and cached length; the new
name; version + 1; the modification time of the call. -/
theorem rename_carries_version : ∀ (k nk : Bytes) (now : Int) (db : DB) (r : KeyRow),
    db.Inv → db.liveKey k now = some r → k ≠ nk →
    Spec.isErr (Model.dbRun (.keyRename k nk) now db).out = false →
    rowAt (Model.dbRun (.keyRename k nk) now db).db r.id nk =
      some { r with key := nk, version := r.version + 1, mtime := now } :=
  fun _ _ _ _ _ h hl hne hok => keyRename_row (WF.of_inv h) hl hne hok

/-- Along any history of `DB`-level calls in which the key row `(i, k)` survives every step and
no call is a store into `k`: its version never decreases, its type never changes, and if its
value or expiry changed at some step the version is strictly larger at the end. No classifier,
no clock assumption. -/
theorem version_monotone_along_history : ∀ (ops : List (Op × Int)) (i : Int) (k : Bytes) (db : DB),
    db.Inv → db.fk = true → Survives i k ops db →
    ∀ r r', rowAt db i k = some r → rowAt (C11.run ops db) i k = some r' →
      r.version ≤ r'.version ∧ r.ty = r'.ty ∧ (ChangedIn i k ops db → r.version < r'.version) :=
  fun ops i k db h hfk hs r r' hr hr' =>
    have hh := history_mono i k ops db h hfk hs r r' hr hr'
    ⟨hh.1, hh.2.1, hh.2.2.1⟩

/-- With clocks that do not run backwards (`Clocked`: every clock of the history is at or after
every stored modification time, and the clocks are non-decreasing) the modification time of a
surviving key row never decreases. -/
theorem mtime_monotone_along_history : ∀ (ops : List (Op × Int)) (i : Int) (k : Bytes) (db : DB),
    db.Inv → db.fk = true → Clocked ops db → Survives i k ops db →
    ∀ r r', rowAt db i k = some r → rowAt (C11.run ops db) i k = some r' → r.mtime ≤ r'.mtime :=
  fun ops i k db h hfk hc hs r r' hr hr' => (history_mono i k ops db h hfk hs r r' hr hr').2.2.2 hc

theorem truthful_of_refines {op : Op} {now : Int} {db : DB} (h : db.Inv) (hfk : db.fk = true)
    (href : Spec.abs now (Model.dbRun op now db).db =
      Spec.purge now (Spec.step op now (Spec.abs now db)).st) : Truthful op now db := by
  refine ⟨(truthful_of_abs href).1, (truthful_of_abs (inTx := false) (res := .ok .nil) href).2, fun k => ?_⟩
  have hpost := C11.inv_step_db op now db h hfk
  have := (C06.key_refines_partial (.keyGet k) now (Model.dbRun op now db).db rfl hpost rfl rfl rfl rfl).1
  rw [href] at this
  exact this

theorem type_etime_truthful_str : ∀ (op : Op) (now : Int) (db : DB),
    C01.IsStrOp op → db.Inv → db.fk = true → C01.ArgsInRange op = true →
    C01.Stale op now db = false → C01.Overflow op now db = false → Truthful op now db :=
  fun op now db hop h hfk h1 h2 h3 =>
    truthful_of_refines h hfk (C01.str_refines_partial op now db hop h h1 h2 h3).2

theorem type_etime_truthful_list : ∀ (op : Op) (now : Int) (db : DB),
    C02.IsListOp op → db.Inv → db.fk = true → C02.Stale op now db = false →
    C02.Spacious op now db = true → Truthful op now db :=
  fun op now db hop h hfk h1 h2 =>
    truthful_of_refines h hfk (C02.list_refines_partial op now db hop h h1 h2).2

theorem type_etime_truthful_set : ∀ (op : Op) (now : Int) (db : DB),
    C03.IsSetOp op → db.Inv → db.fk = true → C03.Stale op now db = false →
    C03.DestIsSource op = false → Truthful op now db :=
  fun op now db hop h hfk h1 h2 =>
    truthful_of_refines h hfk (C03.set_refines_partial op now db hop h h1 h2).2

theorem type_etime_truthful_hash : ∀ (op : Op) (now : Int) (db : DB),
    C04.IsFamOp op → db.Inv → db.fk = true → C04.ArgsInRange op = true →
    C04.DistinctFields op = true → C04.Stale op now db = false → C04.Overflow op now db = false →
    Truthful op now db :=
  fun op now db hop h hfk h1 h2 h3 h4 =>
    truthful_of_refines h hfk (C04.hash_refines_partial op now db hop h h1 h2 h3 h4).2

theorem type_etime_truthful_zset : ∀ (op : Op) (now : Int) (db : DB),
    C05.IsZOp op → db.Inv → db.fk = true → C05.Covered op = true → C05.ArgsOk op = true →
    C05.Decided op now db = true → C05.Stale op now db = false →
    C05.DestIsSource op = false → C05.SumOrder op = false → Truthful op now db :=
  fun op now db hop h hfk h1 h2 h3 h4 h5 h6 =>
    truthful_of_refines h hfk (C05.zset_refines_partial op now db hop h h1 h2 h3 h4 h5 h6).2

theorem type_etime_truthful_key : ∀ (op : Op) (now : Int) (db : DB),
    C06.IsFamOp op → db.Inv → db.fk = true → C06.LenStale op now db = false →
    C06.EmptyName op now db = false → C06.BangClass op = false → C06.Judged op now db = true →
    Truthful op now db :=
  fun op now db hop h hfk h1 h2 h3 h4 =>
    truthful_of_refines h hfk (C06.key_refines_partial op now db hop h h1 h2 h3 h4).2

/-- Without the clock assumption the statement is false: the row `s` carries the modification time
100, `SET s w` at clock 5 writes `mtime = 5` — "the modification time ran backwards". -/
theorem clock_is_needed : ∃ (op : Op) (now : Int) (db : DB), db.Inv ∧ Covered op = true ∧
    KnownMeta op now db = false ∧ ¬ MonoClock now db ∧
    Spec.metaOK op now db (Model.dbRun op now db).db (Model.dbRun op now db).out = false :=
  ⟨.strSet [115] [119], 5, aheadDb, by decide +kernel⟩

/-- K1: `SDIFFSTORE t` with no source succeeds and changes nothing, so the destination row `t`
(mtime 3) does not carry the modification time of the call. -/
theorem k1_breaks : sample.Inv ∧ MonoClock 10 sample ∧
    KnownMeta (.setDiffStore [116] []) 10 sample = true ∧
    Spec.metaOK (.setDiffStore [116] []) 10 sample (Model.dbRun (.setDiffStore [116] []) 10 sample).db
      (Model.dbRun (.setDiffStore [116] []) 10 sample).out = false ∧
    Spec.traceless false (.setDiffStore [116] []) (Model.dbRun (.setDiffStore [116] []) 10 sample).out = true := by
  decide +kernel

/-- K2: a store onto an expired-but-stored row with version −1 leaves it with version 0 < 1. -/
theorem k2_breaks : staleNeg.Inv ∧ MonoClock 10 staleNeg ∧
    KnownMeta (.setUnionStore [116] [[117]]) 10 staleNeg = true ∧
    Spec.metaOK (.setUnionStore [116] [[117]]) 10 staleNeg
      (Model.dbRun (.setUnionStore [116] [[117]]) 10 staleNeg).db
      (Model.dbRun (.setUnionStore [116] [[117]]) 10 staleNeg).out = false := by
  decide +kernel

/-- K3: `ZUNIONSTORE z a b` where `a` and `b` give `m` the scores `+inf` and `-inf` fails with
`NOT NULL` (the sum is NaN) after the live destination `z` (version 2) has been reset and upserted
to version 1: inside a transaction that goes on to commit the version ran backwards. On the
handle the wrapper rolls back and the judgement holds. -/
theorem k3_breaks : infDb.Inv ∧ MonoClock 10 infDb ∧
    KnownMetaTx (.zUnionStore [122] [[97], [98]] .sum) 10 infDb = true ∧
    KnownMeta (.zUnionStore [122] [[97], [98]] .sum) 10 infDb = false ∧
    Spec.metaOK (.zUnionStore [122] [[97], [98]] .sum) 10 infDb
      (Model.tx true (.zUnionStore [122] [[97], [98]] .sum) 10 infDb).db
      (Model.tx true (.zUnionStore [122] [[97], [98]] .sum) 10 infDb).out = false ∧
    Spec.metaOK (.zUnionStore [122] [[97], [98]] .sum) 10 infDb
      (Model.dbRun (.zUnionStore [122] [[97], [98]] .sum) 10 infDb).db
      (Model.dbRun (.zUnionStore [122] [[97], [98]] .sum) 10 infDb).out = true := by
  decide +kernel

/-- a method that runs one upsert per item may leave a created key above version 1 (allowed:
`metaOK` asks for version ≥ 1), which is why `recreated_key_starts_at_version_one` speaks about
`createKey` methods -/
theorem many_may_exceed_one :
    ((Model.dbRun (.hashSetMany [104] [([102], [49]), ([103], [50])]) 10 sample).db.keys.map
      (fun r => (r.key, r.version))).contains ([104], 2) = true := by decide +kernel

/-! ### 6. non-vacuity: the hypotheses are satisfiable and the steps really write -/

theorem sample_inv : sample.Inv := by decide +kernel
theorem sample_clock : MonoClock 10 sample := by decide +kernel

example : sample.Inv ∧ sample.fk = true ∧ MonoClock 10 sample := ⟨sample_inv, rfl, sample_clock⟩

/-- `SET s w` on the string key with a TTL: the theorem applies, the row goes 3 → 4, mtime 5 → 10 -/
example : Spec.metaOK (.strSet [115] [119]) 10 sample (Model.dbRun (.strSet [115] [119]) 10 sample).db
    (Model.dbRun (.strSet [115] [119]) 10 sample).out = true :=
  meta_rules_db_partial (.strSet [115] [119]) 10 sample sample_inv sample_clock rfl (by decide +kernel)
example : ((Model.dbRun (.strSet [115] [119]) 10 sample).db.keys.map (fun r => (r.id, r.version, r.mtime, r.etime))).head?
    = some (1, 4, 10, none) := by decide +kernel
/-- `RPUSH l c` on the two-element list, `SADD t y` on the set, a store onto the live set -/
example : Spec.metaOK (.listPushBack [108] [99]) 10 sample (Model.dbRun (.listPushBack [108] [99]) 10 sample).db
    (Model.dbRun (.listPushBack [108] [99]) 10 sample).out = true :=
  meta_rules_db_partial _ 10 sample sample_inv sample_clock rfl (by decide +kernel)
example : Spec.metaOK (.setAdd [116] [[121]]) 10 sample (Model.dbRun (.setAdd [116] [[121]]) 10 sample).db
    (Model.dbRun (.setAdd [116] [[121]]) 10 sample).out = true :=
  meta_rules_db_partial _ 10 sample sample_inv sample_clock rfl (by decide +kernel)
example : Spec.metaOK (.setUnionStore [116] [[116]]) 10 sample (Model.dbRun (.setUnionStore [116] [[116]]) 10 sample).db
    (Model.dbRun (.setUnionStore [116] [[116]]) 10 sample).out = true :=
  meta_rules_db_partial _ 10 sample sample_inv sample_clock rfl (by decide +kernel)
/-- inside a transaction: `RPOPLPUSH l s` pops `b`, then fails on the string destination; the
pop stays and is judged -/
example : Spec.metaOK (.listPopBackPushFront [108] [115]) 10 sample
    (Model.tx true (.listPopBackPushFront [108] [115]) 10 sample).db
    (Model.tx true (.listPopBackPushFront [108] [115]) 10 sample).out = true :=
  meta_rules_tx_partial _ 10 sample sample_inv sample_clock rfl (by decide +kernel)
example : Spec.isErr (Model.tx true (.listPopBackPushFront [108] [115]) 10 sample).out = true ∧
    (Model.tx true (.listPopBackPushFront [108] [115]) 10 sample).db ≠ sample := by decide +kernel

/-- a read and a refusal -/
example : Spec.traceless false (.strGet [115]) (Model.dbRun (.strGet [115]) 10 sample).out = true ∧
    Spec.traceless false (.strIncr [116] 1) (Model.dbRun (.strIncr [116] 1) 10 sample).out = true := by decide +kernel
example : (Model.dbRun (.strIncr [116] 1) 10 sample).db = sample :=
  (reads_and_refusals_keep_metadata _ 10 sample (by decide +kernel)).1

/-- `one_step` and its projections on the string key: value changed, expiry changed -/
example : ∃ r r', rowAt sample 1 [115] = some r ∧
    rowAt (Model.dbRun (.strSet [115] [119]) 10 sample).db 1 [115] = some r' ∧
    Spec.absVal sample r ≠ Spec.absVal (Model.dbRun (.strSet [115] [119]) 10 sample).db r' ∧
    r.etime ≠ r'.etime ∧ r.version < r'.version ∧ r'.mtime = 10 :=
  ⟨_, _, rfl, rfl, by decide +kernel, by decide +kernel, by decide +kernel, by decide +kernel⟩
example : ∀ r r', rowAt sample 1 [115] = some r →
    rowAt (Model.dbRun (.strSet [115] [119]) 10 sample).db 1 [115] = some r' → r.version < r'.version :=
  fun r r' hr hr' => version_strictly_increases_on_change (.strSet [115] [119]) 10 sample 1 [115] r r'
    sample_inv (by decide +kernel) hr hr'
    (.inr (by
      have e1 : r = _ := (Option.some.inj hr).symm
      have e2 : r' = _ := (Option.some.inj hr').symm
      subst e1; subst e2; decide +kernel))

/-- `EXPIREAT s 200`, `PERSIST s` -/
example : rowAt (Model.dbRun (.keyExpireAt [115] 200) 10 sample).db 1 [115] =
    some { id := 1, key := [115], ty := TString, version := 4, etime := some 200, mtime := 5, len := none } :=
  (expire_bumps_version_not_mtime [115] 10 sample _ sample_inv rfl).1 200
example : rowAt (Model.dbRun (.keyPersist [115]) 10 sample).db 1 [115] =
    some { id := 1, key := [115], ty := TString, version := 4, etime := none, mtime := 5, len := none } :=
  (expire_bumps_version_not_mtime [115] 10 sample _ sample_inv rfl).2.2

/-- a store onto the live set `t` (version 7): version 1; onto the expired `t` (version 4): 5 -/
example : ∀ r' ∈ (Model.dbRun (.setUnionStore [116] [[116]]) 10 sample).db.keys, r'.key = [116] →
    r'.version = 1 ∧ r'.mtime = 10 :=
  store_starts_new_history _ [116] 10 sample sample_inv rfl rfl (by decide +kernel) (by decide +kernel)
example : ((Model.dbRun (.setUnionStore [116] [[116]]) 10 sample).db.keys.map (fun r => (r.key, r.version))).contains
    ([116], 1) = true := by decide +kernel
example : ∀ r' ∈ (Model.dbRun (.setUnionStore [116] [[117]]) 10 staleDest).db.keys, r'.key = [116] →
    r'.version = 4 + 1 ∧ r'.mtime = 10 ∧ r'.id = 1 :=
  store_onto_stale_continues _ [116] 10 staleDest _ (by decide +kernel) rfl rfl rfl (by decide +kernel) (by decide +kernel)

/-- `DEL t` then `SADD t y`: version 1 although the new row reuses the id 3 -/
example : ∀ r' ∈ (Model.dbRun (.setAdd [116] [[121]]) 11 (Model.dbRun (.keyDelete [[116]]) 10 sample).db).db.keys,
    r'.key = [116] → r'.version = 1 ∧ r'.mtime = 11 :=
  recreated_key_starts_at_version_one [[116]] [116] 10 11 sample (.setAdd [116] [[121]]) sample_inv rfl
    (by decide +kernel) (by decide +kernel) rfl
theorem recreated_reuses_id :
    ((Model.dbRun (.setAdd [116] [[121]]) 11 (Model.dbRun (.keyDelete [[116]]) 10 sample).db).db.keys.map
      (fun r => (r.id, r.key, r.version))).contains (3, [116], 1) = true ∧
    (sample.keys.map (fun r => (r.id, r.key, r.version))).contains (3, [116], 7) = true := by decide +kernel

/-- `RENAME s x` -/
example : rowAt (Model.dbRun (.keyRename [115] [120]) 10 sample).db 1 [120] =
    some { id := 1, key := [120], ty := TString, version := 4, etime := some 100, mtime := 10, len := none } :=
  rename_carries_version [115] [120] 10 sample _ sample_inv rfl (by decide +kernel) (by decide +kernel)

/-- a history: `SET s w` at 10, `EXPIREAT s 200` at 11, `GET s` at 12, `RPUSH l c` at 12 -/
example : Survives 1 [115] history sample ∧ Clocked history sample := by decide +kernel
example : ChangedIn 1 [115] history sample := .inl ⟨_, _, rfl, rfl, .inr (by decide +kernel)⟩
example : ∀ r r', rowAt sample 1 [115] = some r → rowAt (C11.run history sample) 1 [115] = some r' →
    r.version < r'.version ∧ r.mtime ≤ r'.mtime :=
  fun r r' hr hr' =>
    ⟨(version_monotone_along_history history 1 [115] sample sample_inv rfl (by decide +kernel) r r' hr hr').2.2
      (.inl ⟨_, _, rfl, rfl, .inr (by decide +kernel)⟩),
     mtime_monotone_along_history history 1 [115] sample sample_inv rfl (by decide +kernel) (by decide +kernel) r r' hr hr'⟩
example : (rowAt (C11.run history sample) 1 [115]).map (fun r => (r.version, r.mtime, r.etime)) =
    some (5, 10, some 200) := by decide +kernel

/-- the key lookup after `SET s w` with a TTL, after `SADD`, after `EXPIRE` -/
example : Truthful (.strSetExpires [115] [119] 50) 10 sample :=
  type_etime_truthful_str _ 10 sample (by decide +kernel) sample_inv rfl (by decide +kernel) (by decide +kernel) (by decide +kernel)
example : Truthful (.setAdd [116] [[121]]) 10 sample :=
  type_etime_truthful_set _ 10 sample (by decide +kernel) sample_inv rfl (by decide +kernel) (by decide +kernel)
example : Truthful (.keyExpire [115] 7) 10 sample :=
  type_etime_truthful_key _ 10 sample (by decide +kernel) sample_inv rfl (by decide +kernel) (by decide +kernel) (by decide +kernel) (by decide +kernel)

end Redka.Props.C19
