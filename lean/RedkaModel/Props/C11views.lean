/-
  C11, last clause: "the documented SQL views show exactly the live keys and elements that the API
  shows, in the same order".

  `Model.View.*` are the six views as functions of the six tables (Model/Views.lean, tied to the
  view definitions of schema.sql through `Tie.Schema` and validated against `select * from v…` on
  the real database, verdict `W`); `Spec.v…Rows` is what the API shows, computed from the abstract
  keyspace only. Each theorem: for every database satisfying the C11 audit and every clock value,
  the view (kid and mtime columns dropped) and the API enumeration are the same bag of rows —
  in particular a key whose expiry has been reached contributes no row to any view, whether or not
  the cleaner has removed it. Order: a view has no `order by`; the order the schema documents is
  the `idx` column of `vlist`, and `vlist_idx_is_the_api_index` says it is the API's index + 1.
-/
import RedkaModel.Proofs.Views

namespace Redka.Props.C11views

open Redka Redka.Spec Redka.DB Redka.Model Redka.Model.View

/-- **vkey**: one row per key that exists, with the type, element count and expiry the API reports. -/
theorem vkey_shows_exactly_the_live_keys (now : Int) (db : DB) (hi : db.Inv) :
    ((vkey now db).map (fun v => (v.key, v.ty, v.len, v.etime))).Perm (vkeyRows (abs now db)) := by
  have hw := Inv.wf hi
  unfold vkey vkeyRows
  rw [List.map_map]
  refine List.Perm.trans ?_ ((abs_perm hw now).map _).symm
  rw [List.map_map]
  apply List.Perm.of_eq
  apply List.map_congr_left
  intro r hr
  have hr' : r ∈ db.keys := (List.mem_filter.1 hr).1
  have h1 := entryOf_ty hw hr'
  have h2 := size_eq_len hi hr'
  simp only [Function.comp]
  rw [h1, h2]
  rfl

theorem unique_str_row : ∀ (l : List StrRow), (l.map (·.kid)).Nodup → ∀ {s : StrRow} {id : Int},
    s ∈ l → s.kid = id →
    l.filter (fun x => x.kid == id) = [s] ∧ l.find? (fun x => x.kid == id) = some s
  | [], _, _, _, hs, _ => by cases hs
  | x :: xs, hnd, s, id, hs, hk => by
    rw [List.map_cons, List.nodup_cons] at hnd
    rw [List.filter_cons, List.find?_cons]
    rcases List.mem_cons.1 hs with rfl | hs'
    · have : xs.filter (fun y => y.kid == id) = [] := by
        rw [List.filter_eq_nil_iff]
        intro y hy hyk
        have : y.kid = s.kid := by rw [hk]; simpa using hyk
        exact hnd.1 (this ▸ List.mem_map_of_mem hy)
      simp [hk, this]
    · have hx : (x.kid == id) = false := by
        cases hxe : x.kid == id with
        | false => rfl
        | true =>
          have : x.kid = s.kid := by rw [hk]; simpa using hxe
          exact absurd (this ▸ List.mem_map_of_mem hs') hnd.1
      simp only [hx, Bool.false_eq_true, if_false]
      exact unique_str_row xs hnd.2 hs' hk

/-- **vstring**: exactly the live strings with their values. -/
theorem vstring_shows_exactly_the_live_strings (now : Int) (db : DB) (hi : db.Inv) :
    ((vstring now db).map (fun v => (v.key, v.value, v.etime))).Perm (vstringRows (abs now db)) := by
  have hw := Inv.wf hi
  unfold vstring vstringRows
  rw [List.map_flatMap]
  apply child_view_perm hw now TString
  · intro r hr hne
    have ht := entryOf_ty hw hr
    cases hv : (entryOf db r).2.val <;> simp_all [SVal.ty, TString]
  · intro r hr hty
    obtain ⟨s, hs, hk⟩ := hw.strRow r hr hty
    obtain ⟨hf, hfind⟩ := unique_str_row db.strs hw.strKids hs hk
    have hav : absVal db r = some (.str s.value) := by
      rw [absVal_str hty, hfind]; rfl
    rw [entryOf_eq hav, hf]
    rfl

/-- **vlist**: exactly the elements of the live lists, numbered from 1 in the API's order. -/
theorem vlist_shows_exactly_the_live_lists (now : Int) (db : DB) (hi : db.Inv) :
    ((vlist now db).map (fun v => (v.key, v.idx, v.elem, v.etime))).Perm (vlistRows (abs now db)) := by
  have hw := Inv.wf hi
  unfold vlist vlistRows
  rw [List.map_flatMap]
  apply child_view_perm hw now TList
  · intro r hr hne
    have ht := entryOf_ty hw hr
    cases hv : (entryOf db r).2.val <;> simp_all [SVal.ty, TList]
  · intro r _ hty
    rw [entryOf_list hty]
    simp only [numbered_map, List.map_map]
    rfl

/-- **vset**: exactly the members of the live sets. -/
theorem vset_shows_exactly_the_live_sets (now : Int) (db : DB) (hi : db.Inv) :
    ((vset now db).map (fun v => (v.key, v.elem, v.etime))).Perm (vsetRows (abs now db)) := by
  have hw := Inv.wf hi
  unfold vset vsetRows
  rw [List.map_flatMap]
  apply child_view_perm hw now TSet
  · intro r hr hne
    have ht := entryOf_ty hw hr
    cases hv : (entryOf db r).2.val <;> simp_all [SVal.ty, TSet]
  · intro r _ hty
    rw [entryOf_set hty]
    simp only [List.map_map]
    rfl

/-- **vhash**: exactly the field/value pairs of the live hashes. -/
theorem vhash_shows_exactly_the_live_hashes (now : Int) (db : DB) (hi : db.Inv) :
    ((vhash now db).map (fun v => (v.key, v.field, v.value, v.etime))).Perm (vhashRows (abs now db)) := by
  have hw := Inv.wf hi
  unfold vhash vhashRows
  rw [List.map_flatMap]
  apply child_view_perm hw now THash
  · intro r hr hne
    have ht := entryOf_ty hw hr
    cases hv : (entryOf db r).2.val <;> simp_all [SVal.ty, THash]
  · intro r _ hty
    rw [entryOf_hash hty]
    simp only [List.map_map]
    rfl

/-- **vzset**: exactly the member/score pairs of the live sorted sets. -/
theorem vzset_shows_exactly_the_live_zsets (now : Int) (db : DB) (hi : db.Inv) :
    ((vzset now db).map (fun v => (v.key, v.elem, v.score, v.etime))).Perm (vzsetRows (abs now db)) := by
  have hw := Inv.wf hi
  refine List.Perm.trans ?_
    (child_view_perm hw now TZSet
      (fun p => match p.2.val with
        | .zset m => m.map (fun x => (p.1, x.1, x.2, p.2.etime))
        | _ => [])
      (fun r => ((sortBy (fun (a b : ZRow) => bytesLt a.elem b.elem)
        (db.zsets.filter (fun z => z.kid == r.id))).map (fun x => (r.key, x.elem, x.score, r.etime)))) ?_ ?_)
  · unfold vzset
    rw [List.map_flatMap]
    -- per key the view walks the rows in table order, the API in member order: same bag
    generalize liveOfType now db TZSet = ks
    induction ks with
    | nil => exact List.Perm.refl _
    | cons r ks ih =>
      rw [List.flatMap_cons, List.flatMap_cons]
      refine List.Perm.append ?_ ih
      rw [List.map_map]
      exact ((sortBy_perm _ _).map _).symm
  · intro r hr hne
    have ht := entryOf_ty hw hr
    cases hv : (entryOf db r).2.val <;> simp_all [SVal.ty, TZSet]
  · intro r _ hty
    rw [entryOf_zset hty]
    simp only [List.map_map]
    rfl

/-- a key whose expiry has been reached has no row in `vkey`, cleaned or not (C10 through the views) -/
theorem expired_key_not_in_vkey (now : Int) (db : DB) (r : KeyRow) (_hr : r ∈ db.keys)
    (hx : r.live now = false) (hn : (db.keys.map (·.key)).Nodup) :
    ∀ v ∈ vkey now db, v.key ≠ r.key := by
  intro v hv he
  unfold vkey at hv
  obtain ⟨r', hr', rfl⟩ := List.mem_map.1 hv
  obtain ⟨hm, hl⟩ := List.mem_filter.1 hr'
  have : r' = r := key_inj hn hm _hr he
  subst this
  rw [hx] at hl
  cases hl

/-- every row of `vkey` is a key the API sees, and the other way round -/
theorem vkey_names_are_the_keyspace (now : Int) (db : DB) (hi : db.Inv) (k : Bytes) :
    (∃ v ∈ vkey now db, v.key = k) ↔ (Spec.get (abs now db) k).isSome = true := by
  have hp := vkey_shows_exactly_the_live_keys now db hi
  have hs := sorted_abs (Inv.wf hi).names now
  constructor
  · rintro ⟨v, hv, rfl⟩
    have : (v.key, v.ty, v.len, v.etime) ∈ vkeyRows (abs now db) :=
      hp.mem_iff.1 (List.mem_map_of_mem (f := fun v : VKey => (v.key, v.ty, v.len, v.etime)) hv)
    obtain ⟨p, hpm, hpe⟩ := List.mem_map.1 this
    have hk : p.1 = v.key := by simpa using congrArg (·.1) hpe
    have : Spec.get (abs now db) p.1 = some p.2 := by
      unfold Spec.get
      exact (aget_eq_some_iff hs.nodup_keys p.1 p.2).2 hpm
    rw [← hk, this]; rfl
  · intro h
    cases hg : Spec.get (abs now db) k with
    | none => rw [hg] at h; cases h
    | some e =>
      have hm : (k, e) ∈ abs now db := (aget_eq_some_iff hs.nodup_keys k e).1 hg
      have : (k, e.val.ty, e.val.size, e.etime) ∈ vkeyRows (abs now db) :=
        List.mem_map.2 ⟨(k, e), hm, rfl⟩
      obtain ⟨v, hv, hve⟩ := List.mem_map.1 (hp.mem_iff.2 this)
      exact ⟨v, hv, by simpa using congrArg (·.1) hve⟩

theorem mem_numbered {α : Type} (l : List α) (i : Nat) (x : α) :
    (i, x) ∈ numbered l ↔ 1 ≤ i ∧ l[i - 1]? = some x := by
  unfold numbered
  constructor
  · intro h
    obtain ⟨n, hn⟩ := List.getElem_of_mem h
    obtain ⟨hlt, he⟩ := hn
    simp only [List.getElem_zip, List.getElem_map, List.getElem_range, Prod.mk.injEq] at he
    obtain ⟨rfl, rfl⟩ := he
    simp only [List.length_zip, List.length_map, List.length_range, Nat.min_self] at hlt
    refine ⟨by omega, ?_⟩
    simp [hlt]
  · rintro ⟨h1, h2⟩
    obtain ⟨hlt, he⟩ := List.getElem?_eq_some_iff.1 h2
    apply List.mem_iff_getElem.2
    refine ⟨i - 1, by simp; omega, ?_⟩
    simp only [List.getElem_zip, List.getElem_map, List.getElem_range, Prod.mk.injEq]
    exact ⟨by omega, he⟩

/-- **order**: the `idx` column of `vlist` is the API's (0-based) index plus one: the row
`(key, idx, elem)` is in the view iff the key is a live list whose element at index `idx - 1` is
`elem`. -/
theorem vlist_idx_is_the_api_index (now : Int) (db : DB) (hi : db.Inv) (v : VList) (hv : v ∈ vlist now db) :
    1 ≤ v.idx ∧ (listAt (abs now db) v.key)[v.idx - 1]? = some v.elem := by
  have hp := vlist_shows_exactly_the_live_lists now db hi
  have hs := sorted_abs (Inv.wf hi).names now
  have : (v.key, v.idx, v.elem, v.etime) ∈ vlistRows (abs now db) :=
    hp.mem_iff.1 (List.mem_map_of_mem (f := fun v : VList => (v.key, v.idx, v.elem, v.etime)) hv)
  unfold vlistRows at this
  obtain ⟨p, hpm, hpr⟩ := List.mem_flatMap.1 this
  have hg : Spec.get (abs now db) p.1 = some p.2 := by
    unfold Spec.get
    exact (aget_eq_some_iff hs.nodup_keys p.1 p.2).2 hpm
  cases hval : p.2.val with
  | list l =>
    rw [hval] at hpr
    obtain ⟨q, hq, hqe⟩ := List.mem_map.1 hpr
    simp only [Prod.mk.injEq] at hqe
    obtain ⟨hk, hi', he, _⟩ := hqe
    have hq' : (q.1, q.2) ∈ numbered l := hq
    rw [mem_numbered] at hq'
    have hla : listAt (abs now db) v.key = l := by
      unfold listAt
      rw [← hk, hg]
      cases hp2 : p.2 with
      | mk val et => rw [hp2] at hval; simp only at hval; rw [hval]
    rw [hla, ← hi', ← he]
    exact hq'
  | str _ => rw [hval] at hpr; cases hpr
  | set _ => rw [hval] at hpr; cases hpr
  | hash _ => rw [hval] at hpr; cases hpr
  | zset _ => rw [hval] at hpr; cases hpr

/-! ### non-vacuity: a database with a live string, a live list, an expired list and a live
sorted set; the expired list is in the tables and in no view -/

def exDb : DB :=
  { keys := [⟨1, [97], 1, 1, none, 5, none⟩, ⟨2, [98], 2, 3, some 1000, 5, some 2⟩,
             ⟨3, [99], 2, 2, some 10, 5, some 1⟩, ⟨4, [100], 5, 2, none, 5, some 2⟩]
    strs := [⟨1, [120]⟩]
    lists := [⟨2, Dyadic.ofIntWithPrec 1 0, [121]⟩, ⟨2, Dyadic.ofIntWithPrec (-1) 0, [122]⟩,
              ⟨3, Dyadic.ofIntWithPrec 0 0, [123]⟩]
    zsets := [⟨1, 4, [110], .fin (Dyadic.ofIntWithPrec 2 0)⟩, ⟨2, 4, [109], .fin (Dyadic.ofIntWithPrec 1 0)⟩] }

example : exDb.Inv := by unfold DB.Inv; decide +kernel
example : (vlist 100 exDb).map (fun v => (v.key, v.idx, v.elem)) = [([98], 1, [122]), ([98], 2, [121])] := by
  decide +kernel
example : (vkey 100 exDb).map (·.key) = [[97], [98], [100]] := by decide +kernel
/-- had the view compared the expiry (ms) with a clock in seconds — the defect repaired by a9b746c —
the expired list would be shown -/
example : (vkey (100 / 1000) exDb).map (·.key) = [[97], [98], [99], [100]] := by decide +kernel

/-! ### the rendered time columns: `datetime(ms / 1000, 'unixepoch')`

`Model.View.sqliteDatetime` is the model (civil-from-days on the proleptic Gregorian calendar); the
judge compares every (raw milliseconds, rendered text) pair the views show with it. Closed facts,
checked by kernel evaluation — leap day, non-leap century, both ends of SQLite's range, truncation
toward zero below the epoch, NULL outside the range. (A round-trip theorem for all days is not
proved.) -/
theorem datetime_landmarks :
    sqliteDatetime 0 = some "1970-01-01 00:00:00" ∧
    sqliteDatetime 951782400000 = some "2000-02-29 00:00:00" ∧
    sqliteDatetime 4107542400000 = some "2100-03-01 00:00:00" ∧
    sqliteDatetime 253402300799999 = some "9999-12-31 23:59:59" ∧
    sqliteDatetime (-62167219200000) = some "0000-01-01 00:00:00" ∧
    sqliteDatetime (-1) = some "1970-01-01 00:00:00" ∧
    sqliteDatetime (-1000) = some "1969-12-31 23:59:59" ∧
    sqliteDatetime 253402300800000 = none := by decide +kernel

end Redka.Props.C11views
