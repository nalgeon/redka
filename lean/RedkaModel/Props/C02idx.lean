/-
  C02 (lists) / C05 (sorted sets) — index rules.

  "Indexes are 0-based, negative indexes count from the tail, out-of-range bounds are clamped, an
  inverted range selects nothing."

  The repositories compute ranges with SQLite's `LIMIT offset, count`, which does not clamp: a
  negative offset is 0 and a negative count is "no limit". The list statements used to pass the
  normalised bounds straight through (D01) and failed with `LIMIT NULL` on a missing key with a
  negative bound (D02); both are repaired in the Go tree (the `bounds` CTE clamps the start to 0, the
  count to ≥ 0 and takes a missing length as 0). What is proved here, for every list and every pair of
  integers, at full strength and with no hypotheses:

    * `Range`, `Trim`: model = Redis rule (`range_refines`, `trim_refines`); the window is always
      defined (`range_window_defined`, also on a missing key);
    * `Get`/`Set` index, `RangeWith.ByRank`, `DeleteWith.ByRank`, `ByScore` offset/count, `Len`:
      model = Redis rule. (`DeleteWith.ByRank` was D09: it lacked the `start > stop` guard and
      reached SQLite as `limit a, <negative>`. The guard is now there.)

  What the RAW statements do without the clamps/guards is kept, with exact classifiers and witnesses:
  `raw_range_limit_exact` / `raw_range_limit_deviates*` (D01) and `raw_rank_limit_exact` /
  `raw_rank_limit_deviates` (D09) — a change that removes a clamp or a guard falls back into exactly
  these regions.

  Only property theorems and non-vacuity examples live here; definitions and lemmas are in
  `RedkaModel/Proofs/Index.lean`.
-/
import RedkaModel.Proofs.Index

namespace Redka.Props.C02

open Redka Redka.Model Redka.Proofs.Index

/-! ### LRANGE -/

/-- the `bounds` CTE never produces `LIMIT NULL`, with a cached length or (D02, repaired) without one -/
theorem range_window_defined {α} (len : Option Int) (a b : Int) (l : List α) :
    Model.rangeWindow len a b l ≠ none :=
  rangeWindow_ne_none len a b l

/-- a missing key has no rows: the window is empty whatever the bounds -/
theorem range_window_missing_key {α} (a b : Int) :
    Model.rangeWindow none a b ([] : List α) = some [] :=
  rangeWindow_nil none a b

/-- `Range` is the Redis rule, for every list and every pair of integers (D01 repaired) -/
theorem range_refines {α} (l : List α) (a b : Int) : modelRange l a b = Spec.lrange l a b :=
  range_eq l a b

/-- the RAW window `limit s, e - s + 1` on the normalised bounds (what the statement did before the
clamps): the Redis slice exactly when `rawSliceDeviates` is off -/
theorem raw_range_limit_exact {α} (l : List α) (a b : Int) :
    sqlLimit (Spec.normIdx l.length a) (Spec.normIdx l.length b - Spec.normIdx l.length a + 1) l =
      Spec.lrange l a b ↔
    rawSliceDeviates l.length (Spec.normIdx l.length a) (Spec.normIdx l.length b) = false := by
  rw [lrange_eq_clampSlice]
  exact raw_sqlLimit_eq_clampSlice_iff l _ _

/-- what D01 was: in-range, non-negative bounds `Range(2, 0)` reached SQLite as `LIMIT 2, -1` -/
theorem raw_range_limit_deviates :
    sqlLimit 2 (0 - 2 + 1) ['a', 'b', 'c'] = ['c'] ∧ Spec.lrange ['a', 'b', 'c'] 2 0 = [] := by decide
/-- … and `Range(-5, 0)` on three elements as `LIMIT -2, 3` -/
theorem raw_range_limit_deviates_neg :
    sqlLimit (-2) (0 - (-2) + 1) ['a', 'b', 'c'] = ['a', 'b', 'c'] ∧
      Spec.lrange ['a', 'b', 'c'] (-5) 0 = ['a'] := by decide
/-- the former witnesses now agree -/
theorem range_now_agrees :
    modelRange ['a', 'b', 'c'] 2 0 = [] ∧ modelRange ['a', 'b', 'c'] (-5) 0 = ['a'] ∧
      modelRange ['a', 'b', 'c'] 0 (-5) = [] ∧ modelRange ['a', 'b', 'c'] 1 (-5) = [] := by decide

/-- the exact region where the raw form is right, on the normalised bounds -/
theorem raw_slice_exact_region (n : Nat) (s e : Int) :
    rawSliceDeviates n s e = false ↔
      (0 ≤ s ∧ ((n : Int) ≤ s ∨ s ≤ e + 1)) ∨
      (s < 0 ∧ (n = 0 ∨ e + 1 = s ∨ (n : Int) ≤ e + 1)) := by
  unfold rawSliceDeviates
  split <;> simp only [decide_eq_false_iff_not] <;> omega

/-! ### LTRIM -/

/-- `Trim` keeps the Redis window, for every list and every pair of integers (D01 repaired) -/
theorem trim_refines {α} (l : List α) (a b : Int) : modelTrimKeep l a b = Spec.ltrim l a b :=
  trim_eq l a b

/-- the former witnesses now agree: `Trim(-5, 0)` keeps the head, `Trim(3, 1)` nothing -/
theorem trim_now_agrees :
    modelTrimKeep ['a', 'b', 'c'] (-5) 0 = ['a'] ∧ modelTrimKeep [0, 1, 2, 3, 4] 3 1 = [] ∧
      modelTrimKeep ['a', 'b', 'c'] 0 (-5) = [] ∧ modelTrimKeep ['a', 'b', 'c'] 5 1 = [] := by decide

/-- `Range` is `Trim`'s window behind the Go shortcut, and the shortcut only fires where the window is
empty anyway -/
theorem range_eq_trim_window {α} (l : List α) (a b : Int) : modelRange l a b = modelTrimKeep l a b := by
  rw [range_refines, trim_refines]; rfl

/-! ### LINDEX / LSET -/

theorem index_refines {α} (l : List α) (i : Int) : modelIndex l i = Spec.lindex l i := by
  rw [modelIndex_eq_pos, lindex_eq_bind, modelIndexPos_eq]

theorem index_pos_refines (n : Nat) (i : Int) : modelIndexPos n i = Spec.lindexPos n i :=
  modelIndexPos_eq n i

theorem set_refines {α} (l : List α) (i : Int) (x : α) : modelSet l i x = Spec.lset l i x := by
  unfold modelSet
  rw [lset_eq_map, modelIndexPos_eq]

/-- `modelIndex` is literally `listRowAt` on the ordered rows -/
theorem index_is_listRowAt (db : DB) (kid i : Int) :
    Model.listRowAt db kid i = modelIndex (Model.listRows db kid) i :=
  listRowAt_eq db kid i

/-! ### sorted-set ranks -/

theorem rank_slice_refines_partial {α} (l : List α) (a b : Int) (ha : 0 ≤ a) (hb : 0 ≤ b) :
    (if a > b then [] else sqlLimit a (b - a + 1) l) = Spec.rankSlice l a b := by
  by_cases hab : a > b
  · have : a < 0 ∨ b < 0 ∨ a > b := Or.inr (Or.inr hab)
    rw [if_pos hab]
    unfold Spec.rankSlice
    rw [if_pos this]
  · simp only [hab, if_false]
    apply (sqlLimit_eq_rankSlice_iff l a b ha hb).2
    unfold rawRankLimitDeviates
    simp only [decide_eq_false_iff_not]
    omega

/-- `zRangeRank` including its early return: full strength, no hypotheses -/
theorem rank_range_refines {α} (l : List α) (a b : Int) :
    modelRankRange l a b = Spec.rankSlice l a b := by
  unfold modelRankRange
  by_cases h : a < 0 ∨ b < 0
  · have h1 : (decide (a < 0) || decide (b < 0)) = true := by simpa using h
    have h2 : a < 0 ∨ b < 0 ∨ a > b := by omega
    simp only [h1, if_true, Spec.rankSlice, h2]
  · have h1 : (decide (a < 0) || decide (b < 0)) = false := by
      simp only [Bool.or_eq_false_iff, decide_eq_false_iff_not]; omega
    simp only [h1, Bool.false_eq_true, if_false]
    exact rank_slice_refines_partial l a b (by omega) (by omega)

/-- `zDeleteRank` including both early returns: full strength, no hypotheses (D09 is repaired: the
victims of `DeleteWith.ByRank(a, b)` are exactly the Redis rank slice, for every list and every
pair of integers) -/
theorem rank_delete_refines {α} (l : List α) (a b : Int) :
    modelRankDelete l a b = Spec.rankSlice l a b :=
  rank_range_refines l a b

/-- remove-by-rank and range-by-rank select the same elements -/
theorem rank_delete_eq_rank_range {α} (l : List α) (a b : Int) :
    modelRankDelete l a b = modelRankRange l a b := rfl

/-- the RAW statement `limit a, b - a + 1`, which no caller reaches with `a > b` any more: it is
the Redis rank slice exactly when `rawRankLimitDeviates` is off, i.e. unless `b + 1 < a < n` -/
theorem raw_rank_limit_exact {α} (l : List α) (a b : Int) (ha : 0 ≤ a) (hb : 0 ≤ b) :
    sqlLimit a (b - a + 1) l = Spec.rankSlice l a b ↔ rawRankLimitDeviates l.length a b = false :=
  sqlLimit_eq_rankSlice_iff l a b ha hb

/-- what D09 was: the raw `limit 3, -1` is "no limit". The guard `start > stop` is therefore
needed, in `zDeleteRank` as in `zRangeRank`. -/
theorem raw_rank_limit_deviates :
    sqlLimit 3 (1 - 3 + 1) [0, 1, 2, 3, 4] = [3, 4] ∧ Spec.rankSlice [0, 1, 2, 3, 4] 3 1 = [] := by
  decide

/-- the former D09 witness: the inverted range now selects nothing -/
theorem rank_delete_now_agrees :
    modelRankDelete [0, 1, 2, 3, 4] 3 1 = [] ∧ Spec.rankSlice [0, 1, 2, 3, 4] 3 1 = [] := by
  decide

/-! ### LIMIT offset / count of ZRANGEBYSCORE -/

theorem offset_count_refines {α} (l : List α) (off cnt : Int) :
    (if off > 0 && cnt > 0 then sqlLimit off cnt l
     else if cnt > 0 then sqlLimit 0 cnt l
     else if off > 0 then sqlLimit off (-1) l
     else l) = Spec.offsetCount l off cnt := by
  unfold Spec.offsetCount sqlLimit
  by_cases ho : off > 0 <;> by_cases hc : cnt > 0
  · have : ¬ cnt < 0 := by omega
    simp [ho, hc, this]
  · simp [ho, hc]
  · have : ¬ cnt < 0 := by omega
    simp [ho, hc, this]
  · simp [ho, hc]

theorem offset_count_refines' {α} (l : List α) (off cnt : Int) :
    modelOffsetCount l off cnt = Spec.offsetCount l off cnt :=
  offset_count_refines l off cnt

/-! ### LLEN against the full range -/

theorem full_range_is_list {α} (l : List α) : modelRange l 0 (-1) = l := by
  rw [range_refines, lrange_eq_clampSlice, clampSlice_eq]
  show (l.drop 0).take (((l.length : Int) + -1) - max 0 0 + 1).toNat = l
  rw [List.drop_zero, List.take_of_length_le]
  omega

theorem len_eq_full_range {α} (l : List α) : (Spec.lrange l 0 (-1)).length = l.length := by
  rw [← range_refines l 0 (-1), full_range_is_list]

/-! ### non-vacuity -/

section NonVacuity

example : modelRange ['a', 'b', 'c', 'd'] 1 (-2) = Spec.lrange ['a', 'b', 'c', 'd'] 1 (-2) :=
  range_refines _ 1 (-2)
example : modelRange ['a', 'b', 'c', 'd'] 1 (-2) = ['b', 'c'] := by decide
example : modelRange ['a', 'b', 'c'] 1 100 = ['b', 'c'] := by decide
example : modelRange ['a', 'b', 'c'] (-100) 100 = ['a', 'b', 'c'] := by decide
example : rawSliceDeviates 3 2 0 = true ∧ rawSliceDeviates 3 (-2) 0 = true ∧
    rawSliceDeviates 3 1 2 = false := by decide
example : rawSliceDeviates 3 (-5) 7 = false := (raw_slice_exact_region 3 (-5) 7).2 (by decide)
example : (Model.rangeWindow (some 3) (-5) 0 ['a', 'b', 'c']) ≠ none := range_window_defined _ _ _ _
example : Model.rangeWindow none (-1) 0 ([] : List Char) = some [] := range_window_missing_key _ _
example : Model.rangeWindow none (-1) (-3) ['a'] ≠ none := range_window_defined _ _ _ _

example : modelTrimKeep ['a', 'b', 'c', 'd'] (-3) 2 = Spec.ltrim ['a', 'b', 'c', 'd'] (-3) 2 :=
  trim_refines _ (-3) 2
example : modelTrimKeep ['a', 'b', 'c', 'd'] (-3) 2 = ['b', 'c'] := by decide
example : modelTrimKeep ['a', 'b', 'c'] 2 1 = [] := by decide

example : modelIndex ['a', 'b', 'c'] (-1) = some 'c' := by decide
example : modelIndex ['a', 'b', 'c'] (-1) = Spec.lindex ['a', 'b', 'c'] (-1) := index_refines _ _
example : modelIndex ['a', 'b', 'c'] (-4) = none ∧ modelIndex ['a', 'b', 'c'] 3 = none := by decide
example : modelIndexPos 3 (-2) = some 1 := by decide
example : modelIndexPos 3 (-2) = Spec.lindexPos 3 (-2) := index_pos_refines _ _
example : modelSet ['a', 'b', 'c'] (-2) 'x' = some ['a', 'x', 'c'] := by decide
example : modelSet ['a', 'b', 'c'] (-2) 'x' = Spec.lset ['a', 'b', 'c'] (-2) 'x' := set_refines _ _ _

example : (if (1 : Int) > 3 then [] else sqlLimit 1 (3 - 1 + 1) [0, 1, 2, 3, 4]) =
    Spec.rankSlice [0, 1, 2, 3, 4] 1 3 := rank_slice_refines_partial _ 1 3 (by decide) (by decide)
example : Spec.rankSlice [0, 1, 2, 3, 4] 1 3 = [1, 2, 3] := by decide
example : modelRankRange [0, 1, 2, 3, 4] 3 100 = [3, 4] := by decide
example : modelRankRange [0, 1, 2, 3, 4] 3 1 = Spec.rankSlice [0, 1, 2, 3, 4] 3 1 :=
  rank_range_refines _ _ _
example : sqlLimit 2 (1 - 2 + 1) [0, 1, 2, 3, 4] = Spec.rankSlice [0, 1, 2, 3, 4] 2 1 :=
  (raw_rank_limit_exact _ 2 1 (by decide) (by decide)).2 (by decide)
example : modelRankDelete [0, 1, 2, 3, 4] 1 3 = [1, 2, 3] := by decide
example : modelRankDelete [0, 1, 2, 3, 4] 3 1 = Spec.rankSlice [0, 1, 2, 3, 4] 3 1 :=
  rank_delete_refines _ _ _
example : rawRankLimitDeviates 5 3 1 = true := by decide

example : modelOffsetCount [0, 1, 2, 3, 4] 1 2 = [1, 2] := by decide
example : modelOffsetCount [0, 1, 2, 3, 4] 1 2 = Spec.offsetCount [0, 1, 2, 3, 4] 1 2 :=
  offset_count_refines' _ _ _
example : modelOffsetCount [0, 1, 2, 3, 4] 3 0 = [3, 4] ∧
    modelOffsetCount [0, 1, 2, 3, 4] (-1) 2 = [0, 1] := by decide

example : (Spec.lrange ['a', 'b', 'c'] 0 (-1)).length = 3 := len_eq_full_range _
example : modelRange ['a', 'b', 'c'] 0 (-1) = ['a', 'b', 'c'] := full_range_is_list _

end NonVacuity

end Redka.Props.C02
