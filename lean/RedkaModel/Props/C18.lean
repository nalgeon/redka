/-
  Property C18: one glob semantics for every place that takes a pattern.

  Every pattern-taking operation of the model hands the pattern to `Redka.Glob.sqliteGlob`, the
  model of SQLite's `GLOB`. The theorems below relate that function to the reference matcher
  `Redka.Spec.globSpec`, which implements the rules the property spells out.

  Known deviation D16: SQLite negates a bracket class with `^` only. The documented form `[!a-c]`
  is, for SQLite, the class of `!`, `a`, `b`, `c`. So the agreement is stated for patterns without
  a class that starts with `!` (`glob_agree_partial`), next to witnesses that the deviation is real
  (`bang_negation_deviates`, `documented_bang_example_fails`).

  Scope of the agreement: pattern and name are 7-bit text without NUL (`Ascii`), and the pattern
  is `WellFormed` (every class is closed, no range is reversed); the property fixes no meaning
  for the patterns that `WellFormed` excludes.
-/
import RedkaModel.Proofs.Glob

namespace Redka.Props.C18
open Redka.Spec

/-- On 7-bit text, the model of SQLite's GLOB selects exactly the names the reference matcher
selects, for every well-formed pattern in which no class starts with `!`.

The full-strength statement (without `NoBangClass`) is FALSE of the code: see
`bang_negation_deviates`. -/
theorem glob_agree_partial : ∀ p s : Bytes, Ascii p → Ascii s → WellFormed p → NoBangClass p →
    Glob.sqliteGlob p s = Spec.globSpec p s :=
  fun _ _ hp hs hw hb => Glob.sqliteGlob_eq_globSpec hp hs hw hb

/-- D16 is real: the pattern `k[!a-c]` is well formed, and on the name `kd` the model of SQLite
(no match: `d` is not one of `!abc`) and the reference matcher (match: `d` is outside `a-c`)
disagree. -/
theorem bang_negation_deviates :
    ∃ p s, Ascii p ∧ Ascii s ∧ WellFormed p ∧ Glob.sqliteGlob p s ≠ Spec.globSpec p s := by
  refine ⟨str "k[!a-c]", str "kd", by decide +kernel, by decide +kernel, by decide +kernel, ?_⟩
  have hm : Glob.sqliteGlob (str "k[!a-c]") (str "kd") = false := by
    show Glob.sqliteGlob [107, 91, 33, 97, 45, 99, 93] [107, 100] = false
    glob_unfold
  have hs : Spec.globSpec (str "k[!a-c]") (str "kd") = true := by decide +kernel
  rw [hm, hs]; decide

/-- The documented example `k[!a-c][y-z]` does not select `kdy`, which the documentation (and
the reference matcher) say it selects. -/
theorem documented_bang_example_fails :
    Glob.sqliteGlob (str "k[!a-c][y-z]") (str "kdy") = false ∧
    Spec.globSpec (str "k[!a-c][y-z]") (str "kdy") = true := by
  refine ⟨?_, by decide +kernel⟩
  show Glob.sqliteGlob [107, 91, 33, 97, 45, 99, 93, 91, 121, 45, 122, 93] [107, 100, 121] = false
  glob_unfold

/-- A name without metacharacters, used as a pattern, selects exactly that name. -/
theorem literal_selects_itself : ∀ s, Ascii s → NoMeta s → ∀ t, Ascii t →
    (Glob.sqliteGlob s t = true ↔ t = s) := by
  intro s hs hn t ht
  rw [glob_agree_partial s t hs ht (Glob.wellFormed_noMeta s hn) (Glob.noBangClass_noMeta s hn)]
  exact Glob.globSpec_noMeta s t hn

/-- `*` selects everything (any byte string, 7-bit or not). -/
theorem star_selects_all : ∀ s, Glob.sqliteGlob [42] s = true := by
  intro s
  have : Glob.parsePat (Glob.decode (Glob.cstr [42])) = some [.star] := by
    simp [Glob.cstr, Glob.decode, Glob.parsePat, Glob.parsePatF, Glob.cSTAR]
  unfold Glob.sqliteGlob
  rw [this]
  exact Glob.matchToks_star_nil _

/-! ### the documented example patterns: `key*`, `k?y`, `k[bce]y`, and `k[^a-c][y-z]` -/

example : Glob.sqliteGlob (str "key*") (str "key") = true := by glob_eval
example : Glob.sqliteGlob (str "key*") (str "key1") = true := by glob_eval
example : Glob.sqliteGlob (str "key*") (str "ke") = false := by glob_eval
example : Glob.sqliteGlob (str "k?y") (str "key") = true := by glob_eval
example : Glob.sqliteGlob (str "k?y") (str "ky") = false := by glob_eval
example : Glob.sqliteGlob (str "k[bce]y") (str "key") = true := by glob_eval
example : Glob.sqliteGlob (str "k[bce]y") (str "kay") = false := by glob_eval
example : Glob.sqliteGlob (str "k[^a-c][y-z]") (str "kdy") = true := by glob_eval
example : Glob.sqliteGlob (str "k[^a-c][y-z]") (str "kay") = false := by glob_eval
example : Glob.sqliteGlob (str "k[^a-c][y-z]") (str "kdx") = false := by glob_eval
/-- case-sensitive -/
example : Glob.sqliteGlob (str "key*") (str "Key") = false := by glob_eval

/-! ### non-vacuity: the hypotheses of the theorems hold of non-trivial patterns and names -/

example : Ascii (str "k[^a-c][y-z]*?") ∧ Ascii (str "kdz-anything") ∧
    WellFormed (str "k[^a-c][y-z]*?") ∧ NoBangClass (str "k[^a-c][y-z]*?") := by decide +kernel

example : Ascii (str "[]a-c-]x[^]!]") ∧ WellFormed (str "[]a-c-]x[^]!]") ∧
    NoBangClass (str "[]a-c-]x[^]!]") := by decide +kernel

/-- the classifier does exclude the documented `!` form, and only that -/
example : ¬ NoBangClass (str "k[!a-c][y-z]") ∧ NoBangClass (str "k!a[^!a-c]") := by decide +kernel

/-- an unclosed class and a reversed range are not well formed -/
example : ¬ WellFormed (str "k[abc") ∧ ¬ WellFormed (str "k[z-a]") := by decide +kernel

/-- why `WellFormed` excludes reversed ranges: SQLite counts the lower end of `[z-a]` as a
listed byte, the reference matcher takes the range to be empty; the property says neither -/
example : Glob.sqliteGlob (str "[z-a]") (str "z") = true ∧
    Spec.globSpec (str "[z-a]") (str "z") = false := by
  refine ⟨?_, by decide +kernel⟩
  show Glob.sqliteGlob [91, 122, 45, 97, 93] [122] = true
  glob_unfold

example : Ascii (str "user:1001:name") ∧ NoMeta (str "user:1001:name") := by decide +kernel

end Redka.Props.C18
