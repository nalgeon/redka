/-
  C13 — "For every supported command … the server's reply is the Redis-typed encoding of what the
  DOCUMENTED Go API call for that command returns on the same data …"

  Which API call a command makes is a fact of the source. `tools/extract_wire` regenerates, on
  every run, for every command object of `internal/command/*`: the repository methods its `Run`
  calls (`Generated.runCalls`, `Generated.cmdSrcs`), and the rows of the `Command / Go API` tables
  of `docs/commands/*.md` (`Generated.docs`). Three statements connect the documentation, the
  source and the wire model:

  * `wire_model_consults_only_the_source_calls` — for EVERY parsed command, EVERY pair of
    repositories, clock, tables and oracle: the wire model's `run` depends on the repository only
    through the methods that the source of that command's `Run` calls. So the reply and the tables
    the model predicts for a request are a function of exactly those API calls on the same data —
    the model is "the typed encoding of the API call" and cannot consult anything else.
  * `documented_api_is_called_partial` — every documented row outside `docErrata` names a method
    that the command's `Run` does call (decided over the regenerated tables by the kernel);
    `doc_errata_deviate` shows each erratum is real (five wrong method names in the docs, and
    `SET`, documented as `Str().Set`, which calls the equivalent `SetExpires` / `SetWith`).
  * `every_dispatched_name_is_documented_partial` — every dispatched name has a documented row,
    except `COMMAND`, `CONFIG`, `INFO` (client-compatibility stubs).

  The printed source of every `ParseXxx` and `Run` is tied to the snapshot the model was
  transcribed from in `Tie/Cmds.lean` (one `rfl` per command).
-/
import RedkaModel.Proofs.WireApi

namespace Redka.Props.C13api

open Redka Redka.Wire

/-- **Each wire command is exactly its documented API call**: `apiCallOf` is the table "parsed command ↦
the ONE repository call it makes, with its arguments" (`LREM k -2 e ↦ List.DeleteBack(k, e, 2)`,
`SET k v NX PX 5 ↦ Str.SetWith(k, v).IfNotExists().TTL(5ms)`, `TTL k ↦ Key.Get(k)`, …); the reply and
the resulting tables of the wire model are a function of what that call returns on the same data at the
same instant — for every command, argument vector, repository, clock value and table state. -/
theorem wire_command_is_its_api_call (c : ParsedCmd) (r r' : Runner) (now : Int) (db : DB)
    (o : Option Bytes) (h : ∀ op, apiCallOf c.cmd o = some op → r op now db = r' op now db) :
    run c r now db o = run c r' now db o :=
  run_is_the_api_call c r r' now db o h

/-- the call named by `apiCallOf` is one of the methods the SOURCE of the command's `Run` calls -/
theorem api_call_is_a_source_call : ∀ (cmd : Cmd) (o : Option Bytes) (op : Op),
    apiCallOf cmd o = some op → opApi op ∈ callsOfTy cmd.goType := by
  intro cmd o op h
  -- per command and per branch of its `if`s: no call, or a call whose name is looked up in the command's row
  cases cmd <;> simp only [apiCallOf] at h <;> (repeat' split at h) <;> cases h <;>
    dsimp only [Cmd.goType, opApi] <;> decide

/-- **The wire model is a function of the API calls its Go counterpart makes.** -/
theorem wire_model_consults_only_the_source_calls (c : ParsedCmd) (r r' : Runner) (now : Int)
    (db : DB) (o : Option Bytes)
    (h : ∀ op, opApi op ∈ callsOfTy c.cmd.goType → r op = r' op) :
    run c r now db o = run c r' now db o :=
  wire_command_is_its_api_call c r r' now db o fun op hop =>
    congrFun (congrFun (h op (api_call_is_a_source_call c.cmd o op hop)) now) db

/-- a command whose `Run` calls no repository method does not depend on the repository at all -/
theorem no_calls_no_dependency (c : ParsedCmd) (r r' : Runner) (now : Int) (db : DB)
    (o : Option Bytes) (h : callsOfTy c.cmd.goType = []) :
    run c r now db o = run c r' now db o :=
  wire_model_consults_only_the_source_calls c r r' now db o (fun op hm => by rw [h] at hm; cases hm)

/-- documentation rows that name another method than the one called -/
def docErrata : List String := ["HKEYS", "HSCAN", "HVALS", "SCAN", "SSCAN", "SET"]

/-- rows of docs/commands/transactions.md: handled by the server's handler chain, not dispatched -/
def txnNames : List String := ["DISCARD", "EXEC", "MULTI"]

/-- undocumented dispatched names -/
def undocumented : List String := ["command", "config", "info"]

/-- The statements about the generated tables, in one declaration: the kernel shares evaluation only inside a
declaration, so the strings of `Generated.docs`, `dispatch`, `cmdSrcs` and `runCalls` are decoded once. -/
theorem generated_tables :
    (∀ row ∈ Generated.docs, row.1 ∉ docErrata → row.1 ∉ txnNames → docRowOK row = true) ∧
    (∀ n ∈ docErrata, ∃ row ∈ Generated.docs, row.1 = n ∧ docRowOK row = false) ∧
    (∀ n ∈ txnNames, srcOfName n = none) ∧
    (∀ d ∈ Generated.dispatch, d.1 ∉ undocumented →
      Generated.docs.any (fun r => String.ofList (r.1.toList.map Char.toLower) == d.1) = true) ∧
    (∀ d ∈ Generated.dispatch, (Generated.cmdSrcs.find? (fun s => s.fn == d.2.1)).isSome = true) ∧
    (∀ s ∈ Generated.cmdSrcs, (Generated.runCalls.find? (fun p => p.1 == s.ty)).isSome = true) := by
  decide +kernel

/-- **Every documented command calls its documented API method** (outside the errata). -/
theorem documented_api_is_called_partial :
    ∀ row ∈ Generated.docs, row.1 ∉ docErrata → row.1 ∉ txnNames → docRowOK row = true :=
  generated_tables.1

/-- each erratum is real: the row exists and the documented method is not called -/
theorem doc_errata_deviate :
    ∀ n ∈ docErrata, ∃ row ∈ Generated.docs, row.1 = n ∧ docRowOK row = false :=
  generated_tables.2.1

theorem txn_names_not_dispatched : ∀ n ∈ txnNames, srcOfName n = none :=
  generated_tables.2.2.1

/-- **Every dispatched command is documented** (outside three compatibility stubs). -/
theorem every_dispatched_name_is_documented_partial :
    ∀ d ∈ Generated.dispatch, d.1 ∉ undocumented →
      Generated.docs.any (fun r => String.ofList (r.1.toList.map Char.toLower) == d.1) = true :=
  generated_tables.2.2.2.1

/-- every dispatch row leads to a command object with extracted source -/
theorem every_dispatch_row_has_source :
    ∀ d ∈ Generated.dispatch, (Generated.cmdSrcs.find? (fun s => s.fn == d.2.1)).isSome = true :=
  generated_tables.2.2.2.2.1

/-- every struct type the model names exists in the source -/
theorem every_command_type_has_a_run :
    ∀ s ∈ Generated.cmdSrcs, (Generated.runCalls.find? (fun p => p.1 == s.ty)).isSome = true :=
  generated_tables.2.2.2.2.2

/-! ### non-vacuity -/

example : apiCallOf (.lrem [107] (-2) [101]) none = some (.listDeleteBack [107] [101] 2) := by
  simp [apiCallOf, wrap64, minInt64]
example : apiCallOf (.set [107] [118] true false false 5 none false) none
    = some (.strSetWith [107] [118] { ifNotExists := true, ttl := 5 }) := by simp [apiCallOf]
example : apiCallOf (.ttl [107]) none = some (.keyGet [107]) ∧ apiCallOf (.ping []) none = none := ⟨rfl, rfl⟩

example : callsOfTy (Cmd.goType (.getSet [1] [2])) = ["Str.SetWith"] := by decide +kernel
example : callsOfTy (Cmd.goType (.set [1] [2] false false false 0 none false)) = ["Str.SetExpires", "Str.SetWith"] := by
  decide +kernel
example : callsOfTy (Cmd.goType (.ping [])) = [] := by decide +kernel
example : docRowOK ("LINSERT", "List.Insert*") = true := by decide +kernel
example : docRowOK ("HKEYS", "Hash.Keys") = false ∧ docRowOK ("HKEYS", "Hash.Fields") = true := by
  decide +kernel
/-- the hypothesis of the main theorem is not satisfiable by accident: two repositories that differ
on the one method GETSET calls give different replies -/
example :
    let c : ParsedCmd := { name := asciiBytes "getset", args := [[1], [2]], cmd := .getSet [1] [2] }
    let r : Runner := fun _ _ db => { out := .ok (.list [.nil, .bool true, .bool false]), db := db }
    let r' : Runner := fun _ _ db => { out := .ok (.list [.bytes [9], .bool false, .bool true]), db := db }
    (run c r 0 {} none).toks ≠ (run c r' 0 {} none).toks := by decide +kernel

end Redka.Props.C13api
