/-
  Property C07: all-or-nothing under faults.

  "Each single write operation, and each user-defined writable transaction, either applies all of
  its effects and reports success, or reports an error and leaves the database content exactly as
  it was - whether the operation or the transaction callback returns an error, panics, has its
  context cancelled, or the storage layer fails at any internal step including the final commit -
  and in every case the database stays fully usable with unchanged behaviour afterwards. A
  read-only transaction or read-only handle can never change the database."

  What is proved, and about what:

  * `Model/Fault.lean` models the control structure of `sqlx.DB.execTx` (begin / deferred rollback
    / callback / commit) with one fault per run. TRUSTED, not modelled below the statement level:
    a SQLite rollback restores the tables, a single SQL statement is atomic. So the content of
    `usertx_atomic` is that no path through `execTx` commits after a fault or a propagated error,
    and that every failing path ends in the rollback.
  * `dbRun_atomic` is about the statement-level model of every `DB` method (`Model.dbRun`): there,
    `Model.tx` really leaves the tables half-written when a method fails after a write, and the
    theorem holds because the model wraps exactly the methods the source wraps
    (`model_wrap_matches_source`) and every unwrapped method has no failing path that has written.
  * `multi_statement_writers_are_wrapped` is a theorem over the facts the translator extracts from
    the Go source on every run: it fails to compile when somebody un-wraps a multi-statement writer.

  Known deviations, each with a witness below:
  * D14 (`d14_connection_replaced_deviates`): after a cancelled context the RW connection is
    replaced; without a connect hook it has `foreign_keys = off`, so the content is unchanged but the
    behaviour is not. `usertx_atomic` is therefore stated on the tables, `usertx_atomic_db` on the
    whole value under `connKept`.
  * `DeleteAll` (`deleteAll_script_not_atomic`): its one `Exec` is the script
    `delete from rkey; vacuum; pragma integrity_check;` on the bare RW handle. The commands commit
    one by one, so when `vacuum` fails the call reports an error and every key is gone.
  * D19 (`View` can write on `:memory:`) is about the connection string, outside this model.
-/
import RedkaModel.Proofs.Fault

namespace Redka.Props.C07

open Redka Redka.Model Redka.Proofs.Fault

/-! ### 1. user-defined writable transactions -/

/-- Every run of `execTx` — any body, propagating or not, any fault — either reports success,
in which case there was no fault, no operation's error was handed on, and the database is the
result of all operations of the body in sequence; or reports an error, and the content of all six
tables is exactly what it was. -/
theorem usertx_atomic : ∀ (env : Env) (propagate : Bool) (body : List Op) (fault : Fault) (now : Int) (db : DB),
    let r := runTx env propagate body fault now db
    (r.1 = .ok () ∧ r.2 = foldOps now body db ∧
        (propagate = false ∨ bodyErrs now body db = false) ∧ fault = .none) ∨
    ((∃ a, r.1 = .error a) ∧ tables r.2 = tables db) := by
  intro env p body fault now db
  rcases runTx_cases env p body fault now db with h | ⟨he, h | ⟨_, h⟩⟩
  · exact .inl h
  · exact .inr ⟨he, by rw [h]⟩
  · exact .inr ⟨he, by rw [h, connAfterCancel_tables]⟩

/-- `tables a = tables b`: the same rows in each of the six tables. -/
theorem tables_eq_iff : ∀ a b : DB, tables a = tables b ↔
    a.keys = b.keys ∧ a.strs = b.strs ∧ a.lists = b.lists ∧ a.sets = b.sets ∧ a.hashes = b.hashes ∧
      a.zsets = b.zsets := by
  intro a b; cases a; cases b; simp [tables]

/-- The same on the whole database value (the connection's `foreign_keys` flag included), whenever
the connection survives the fault: always with a connect hook, and without one for every fault
other than a cancelled context. -/
theorem usertx_atomic_db : ∀ (env : Env) (propagate : Bool) (body : List Op) (fault : Fault) (now : Int) (db : DB),
    connKept env fault = true →
    let r := runTx env propagate body fault now db
    (r.1 = .ok () ∧ r.2 = foldOps now body db ∧
        (propagate = false ∨ bodyErrs now body db = false) ∧ fault = .none) ∨
    ((∃ a, r.1 = .error a) ∧ r.2 = db) := by
  intro env p body fault now db hc
  rcases runTx_cases env p body fault now db with h | ⟨he, h | ⟨⟨n, rfl⟩, h⟩⟩
  · exact .inl h
  · exact .inr ⟨he, h⟩
  · simp only [connKept, Bool.or_false] at hc
    exact .inr ⟨he, by rw [h, connAfterCancel, if_pos hc]⟩

/-- No fault is swallowed: with any fault the transaction reports an error. -/
theorem usertx_fault_reports_error : ∀ (env : Env) (propagate : Bool) (body : List Op) (fault : Fault)
    (now : Int) (db : DB), fault ≠ .none → ∃ a, (runTx env propagate body fault now db).1 = .error a := by
  intro env p body fault now db hf
  rcases usertx_atomic env p body fault now db with ⟨_, _, _, h⟩ | ⟨h, _⟩
  · exact absurd h hf
  · exact h

/-- A body that hands errors on and meets a failing operation is rolled back whole, whatever the
operations before it (and the failing one itself) had written. -/
theorem usertx_error_rolls_back : ∀ (env : Env) (body : List Op) (now : Int) (db : DB),
    bodyErrs now body db = true →
    (∃ a, (runTx env true body .none now db).1 = .error a) ∧ (runTx env true body .none now db).2 = db := by
  intro env body now db hb
  rcases usertx_atomic_db env true body .none now db (by simp [connKept]) with ⟨_, _, h, _⟩ | h
  · rcases h with h | h
    · cases h
    · rw [hb] at h; cases h
  · exact h

def d14db : DB :=
  { keys := [{ id := 1, key := [107], ty := TString, version := 1, etime := none, mtime := 0, len := none }],
    strs := [{ kid := 1, value := [118] }] }

def d14after : DB := (runTx { pragmaHook := false } true [.strSet [107] [119]] (.ctxCancelled 1) 7 d14db).2

/-- `usertx_atomic_db` without `connKept` is FALSE (D14). Library default (no connect hook), a
transaction that sets `k` and is then cancelled: the tables are untouched, but the connection that
serves the next call has `foreign_keys = off`, and a `Delete` on it leaves the value row of `k`
behind as an orphan. -/
theorem d14_connection_replaced_deviates :
    (runTx { pragmaHook := false } true [.strSet [107] [119]] (.ctxCancelled 1) 7 d14db).1 = .error .cancelled ∧
    tables d14after = tables d14db ∧ d14after ≠ d14db ∧
    (Model.dbRun (.keyDelete [[107]]) 8 d14db).db.strs = [] ∧
    (Model.dbRun (.keyDelete [[107]]) 8 d14after).db.strs = [{ kid := 1, value := [118] }] := by
  decide +kernel

/-! ### 2. single write operations -/

/-- Every `DB`-level operation of the model either reports success or leaves all six tables
exactly as they were. (From C12's `refusal_notrace_db`.) -/
theorem dbRun_atomic : ∀ (op : Op) (now : Int) (db : DB),
    (∃ v, (Model.dbRun op now db).out = .ok v) ∨ (Model.dbRun op now db).db = db := by
  intro op now db
  cases hout : (Model.dbRun op now db).out with
  | ok v => exact .inl ⟨v, rfl⟩
  | error e => exact .inr (Proofs.NoTrace.refusal_notrace_db hout)

def moveDb : DB :=
  { keys := [{ id := 1, key := [107], ty := TString, version := 1, etime := none, mtime := 0, len := none },
             { id := 2, key := [115], ty := TSet, version := 1, etime := none, mtime := 0, len := some 1 }],
    strs := [{ kid := 1, value := [118] }],
    sets := [{ rowid := 1, kid := 2, elem := [97] }] }

/-- This needs the wrappers: at `Tx` level (what an un-wrapped method would do) it is false.
`Move` of a member to a name held by a string removes the member from the source, then fails. -/
theorem tx_alone_is_not_atomic :
    (∃ e, (Model.tx true (.setMove [115] [107] [97]) 7 moveDb).out = .error e) ∧
    (Model.tx true (.setMove [115] [107] [97]) 7 moveDb).db ≠ moveDb ∧
    (Model.dbRun (.setMove [115] [107] [97]) 7 moveDb).db = moveDb :=
  ⟨⟨.keyType, rfl⟩, by decide +kernel, by decide +kernel⟩

/-- An `update`-wrapped method is `execTx` around the propagating one-operation body: the model's
`DB`-level function and the fault-free run agree. -/
theorem update_wrapped_is_execTx : ∀ (env : Env) (op : Op) (now : Int) (db : DB),
    Model.wrapOf op = .update →
    (dbRunFault env op .none now db).2 = (Model.dbRun op now db).db ∧
    ((dbRunFault env op .none now db).1 = .ok () ↔ ∃ v, (Model.dbRun op now db).out = .ok v) := by
  intro env op now db hw
  rw [Dispatch.dbRun_of_update hw]
  unfold dbRunFault runTx
  simp only [Fault.reached, runOps]
  cases hout : (Model.tx true op now db).out with
  | error e => rw [Dispatch.update_error hout]; simp [hout, rollback]
  | ok v => rw [Dispatch.update_ok hout]; simp [hout]

/-- One `update`-wrapped write operation under any fault: success with all of its effects (exactly
those of the fault-free `DB` method) and no fault, or an error and untouched tables. -/
theorem single_op_atomic_under_faults : ∀ (env : Env) (op : Op) (fault : Fault) (now : Int) (db : DB),
    Model.wrapOf op = .update →
    let r := dbRunFault env op fault now db
    (r.1 = .ok () ∧ r.2 = (Model.dbRun op now db).db ∧ (∃ v, (Model.dbRun op now db).out = .ok v) ∧
        fault = .none) ∨
    ((∃ a, r.1 = .error a) ∧ tables r.2 = tables db) := by
  intro env op fault now db hw
  rcases usertx_atomic env true [op] fault now db with ⟨h1, _, _, h4⟩ | h
  · subst h4
    have := update_wrapped_is_execTx env op now db hw
    exact .inl ⟨h1, this.1, this.2.mp h1, rfl⟩
  · exact .inr h

/-! ### 3. the source wraps every multi-statement writer (facts extracted on every run) -/

/-- Every exported `DB` method is judged safe: it is `update`-wrapped; or it runs on the read-only
handle and can only execute `select`s; or it runs outside a transaction and can execute at most one
statement that is not a `select` — the cleaner's two alternative statements being the one listed
exception. -/
theorem all_wrappers_safe : wrapTable.all wrapperSafe = true := by decide +kernel

theorem multi_statement_writers_are_wrapped :
    ∀ pm ∈ Generated.wrapNames, ∃ e ∈ wrapTable, (e.1, e.2.1) = pm ∧ wrapperSafe e = true := by
  intro pm hpm
  rw [← wrapTable_complete, List.mem_map] at hpm
  obtain ⟨e, he, rfl⟩ := hpm
  exact ⟨e, he, rfl, List.all_eq_true.mp all_wrappers_safe e he⟩

/-- Spelled out for the methods that are not `update`-wrapped: the statements they can reach are
known, and at most one of them writes (or they are the cleaner's two alternatives). -/
theorem non_update_wrappers_write_at_most_once :
    ∀ e ∈ wrapTable, e.2.2.1 ≠ "update" →
      ∃ w, reachWrites e.1 e.2.2.2 = some w ∧
        (w.length ≤ 1 ∨ isAlternatives e.1 e.2.1 w = true) ∧ (e.2.2.1 = "ro" → w = []) :=
  fun ⟨pkg, m, kind, callees⟩ he =>
    wrapperSafe_spec (List.all_eq_true.mp all_wrappers_safe (pkg, m, kind, callees) he)

/-- The methods that write straight on the RW handle, and everything each can execute. -/
theorem rw_wrappers :
    (wrapTable.filter (fun e => e.2.2.1 == "rw")).map (fun e => (e.2.1, reachStmts e.1 e.2.2.2)) =
      [("Delete", some ["sqlDelete"]), ("DeleteAll", some ["sqlDeleteAll"]),
       ("DeleteExpired", some ["sqlDeleteNExpired", "sqlDeleteAllExpired"]),
       ("Expire", some ["sqlExpire"]), ("ExpireAt", some ["sqlExpire"]), ("Persist", some ["sqlPersist"])] := by
  decide +kernel

/-- The builders (`"other"`): they only construct a command or hand over to a `DB` method that is
judged on its own, or run `select`s on the read-only transaction they were built with. -/
theorem other_wrappers :
    (wrapTable.filter (fun e => e.2.2.1 == "other")).map (fun e => (e.1, e.2.1, e.2.2.2)) =
      [("rstring", "SetWith", []), ("rzset", "DeleteWith", []), ("rzset", "Inter", ["InterCmd.Run"]),
       ("rzset", "InterWith", []), ("rzset", "RangeCmd.Run", ["RangeCmd.rangeRank", "RangeCmd.rangeScore"]),
       ("rzset", "Union", ["UnionCmd.Run"]), ("rzset", "UnionWith", [])] := by
  decide +kernel

/-- `DeleteAll`'s single statement is not a single SQL command. -/
theorem deleteAll_is_a_script : verbOf "rkey" "sqlDeleteAll" = some "delete+vacuum+pragma" := by decide +kernel

/-- … and the model shows what that means when the second command fails after the first has run
(inside a transaction `vacuum` always fails; on the handle a storage failure does the same): an
error is reported and every key is gone. `DeleteAll` is `rw`-direct, so nothing rolls this back. -/
theorem deleteAll_script_not_atomic :
    (∃ e, (Model.tx true .keyDeleteAll 7 d14db).out = .error e) ∧
    (Model.tx true .keyDeleteAll 7 d14db).db.keys = [] ∧ (Model.tx true .keyDeleteAll 7 d14db).db ≠ d14db :=
  ⟨⟨.sqlOther, rfl⟩, by decide +kernel, by decide +kernel⟩

/-! ### 4. the model wraps what the source wraps -/

/-- For every operation, the wrapper kind the model uses is the one extracted from the source for
its `DB` method. -/
theorem model_wrap_matches_source : ∀ op : Op,
    wrapKind (opMethod op).1 (opMethod op).2 = some (kindName (Model.wrapOf op)) := by
  intro op; cases op <;> dsimp only [opMethod, Model.wrapOf, kindName] <;> decide

/-- … and the method named is an exported one. -/
theorem opMethod_exported : ∀ op : Op, opMethod op ∈ Generated.wrapNames :=
  fun op => wrapKind_some (model_wrap_matches_source op)

/-! ### 5. read-only handle -/

/-- A method that runs on the read-only handle never changes the database. -/
theorem readonly_never_writes : ∀ (op : Op) (now : Int) (db : DB),
    Model.wrapOf op = .roDirect → (Model.dbRun op now db).db = db := by
  intro op now db hw
  rw [Dispatch.dbRun_of_read (Proofs.NoTrace.isRead_of_roDirect hw)]
  exact Proofs.NoTrace.read_notrace false op now db (Proofs.NoTrace.isRead_of_roDirect hw)

/-- In the source, every method on the read-only handle can only execute `select`s. -/
theorem ro_wrappers_only_select :
    ∀ e ∈ wrapTable, e.2.2.1 = "ro" → reachWrites e.1 e.2.2.2 = some [] := by
  rintro ⟨pkg, m, kind, callees⟩ he (hro : kind = "ro")
  obtain ⟨w, hw, -, hw_nil⟩ :=
    non_update_wrappers_write_at_most_once (pkg, m, kind, callees) he
      (by show kind ≠ "update"; rw [hro]; decide)
  rw [hw, hw_nil hro]

/-! ### 6. non-vacuity: one body, every fault -/

def db0 : DB :=
  { keys := [{ id := 1, key := [108], ty := TList, version := 1, etime := none, mtime := 0, len := some 1 },
             { id := 2, key := [115], ty := TSet, version := 1, etime := none, mtime := 0, len := some 1 }],
    lists := [{ kid := 1, pos := 0, elem := [97] }],
    sets := [{ rowid := 1, kid := 2, elem := [97] }] }

/-- set `k`, push to the list `l`, add to the set `s` -/
def body3 : List Op := [.strSet [107] [118], .listPushBack [108] [98], .setAdd [115] [[98]]]

/-- the same with a second step that fails after it has written: move `a` from the set `s` to the
name `k`, which the first step has just made a string -/
def body3bad : List Op := [.strSet [107] [118], .setMove [115] [107] [97], .listPushBack [108] [98]]

example : (runTx {} true body3 .none 7 db0).1 = .ok () ∧
    (runTx {} true body3 .none 7 db0).2 = foldOps 7 body3 db0 ∧
    (runTx {} true body3 .none 7 db0).2.keys.length = 3 ∧
    (runTx {} true body3 .none 7 db0).2 ≠ db0 := by decide +kernel
example : runTx {} true body3 .beginFails 7 db0 = (.error .beginFailed, db0) := by decide +kernel
example : runTx {} true body3 (.callbackError 2) 7 db0 = (.error .callbackError, db0) := by decide +kernel
example : runTx {} true body3 (.callbackPanics 1) 7 db0 = (.error .panicked, db0) := by decide +kernel
example : runTx {} true body3 (.ctxCancelled 3) 7 db0 = (.error .cancelled, db0) := by decide +kernel
example : runTx { pragmaHook := false } true body3 (.ctxCancelled 3) 7 db0 =
    (.error .cancelled, { db0 with fk := false }) := by decide +kernel
example : runTx {} true body3 .commitFails 7 db0 = (.error .commitFailed, db0) := by decide +kernel
/-- an operation fails after it has written; the body hands the error on: rolled back -/
example : runTx {} true body3bad .none 7 db0 = (.error (.bodyError .keyType), db0) ∧
    bodyErrs 7 body3bad db0 = true := by decide +kernel
/-- the body ignores the error: the transaction commits, the half-done `Move` included (the member
has left `s` and is nowhere) -/
example : (runTx {} false body3bad .none 7 db0).1 = .ok () ∧
    (runTx {} false body3bad .none 7 db0).2 = foldOps 7 body3bad db0 ∧
    (runTx {} false body3bad .none 7 db0).2.sets = [] ∧
    (runTx {} false body3bad .none 7 db0).2.lists.length = 2 := by decide +kernel

end Redka.Props.C07
