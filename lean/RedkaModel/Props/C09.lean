/-
  Property C09: durability and recovery.

  "If the process is killed at any instant, re-opening the database file succeeds and shows exactly
  the effects of every write that had been acknowledged to its caller, plus either all or none of
  the effects of each write that was in flight, and nothing else; all structural consistency rules
  hold in the recovered database. Closing and re-opening a database, any number of times and in
  read-write or read-only mode, preserves its content exactly."

  What is proved, and about what (`Model/Durable.lean`):

  * The process model: one client runs a workload of `DB`-level calls sequentially; every call is
    `exec` (statements on the VOLATILE working tables of the transaction — `Model.tx`, half-written
    when a wrapped method fails after a write), `settle` (`Commit`, or the deferred `Rollback` when
    the body returned an error; a bare statement auto-commits), `ack` (the method returns). A crash
    `(i, phase)` keeps only the `Store`. `recovered`, `acked`, `durable` are READ OFF that process,
    they are not defined by the closed forms proved below.
  * `recovered_by_phase`, `acked_by_phase`: the closed forms. `recovered_is_acked_or_inflight` /
    `recovered_which`: the file holds the first `acked` operations, or those plus the one in flight,
    and exactly when. `acked_writes_survive`: the file is reached from the state after ANY `j ≤ acked`
    operations by running whole operations only. `inflight_all_or_nothing`: for the operation in
    flight, nothing of it — or it succeeded, was committed, and all of it (`C07.dbRun_atomic`).
    `recovered_inv`: the invariant of C11 holds in the recovered database (`C11.reachable_inv`).
  * `reopen_preserves` … `close_reopen_any_modes`: `createSchema` on an existing database is the
    identity on the six tables BECAUSE every statement of `schema.sql` carries `if not exists`
    (`schema_all_if_not_exists`, decided over the flags the translator regenerates from the source on
    every run; `schemaTable_complete` ties the table to the generated list of names);
    `OpenRead` does not run the schema at all (`openRead_skips_schema`, decided on the generated
    body of `OpenRead`); `Close` only closes handles (`close_only_closes_handles`).
  * `crash_then_open`: the two halves together — after a crash at any point, `Open` and `OpenRead`
    succeed and show `recovered`.

  TRUSTED, not modelled (below transaction level; see `journal_settings`): SQLite's WAL. A
  transaction whose `Commit` has returned survives the death of the PROCESS; the frames of an
  uncommitted transaction are ignored by WAL recovery; a single statement on a handle is a
  transaction of its own. With `synchronous=normal` a POWER LOSS / OS crash may lose the latest
  commits: out of scope, C09 speaks of a killed process. Also trusted: the translator's
  `if not exists` flags and statement texts reflect `schema.sql` (Tie/Schema.lean pins them).

  Not covered: concurrent clients (one client, sequential calls); `DeleteAll`, whose single `Exec`
  is a three-command script — the model's `keyDeleteAll` at `DB` level is one step, the deviation is
  `C07.deleteAll_script_not_atomic`; user-defined transactions (`Update(func…)` with several
  operations) are one `runTx` of C07, `usertx_atomic`, and would be one `settle` here.

  Only property theorems and non-vacuity examples live here; definitions are in
  `Model/Durable.lean`, lemmas in `Proofs/Durable.lean`.
-/
import RedkaModel.Proofs.Durable

namespace Redka.Props.C09

open Redka Redka.Model Redka.Durable Redka.Proofs.Durable

/-! ### 1. what the file holds after a crash -/

/-- The process model does what the `DB` method does: running the statements and ending the
transaction leaves `(Model.dbRun …).db` in the file. -/
theorem op_is_dbRun : ∀ (p : Proc) (o : Op × Int),
    (settle (exec p o) o).store.committed = (Model.dbRun o.1 o.2 p.store.committed).db ∧
    (complete p o).store.committed = (Model.dbRun o.1 o.2 p.store.committed).db ∧
    (exec p o).store = p.store ∧ (complete p o).working = none :=
  fun p o => ⟨settle_exec_committed p o, complete_committed p o, rfl, rfl⟩

/-- `stateAfter w j` is C11's `run` of the first `j` operations from C11's `init`. -/
theorem stateAfter_is_run : ∀ (w : Workload) (j : Nat),
    stateAfter w j = Props.C11.run (w.take j) Props.C11.init :=
  fun _ _ => rfl

/-- Which state the file holds, per phase of operation `i` (for `i ≥ w.length` the process is idle
and all four are the final state, `stateAfter` clamps). -/
theorem recovered_by_phase : ∀ (w : Workload) (i : Nat),
    recovered w ⟨i, .before⟩ = stateAfter w i ∧
    recovered w ⟨i, .duringBeforeCommit⟩ = stateAfter w i ∧
    recovered w ⟨i, .afterCommitBeforeAck⟩ = stateAfter w (i + 1) ∧
    recovered w ⟨i, .afterAck⟩ = stateAfter w (i + 1) :=
  fun w _ => ⟨recovered_closed w _, recovered_closed w _, recovered_closed w _, recovered_closed w _⟩

/-- How many results the caller had, per phase of operation `i` of the workload. -/
theorem acked_by_phase : ∀ (w : Workload) (i : Nat), i < w.length →
    acked w ⟨i, .before⟩ = i ∧ acked w ⟨i, .duringBeforeCommit⟩ = i ∧
    acked w ⟨i, .afterCommitBeforeAck⟩ = i ∧ acked w ⟨i, .afterAck⟩ = i + 1 := by
  intro w i h
  simp [acked_closed, h, Nat.min_eq_left (Nat.le_of_lt h)]

/-- … and when the process dies idle after the whole workload. -/
theorem acked_idle : ∀ (w : Workload) (i : Nat) (ph : Phase), w.length ≤ i → acked w ⟨i, ph⟩ = w.length := by
  intro w i ph h
  rw [acked_closed, if_neg (by simp only []; omega), Nat.min_eq_right h]

/-- No result is returned before its transaction has ended, and at most one transaction has ended
without its result returned. -/
theorem acked_le_durable : ∀ (w : Workload) (c : Crash),
    acked w c ≤ durable w c ∧ durable w c ≤ acked w c + 1 := by
  intro w c
  rw [acked_closed, durable_closed]
  by_cases hlen : c.i < w.length
  · -- both count the `c.i` operations before; the one in flight is counted by `durable` once it
    -- has settled, by `acked` once it has returned, and it settles before it returns
    by_cases ha : c.phase = .afterAck
    · have hs : c.phase.settled = true := by rw [ha]; rfl
      rw [if_pos ⟨ha, hlen⟩, if_pos ⟨hs, hlen⟩]; omega
    · rw [if_neg (fun h => ha h.1)]; split <;> omega
  · rw [if_neg (fun h => hlen h.2), if_neg (fun h => hlen h.2)]; omega

/-- The file holds exactly the operations whose transaction had ended. -/
theorem recovered_is_durable : ∀ (w : Workload) (c : Crash), recovered w c = stateAfter w (durable w c) := by
  intro w c
  rw [recovered_closed, durable_closed]
  by_cases hlen : c.i < w.length
  · cases hc : c.phase.settled <;> simp [hlen, Nat.min_eq_left (Nat.le_of_lt hlen)]
  · have hlen' : w.length ≤ c.i := Nat.le_of_not_lt hlen
    have hneg : ¬ (c.phase.settled = true ∧ c.i < w.length) := fun h => hlen h.2
    rw [if_neg hneg, Nat.min_eq_right hlen']
    split
    · exact stateAfter_ge w _ (by omega)
    · exact stateAfter_ge w _ hlen'

/-- The recovered database is the state after the acknowledged operations, or after those and the
one in flight. Nothing else. -/
theorem recovered_is_acked_or_inflight : ∀ (w : Workload) (c : Crash),
    recovered w c = stateAfter w (acked w c) ∨ recovered w c = stateAfter w (acked w c + 1) := by
  intro w c
  rw [recovered_is_durable]
  have h := acked_le_durable w c
  rcases Nat.lt_or_ge (acked w c) (durable w c) with hlt | hge
  · exact .inr (by rw [show durable w c = acked w c + 1 by omega])
  · exact .inl (by rw [show durable w c = acked w c by omega])

/-- Precisely which: the in-flight operation is in the file exactly when the process died between
its commit and its acknowledgement. -/
theorem recovered_which : ∀ (w : Workload) (c : Crash),
    (c.phase = .afterCommitBeforeAck ∧ c.i < w.length → recovered w c = stateAfter w (acked w c + 1)) ∧
    (¬ (c.phase = .afterCommitBeforeAck ∧ c.i < w.length) → recovered w c = stateAfter w (acked w c)) := by
  intro w c
  have hd := durable_closed w c
  have ha := acked_closed w c
  rw [recovered_is_durable]
  obtain ⟨i, ph⟩ := c
  constructor
  · rintro ⟨hp, hl⟩
    simp only [] at hp hl
    subst hp
    simp only [Phase.settled] at hd ha
    rw [hd, ha]; simp [hl, Nat.min_eq_left (Nat.le_of_lt hl)]
  · intro hn
    congr 1
    rw [hd, ha]
    cases ph <;> simp only [Phase.settled] <;> simp_all <;> omega

/-- Every acknowledged write survives, and nothing is half-applied: from the state after ANY
`j ≤ acked` operations, the recovered database is reached by running whole operations — operations
`j+1 … durable` of the workload, in order, each through `Model.dbRun`. -/
theorem acked_writes_survive : ∀ (w : Workload) (c : Crash) (j : Nat), j ≤ acked w c →
    recovered w c = Props.C11.run ((w.take (durable w c)).drop j) (stateAfter w j) := by
  intro w c j hj
  rw [recovered_is_durable, ← runFrom_eq_run]
  exact stateAfter_split w j _ (Nat.le_trans hj (acked_le_durable w c).1)

/-- The write in flight: none of its effects are in the file; or it had succeeded, its transaction
had been committed, and all of its effects are. (A write that fails has no effects:
`C07.dbRun_atomic`.) -/
theorem inflight_all_or_nothing : ∀ (w : Workload) (i : Nat) (ph : Phase) (o : Op × Int), w[i]? = some o →
    recovered w ⟨i, ph⟩ = stateAfter w i ∨
    ((∃ v, (Model.dbRun o.1 o.2 (stateAfter w i)).out = .ok v) ∧ ph.settled = true ∧
      recovered w ⟨i, ph⟩ = (Model.dbRun o.1 o.2 (stateAfter w i)).db) := by
  intro w i ph o ho
  rw [recovered_closed]
  cases hs : ph.settled
  · exact .inl rfl
  · simp only [if_true]
    rw [stateAfter_succ_some w i o ho]
    rcases Props.C07.dbRun_atomic o.1 o.2 (stateAfter w i) with hok | hsame
    · exact .inr ⟨hok, trivial, rfl⟩
    · exact .inl hsame

/-- The working tables of a transaction that had not committed never reach the file, whatever the
method had written to them. -/
theorem uncommitted_work_is_lost : ∀ (w : Workload) (i : Nat),
    recovered w ⟨i, .duringBeforeCommit⟩ = recovered w ⟨i, .before⟩ := by
  intro w i
  rw [(recovered_by_phase w i).1, (recovered_by_phase w i).2.1]

/-- All structural consistency rules (C11's invariant) hold in the recovered database, and its
connection flag is the default one. -/
theorem recovered_inv : ∀ (w : Workload) (c : Crash), (recovered w c).Inv ∧ (recovered w c).fk = true := by
  intro w c
  rw [recovered_is_durable, stateAfter_is_run]
  exact Props.C11.reachable_inv _

/-! ### 2. re-opening -/

/-- The tie: every statement of `schema.sql` — ranged over by the generated list of names, looked up
in `schemaTable`, judged by the generated flag — is a `create … if not exists` (or the
`user_version` pragma). Dropping one `if not exists` in the source makes the evaluation fail. -/
theorem schema_all_if_not_exists : allIfNotExists = true := allIfNotExists_true

/-- `schemaTable` is exactly the generated list of schema objects, in order: an object added to or
removed from `schema.sql` breaks the build here. -/
theorem schemaTable_complete : schemaTable.map (·.name) = Generated.schemaNames := by rfl

/-- the only statement without the flag is the pragma; all 25 `create` statements carry it -/
theorem schema_only_pragma_lacks_flag :
    (schemaTable.filter (fun s => !s.ifNotExists)).map (·.text) = ["pragma user_version = 1"] ∧
    (schemaTable.filter (·.ifNotExists)).length = 25 := by decide +kernel

/-- the six tables of the model are the six `create table` statements of the schema -/
theorem six_tables_declared :
    (Generated.schemaNames.filter (fun n => (bytesOf "table_").isPrefixOf (bytesOf n))) =
      ["table_rkey", "table_rstring", "table_rlist", "table_rset", "table_rhash", "table_rzset"] := by
  decide +kernel

/-- `createSchema` on an existing database succeeds. -/
theorem createSchema_succeeds : ∀ db : DB, createSchema db = some db := createSchema_some

theorem reopen_preserves : ∀ db : DB, reopen db = db :=
  fun db => by simp [reopen, createSchema_some]

theorem reopen_idempotent : ∀ db : DB, reopen (reopen db) = reopen db :=
  fun db => by rw [reopen_preserves, reopen_preserves]

theorem close_reopen_cycles : ∀ (n : Nat) (db : DB), iter reopen n db = db := iter_id reopen reopen_preserves

/-- `reopen` really depends on the flags: with the schema as it is but `rkey` created without
`if not exists`, `createSchema` fails on an existing database and `Open` shows nothing. -/
theorem reopen_needs_if_not_exists :
    let tbl := schemaTable.map fun s => if s.name == "table_rkey" then { s with ifNotExists := false } else s
    ∀ db : DB, createSchemaOf tbl Generated.schemaNames db = none := by
  intro tbl db
  have h : allKeepOf tbl Generated.schemaNames = false := by decide +kernel
  simp [createSchemaOf, h]

/-- … and on the coverage: an object of the schema that the table does not know makes it fail. -/
theorem reopen_needs_complete_table : ∀ db : DB,
    createSchemaOf schemaTable ("table_rnew" :: Generated.schemaNames) db = none := by
  intro db
  have h : allKeepOf schemaTable ("table_rnew" :: Generated.schemaNames) = false := by decide +kernel
  simp [createSchemaOf, h]

/-- `OpenRead` builds the repository with `sqlx.New`, which does not call `init` (no pragmas
`Exec`'d, no `createSchema`), not with `sqlx.Open`: decided on the generated body of `OpenRead`.
For contrast, `Open` does go through `sqlx.Open`. -/
theorem openRead_skips_schema :
    hasSub Generated.c_redka_OpenRead "sqlx.Open(" = false ∧
    hasSub Generated.c_redka_OpenRead "sqlx.New(" = true ∧
    hasSub Generated.c_redka_Open "sqlx.Open(" = true ∧
    Generated.c_sqlx_DB_init = "{ d.setNumConns() err := d.applySettings(pragma) if err != nil { return err } return d.createSchema() }" ∧
    Generated.c_sqlx_DB_createSchema = "{ _, err := d.RW.Exec(sqlSchema) return err }" :=
  ⟨openRead_tie.1, openRead_tie.2, by decide +kernel, rfl, rfl⟩

/-- a read-only `DB` does not start the background cleaner (the only thing `new` starts) -/
theorem openRead_starts_no_cleaner : Generated.c_new_bgStart = "[!opts.readonly] rdb.startBgManager()" :=
  rfl

/-- Opening read-only executes nothing on the database. -/
theorem readonly_reopen_preserves : ∀ db : DB, openRO db = some db := openRO_eq

/-- `Close` = stop the cleaner's ticker, close the RW handle, close the RO handle. -/
theorem close_only_closes_handles :
    Generated.c_close_calls = "db.bg.Stop(); db.RW.Close(); db.RO.Close()" := rfl

theorem close_preserves : ∀ db : DB, close db = some db := close_eq

/-- The whole `Open` (pragmas, then schema) on an existing database: succeeds, same rows in every
table, `foreign_keys` on. -/
theorem open_preserves : ∀ db : DB, openRW db = some { db with fk := true } := openRW_eq

/-- Closing and re-opening, any number of times, in any sequence of read-write and read-only modes:
every step succeeds and the six tables are exactly what they were; a database whose connection had
`foreign_keys = on` (every database reachable from the empty one) comes back identical. -/
theorem close_reopen_any_modes : ∀ (ms : List Mode) (db : DB),
    ∃ d, cycles ms db = some d ∧ tables d = tables db ∧ (db.fk = true → d = db) := by
  intro ms
  induction ms with
  | nil => intro db; exact ⟨db, rfl, rfl, fun _ => rfl⟩
  | cons m ms ih =>
    intro db
    obtain ⟨d1, h1, t1, e1⟩ := cycle_tables m db
    obtain ⟨d2, h2, t2, e2⟩ := ih d1
    refine ⟨d2, by simp [cycles, h1, h2], t2.trans t1, ?_⟩
    intro hfk
    have := e1 hfk
    subst this
    exact e2 hfk

/-- `execTx` returns to its caller only through `return dtx.Commit()` (or an error before it): an
acknowledged write has been committed. This is the source fact behind `ack` coming after `settle`. -/
theorem ack_follows_commit_in_source :
    Generated.c_sqlx_DB_execTx = "{ var dtx *sql.Tx var err error if writable { dtx, err = d.RW.BeginTx(ctx, nil) } else { dtx, err = d.RO.BeginTx(ctx, nil) } if err != nil { return err } defer func() { _ = dtx.Rollback() }() tx := d.newT(dtx) err = f(tx) if err != nil { return err } return dtx.Commit() }" := rfl

/-- The journal settings the model's trust rests on. The default options use `sqlx.DefaultPragma`,
which sets `journal_mode=wal`, `synchronous=normal` and `foreign_keys=on`; the server's connect
hook sets the same three.

TRUSTED about them (SQLite, not modelled): in WAL mode a transaction is committed by appending its
commit frame to the `-wal` file; once `Commit` has returned, that frame has been written (to the OS
at least), so the transaction survives the death of the process, and on the next open WAL recovery
replays exactly the transactions whose commit frame is present — all of a committed transaction,
nothing of an uncommitted one. `synchronous=normal` means the WAL is fsync'ed at checkpoints only,
not at every commit: after a POWER LOSS or OS crash the most recent commits may be missing (the
database is still consistent). That is outside C09, which speaks of a killed process. -/
theorem journal_settings :
    hasPragma Generated.c_sqlx_DefaultPragma "journal_mode=wal" = true ∧
    hasPragma Generated.c_sqlx_DefaultPragma "synchronous=normal" = true ∧
    hasPragma Generated.c_sqlx_DefaultPragma "foreign_keys=on" = true ∧
    Generated.c_defaultOptions_Pragma = "sqlx.DefaultPragma" ∧
    hasSub Generated.c_main_pragma "pragma journal_mode = wal;" = true ∧
    hasSub Generated.c_main_pragma "pragma synchronous = normal;" = true ∧
    hasSub Generated.c_main_pragma "pragma foreign_keys = on;" = true :=
  ⟨defaultPragma_tie.1, defaultPragma_tie.2.1, defaultPragma_tie.2.2, rfl, by decide +kernel⟩

/-! ### 3. both halves -/

/-- Kill the process at any instant of any workload, then open the file read-write or read-only:
the open succeeds and shows `recovered` — which is the state after the acknowledged operations, or
after those and the one in flight, and satisfies the invariant. -/
theorem crash_then_open : ∀ (w : Workload) (c : Crash) (m : Mode),
    openAs m (recovered w c) = some (recovered w c) ∧
    (recovered w c = stateAfter w (acked w c) ∨ recovered w c = stateAfter w (acked w c + 1)) ∧
    (recovered w c).Inv := by
  intro w c m
  refine ⟨?_, recovered_is_acked_or_inflight w c, (recovered_inv w c).1⟩
  cases m
  · have hfk := (recovered_inv w c).2
    simp only [openAs, openRW_eq]
    congr 1
    generalize recovered w c = d at hfk
    cases d; simp_all
  · exact openRO_eq _

/-! ### 4. non-vacuity: a 4-operation workload, a crash in each phase -/

/-- set the string `k`; add `a` to the set `s`; move `a` from `s` to `k` (fails with `ErrKeyType`
AFTER it has removed `a` from `s`: rolled back); push to the list `l` -/
def w4 : Workload :=
  [(.strSet [107] [118], 1), (.setAdd [115] [[97]], 2), (.setMove [115] [107] [97], 3),
   (.listPushBack [108] [98], 4)]

/-- operation 1 (`setAdd`) in each phase: results returned, transactions ended, keys in the file -/
example : (acked w4 ⟨1, .before⟩, durable w4 ⟨1, .before⟩, (recovered w4 ⟨1, .before⟩).keys.length) = (1, 1, 1) := by
  decide +kernel
example : (acked w4 ⟨1, .duringBeforeCommit⟩, durable w4 ⟨1, .duringBeforeCommit⟩,
    (recovered w4 ⟨1, .duringBeforeCommit⟩).keys.length) = (1, 1, 1) := by decide +kernel
example : (acked w4 ⟨1, .afterCommitBeforeAck⟩, durable w4 ⟨1, .afterCommitBeforeAck⟩,
    (recovered w4 ⟨1, .afterCommitBeforeAck⟩).keys.length) = (1, 2, 2) := by decide +kernel
example : (acked w4 ⟨1, .afterAck⟩, durable w4 ⟨1, .afterAck⟩, (recovered w4 ⟨1, .afterAck⟩).keys.length) = (2, 2, 2) := by
  decide +kernel

/-- the states really differ: the in-flight `setAdd` is in the file after its commit, not before -/
example : recovered w4 ⟨1, .duringBeforeCommit⟩ = stateAfter w4 1 ∧
    recovered w4 ⟨1, .afterCommitBeforeAck⟩ = stateAfter w4 2 ∧ stateAfter w4 1 ≠ stateAfter w4 2 ∧
    (stateAfter w4 2).sets = [{ rowid := 1, kid := 2, elem := [97] }] := by decide +kernel

/-- operation 2 (`setMove`) dies mid-transaction: the working tables have lost the member, the file
has not; and when it runs to its end it is rolled back, so the file is the same in all four phases -/
example : ((runUntil w4 ⟨2, .duringBeforeCommit⟩).working.map (·.db.sets)) = some [] ∧
    (recovered w4 ⟨2, .duringBeforeCommit⟩).sets = [{ rowid := 1, kid := 2, elem := [97] }] ∧
    recovered w4 ⟨2, .afterCommitBeforeAck⟩ = recovered w4 ⟨2, .before⟩ ∧
    recovered w4 ⟨2, .afterAck⟩ = recovered w4 ⟨2, .before⟩ ∧
    (acked w4 ⟨2, .afterAck⟩, durable w4 ⟨2, .afterCommitBeforeAck⟩) = (3, 3) := by decide +kernel

/-- the process dies idle after the whole workload -/
example : acked w4 ⟨9, .duringBeforeCommit⟩ = 4 ∧ recovered w4 ⟨9, .duringBeforeCommit⟩ = stateAfter w4 4 ∧
    (stateAfter w4 4).keys.length = 3 ∧ (stateAfter w4 4).lists.length = 1 := by decide +kernel

/-- the theorems instantiated on it -/
example : recovered w4 ⟨3, .afterCommitBeforeAck⟩ =
    Props.C11.run [(.setMove [115] [107] [97], 3), (.listPushBack [108] [98], 4)] (stateAfter w4 2) :=
  acked_writes_survive w4 ⟨3, .afterCommitBeforeAck⟩ 2 (by decide +kernel)
example : (recovered w4 ⟨3, .afterCommitBeforeAck⟩).Inv := (recovered_inv _ _).1
example : reopen (recovered w4 ⟨3, .afterCommitBeforeAck⟩) = recovered w4 ⟨3, .afterCommitBeforeAck⟩ ∧
    (recovered w4 ⟨3, .afterCommitBeforeAck⟩).lists = [{ kid := 3, pos := 0, elem := [98] }] :=
  ⟨reopen_preserves _, by decide +kernel⟩
example : cycles [.rw, .ro, .ro, .rw] (stateAfter w4 4) = some (stateAfter w4 4) := by
  obtain ⟨d, h, _, e⟩ := close_reopen_any_modes [.rw, .ro, .ro, .rw] (stateAfter w4 4)
  rw [h, e (by decide +kernel)]

end Redka.Props.C09
