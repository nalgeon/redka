/-
  C14 — one well-formed reply per request; no input crashes the server.

  "For any request a client can send - any command name, any number of arguments, any bytes in them,
  alone, pipelined or inside a transaction block - the server sends back exactly one complete,
  well-formed reply, keeps the connection in step for the requests that follow, and keeps running
  and serving all other clients. No input crashes the process, hangs a connection or leaves a reply
  half-written."

  The statements are about the Lean model of the handler chain (`Model/Wire/Server.lean`:
  `parse → multi → handle → handleMulti / handleSingle`) and of every command's `Run`
  (`Cmd/Run.lean`), for EVERY connection state, EVERY table state, EVERY clock value and EVERY
  request. Replies are token lists (one token per `redis.Writer` call); `wellFormedOne` says a token
  list is exactly one complete RESP value, and `wellFormedOne_on_the_wire` ties that to bytes through
  the encoder/decoder of C17.

  "No input crashes the process" HOLDS in the model: `no_request_crashes` (D11, a negative
  `numkeys` panicking inside `command.Parse`, has been repaired; witness `negative_numkeys_is_refused`:
  the request gets exactly one error reply).
  "Exactly one complete, well-formed reply", alone or inside a transaction block, HOLDS as well:
  `one_reply` — for every connection state (idle or queuing, any queue), every table state and every request
  inside the model's domain. D12 (`EXEC` announced `*n` and stopped writing at the first queued command that
  failed) has been repaired: every queued command runs and writes its reply, the first error rolls the block
  back (`exec_one_reply`; witness `exec_reply_complete`).
  Inside MULTI: `in_multi_one_reply` (everything but EXEC) and `exec_one_reply`.
  `InModel` excludes only what the model makes no claim about: requests outside its numeric domain
  (`ood`, e.g. float formatting beyond 15 digits, LRANGE bounds near 2^63) and — vacuous for the
  generated tables — constructs the extractor did not recognise. Every command is covered: all 92
  `Cmd` constructors are handled by `every_command_writes_one_value`.
  Only property theorems and non-vacuity examples live here; the lemmas are in
  `RedkaModel/Proofs/WireReply.lean` and `WirePanic.lean`; the witnesses parse through `witnessRows` of
  `WireEval.lean`.
-/
import RedkaModel.Proofs.WireReply
import RedkaModel.Proofs.WirePanic
import RedkaModel.Proofs.WireEval
import RedkaModel.Model.Wire.Witness

namespace Redka.Props.C14

open Redka Redka.Wire Redka.WireProofs

/-! ### one complete value per `Run` -/

/-- **Every command object** — all constructors of `Cmd`, through a `*redka.DB` or inside a
transaction, whatever the repository call returns — writes exactly one complete RESP value
(unless the request is outside the model's numeric domain, where nothing is claimed). -/
theorem every_command_writes_one_value :
    ∀ (c : ParsedCmd) (r : Runner) (now : Int) (db : DB) (oracle : Option Bytes),
      (run c r now db oracle).ood = false → wellFormedOne (run c r now db oracle).toks :=
  run_ok

/-! ### one reply per request, outside MULTI -/

/-- **One reply per request.** Outside a transaction block, for every request inside the model's
domain (`InModel`: numeric domain, known constructs — nothing about panics has to be assumed), the
handler chain writes exactly one complete value. -/
theorem one_reply_partial :
    ∀ (st : ConnState) (db : DB) (now : Int) (req : List Bytes), st.inMulti = false →
      InModel (handleX st db now req []) → wellFormedOne (handle st db now req).2.2 :=
  handle_one_reply

/-- The handler chain itself never panics; only `command.Parse` could … -/
theorem crash_only_in_parser :
    ∀ (st : ConnState) (db : DB) (now : Int) (req : List Bytes),
      (handleX st db now req []).panic = true → parse req = .panic :=
  handleX_panic

/-- … and it never does: **no input crashes the process.** Every connection state (inside or
outside MULTI, any queue), every table state, every request. The one panic path the model has in
the chain itself (`handleSingle` on an empty queue: method call on a nil command) is unreachable
from `handleX`, which pushes the parsed command first. -/
theorem no_request_crashes :
    ∀ (st : ConnState) (db : DB) (now : Int) (req : List Bytes),
      (handleX st db now req []).panic = false :=
  handleX_noPanic

/-- Malformed invocations: one error token, nothing else changes (also inside MULTI). -/
theorem parse_error_one_reply :
    ∀ (st : ConnState) (db : DB) (now : Int) (req : List Bytes) (e : RErr), parse req = .error e →
      (handle st db now req).1 = st ∧ (handle st db now req).2.1 = db ∧
        wellFormedOne (handle st db now req).2.2 := by
  intro st db now req e h
  rw [handle_parse_error st db now req e h]
  exact ⟨rfl, rfl, wf_scalar _ rfl⟩

/-! ### inside a transaction block, other than EXEC -/

/-- Inside MULTI every request that parses and is not `EXEC` gets exactly one token — `QUEUED`
(the command joins the queue), the nested-MULTI error, or `OK` for `DISCARD` — and the tables are
not touched. -/
theorem in_multi_one_reply :
    ∀ (st : ConnState) (db : DB) (now : Int) (req : List Bytes) (pc : ParsedCmd),
      st.inMulti = true → parse req = .ok pc → isName pc.name "exec" = false →
      handle st db now req =
        if isName pc.name "multi" then (st, db, [plainErr .nestedMulti])
        else if isName pc.name "discard" then ({ inMulti := false, cmds := [] }, db, [okTok])
        else ({ st with cmds := st.cmds ++ [pc] }, db, [.str (asciiBytes "QUEUED")]) :=
  handleX_in_multi

theorem in_multi_well_formed :
    ∀ (st : ConnState) (db : DB) (now : Int) (req : List Bytes) (pc : ParsedCmd),
      st.inMulti = true → parse req = .ok pc → isName pc.name "exec" = false →
      wellFormedOne (handle st db now req).2.2 ∧ (handle st db now req).2.1 = db :=
  handle_in_multi_one_reply

/-! ### EXEC -/

/-- **EXEC.** Inside MULTI, `EXEC` writes `*n` for the `n` queued commands and then one complete value per
queued command — all `n` of them, whether or not one fails (D12, repaired): its reply is exactly one complete
RESP value. -/
theorem exec_one_reply :
    ∀ (st : ConnState) (db : DB) (now : Int) (req : List Bytes) (pc : ParsedCmd),
      st.inMulti = true → parse req = .ok pc → pc.name = asciiBytes "exec" →
      (handleX st db now req []).ood = false →
      owed (handle st db now req).2.2 1 = some 0 ∧
      (runQueue st.cmds now db [] 1).segs.length = st.cmds.length ∧
      wellFormedOne (handle st db now req).2.2 :=
  exec_owed

/-- the loop of `handleMulti` on its own: one complete value per queued command, failing ones included -/
theorem exec_queue_values :
    ∀ (cmds : List ParsedCmd) (now : Int) (db : DB) (obs : List Token) (pos : Nat),
      (runQueue cmds now db obs pos).ood = false →
      WellFormed cmds.length ((runQueue cmds now db obs pos).segs.flatMap (·.toks)) := by
  intro cmds now db obs pos ho
  have h := runQueue_owed cmds now db obs pos 0 ho
  unfold WellFormed
  simpa using h.2

/-- **One reply per request — alone or inside a transaction block.** For every connection state (idle or
queuing, whatever is queued), every table state, every clock value and every request inside the model's
domain, the handler chain writes exactly one complete value. -/
theorem one_reply :
    ∀ (st : ConnState) (db : DB) (now : Int) (req : List Bytes),
      InModel (handleX st db now req []) → wellFormedOne (handle st db now req).2.2 := by
  intro st db now req hin
  cases hm : st.inMulti with
  | false => exact handle_one_reply st db now req hm hin
  | true =>
    cases hp : parse req with
    | error e => exact (parse_error_one_reply st db now req e hp).2.2
    | panic => exact absurd hp (parse_ne_panic req)
    | outOfDomain => simp [InModel, handleX, hp] at hin
    | unsupported t => simp [InModel, handleX, hp] at hin
    | ok pc =>
      cases hn : isName pc.name "exec" with
      | false => exact (handle_in_multi_one_reply st db now req pc hm hp hn).1
      | true =>
        have hname : pc.name = asciiBytes "exec" := by
          simpa [isName] using hn
        exact (exec_owed st db now req pc hm hp hname hin.1).2.2

/-! ### from tokens to bytes (C17) -/

/-- **Well-formed on the wire.** A token list that is exactly one complete value is, byte for byte,
the redcon encoding of one reply tree; the strict RESP decoder reads it back as that one reply and
leaves whatever follows untouched — the connection stays in step. -/
theorem wellFormedOne_on_the_wire :
    ∀ ts : List Token, wellFormedOne ts →
      ∃ r : Resp.Reply, Resp.Clean r ∧ encodeTokens ts = Resp.encode r ∧
        ∀ rest : Bytes, Resp.decode (encodeTokens ts ++ rest) = some (r, rest) :=
  wellFormedOne_decodes

/-- pipelined: `k` complete values are read as exactly `k` replies, to the last byte -/
theorem pipelined_replies_on_the_wire :
    ∀ (ts : List Token) (k : Nat), WellFormed k ts →
      ∃ rs : List Resp.Reply, rs.length = k ∧ Resp.decodeAll (encodeTokens ts) = some rs :=
  wellFormed_stream

/-- pipelined requests: if each reply is one complete value, the concatenation is as many complete
values, and is read back as exactly that many replies -/
theorem pipeline_replies :
    ∀ l : List (List Token), (∀ ts ∈ l, wellFormedOne ts) →
      ∃ rs : List Resp.Reply, rs.length = l.length ∧ Resp.decodeAll (encodeTokens l.flatten) = some rs :=
  fun l h => wellFormed_stream _ _ (wellFormed_flatten l h)

/-- one request, end to end: bytes of exactly one reply -/
theorem one_reply_bytes :
    ∀ (st : ConnState) (db : DB) (now : Int) (req : List Bytes), st.inMulti = false →
      InModel (handleX st db now req []) →
      ∃ r : Resp.Reply, ∀ rest : Bytes,
        Resp.decode (encodeTokens (handle st db now req).2.2 ++ rest) = some (r, rest) := by
  intro st db now req hm hin
  obtain ⟨r, _, _, h⟩ := wellFormedOne_decodes _ (handle_one_reply st db now req hm hin)
  exact ⟨r, h⟩

/-! ### non-vacuity and witnesses -/

section Examples

open Redka.Wire.Witness

/-- `queued` request by request, so that its `parse` is visible to rewriting -/
theorem queued_cons (r : List Bytes) (rs : List (List Bytes)) :
    queued (r :: rs) = match parse r with | .ok c => c :: queued rs | _ => queued rs := by
  unfold queued
  rw [List.filterMap_cons]
  cases parse r <;> rfl

/-- D11 repaired: `ZINTER -1 k1` gets exactly one reply, the wrong-number-of-arguments error; the
process, the connection state and the tables are untouched -/
theorem negative_numkeys_is_refused :
    handle {} db0 2000 [b "ZINTER", b "-1", b "k1"]
      = ({}, db0, [.err (b "ERR wrong number of arguments ()")]) ∧
    wellFormedOne (handle {} db0 2000 [b "ZINTER", b "-1", b "k1"]).2.2 := by
  -- the request is parsed through `witnessRows` (Proofs/WireEval), then the rest is evaluated
  rw [handle_witness]
  open TokenEq in decide +kernel

/-- … also inside MULTI: nothing is queued -/
example : handle { inMulti := true } db0 2000 [b "ZUNIONSTORE", b "d", b "-1", b "k1"]
    = ({ inMulti := true }, db0, [.err (b "ERR wrong number of arguments ()")]) := by
  rw [handle_witness]
  open TokenEq in decide +kernel

/-- D12 repaired: `MULTI; INCR k2 (a list); INCR k1; EXEC` announces two values and writes two — the error of
the first command and the reply of the second (whose effect is rolled back with the block) -/
theorem exec_reply_complete :
    (handle { inMulti := true, cmds := queued [[b "INCR", b "k2"], [b "INCR", b "k1"]] } db0 2000 [b "EXEC"])
      = ({}, db0, [.arrayHdr 2, .err (b "key type mismatch (incr)"), .int 8]) ∧
    wellFormedOne [.arrayHdr 2, .err (b "key type mismatch (incr)"), .int 8] ∧
    -- what the reply used to be: one value short
    ¬ wellFormedOne [.arrayHdr 2, .err (b "key type mismatch (incr)")] ∧
    owed [.arrayHdr 2, .err (b "key type mismatch (incr)")] 1 = some 1 := by
  simp only [handle_witness, queued_cons, parse_witness]
  open TokenEq in decide +kernel

open scoped TokenEq

/-- `one_reply` instantiated inside a block with a failing command -/
example :
    wellFormedOne (handle { inMulti := true, cmds := queued [[b "INCR", b "k2"], [b "INCR", b "k1"]] } db0 2000
      [b "EXEC"]).2.2 :=
  one_reply _ _ _ _ (by
    unfold InModel; rw [handleX]; simp only [queued_cons, parse_witness]; decide +kernel)

/-- a block without failure -/
example :
    (handle { inMulti := true, cmds := queued [[b "INCR", b "k1"], [b "LLEN", b "k2"]] } db0 2000 [b "EXEC"]).2.2
      = [.arrayHdr 2, .int 8, .int 1] ∧ wellFormedOne [.arrayHdr 2, .int 8, .int 1] := by
  simp only [handle_witness, queued_cons, parse_witness]; decide +kernel

/-- `InModel` holds for ordinary requests (the hypotheses of `one_reply_partial` are satisfiable) -/
example : InModel (handleX {} db0 2000 [b "LRANGE", b "k2", b "0", b "-1"] []) := by
  unfold InModel; rw [handleX, parse_witness]; decide +kernel
example : (handle {} db0 2000 [b "LRANGE", b "k2", b "0", b "-1"]).2.2 = [.arrayHdr 1, .bulk (b "a")] := by
  rw [handle_witness]; decide +kernel
example : wellFormedOne (handle {} db0 2000 [b "LRANGE", b "k2", b "0", b "-1"]).2.2 :=
  one_reply_partial _ _ _ _ rfl (by unfold InModel; rw [handleX, parse_witness]; decide +kernel)
/-- an unknown command, an arity error and a type error are each one error reply -/
example : (handle {} db0 2000 [b "FOO", b "x"]).2.2 = [.err (b "ERR unknown command (foo)")] := by
  rw [handle_witness]; decide +kernel
example : (handle {} db0 2000 [b "INCR", b "k2"]).2.2 = [.err (b "key type mismatch (incr)")] := by
  rw [handle_witness]; decide +kernel

/-- inside MULTI: queuing, nesting, discarding -/
example : handle { inMulti := true } db0 2000 [b "INCR", b "k1"]
    = ({ inMulti := true, cmds := queued [[b "INCR", b "k1"]] }, db0, [.str (b "QUEUED")]) := by
  simp only [handle_witness, queued_cons, parse_witness]; decide +kernel
example : (handle { inMulti := true } db0 2000 [b "MULTI"]).2.2 = [.err (b "ERR MULTI calls can not be nested")] := by
  rw [handle_witness]; decide +kernel
example : handle { inMulti := true, cmds := queued [[b "INCR", b "k1"]] } db0 2000 [b "DISCARD"]
    = ({}, db0, [.str (b "OK")]) := by
  simp only [handle_witness, queued_cons, parse_witness]; decide +kernel

/-- the counter rejects a half-written array, a token after the value, and an empty reply -/
example : ¬ wellFormedOne [.arrayHdr 2, .int 1] := by decide
example : ¬ wellFormedOne [.int 1, .int 2] := by decide
example : ¬ wellFormedOne [] := by decide
example : wellFormedOne [.arrayHdr 2, .int 0, .arrayHdr 2, .bulk [1], .bulk [2]] := by decide

/-- tokens to bytes: `*1\r\n$1\r\na\r\n` -/
example : encodeTokens [.arrayHdr 1, .bulk (b "a")] = [42, 49, 13, 10, 36, 49, 13, 10, 97, 13, 10] := by
  decide +kernel
example : Resp.decode [42, 49, 13, 10, 36, 49, 13, 10, 97, 13, 10] = some (.array [.bulk [97]], []) := rfl

end Examples

end Redka.Props.C14
