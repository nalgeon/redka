/-
  C20 — background reclamation.

  "Without any client action, every key that has expired is physically removed together with all of
  its elements within a bounded delay (documented as one minute), so that storage does not grow
  with keys that no longer exist; live keys are never touched by this reclamation, and reads and
  writes issued while it runs keep succeeding with correct results. Closing the database stops the
  reclamation cleanly."

  The manager is modelled in `Model/Sys.lean`; its period, its `nKeys` argument and its wiring
  (started iff not read-only, stopped by `Close`) are COMPUTED from the strings extracted from
  `redka.go`, so `period_is_one_minute` / `manager_wiring` are the tie to the source.

  What is proved
    * the period is 60 000 ms, the limit is 0 (= all expired keys per tick);
    * one tick: removes every expired row (`storage_bounded`), with `foreign_keys = 1` their child
      rows too and no orphan remains (`storage_bounded_children`), never a live row nor a child of
      a live row (`tick_touches_only_expired`), leaves the abstract keyspace of `now` and of every
      later instant unchanged (`tick_abs_unchanged`), preserves the C11 audit (`tick_preserves_inv`);
    * delay: in every history in which the scheduler delivers the ticks (`TicksDelivered`, an
      explicit hypothesis — the model cannot prove anything about a real `time.Ticker`), a key that
      expires at `e` (after the database was opened) is gone after a tick at some `t` with
      `e ≤ t < e + period` (`reclaimed_within_period`), concretely `< e + 60000`
      (`reclaimed_within_a_minute`); keys already expired at opening go with the first tick
      (`reclaimed_stale_at_open`);
    * invisibility: `ops_interleaved_with_ticks_partial` — for every history whose operations are
      `AbsCongruent` (their results and the abstract post-state depend only on the abstract
      pre-state; that is the refinement theorem proved elsewhere, taken as a hypothesis per
      operation), results and abstract keyspace are the same as in the history with all ticks
      removed.  UNCONDITIONALLY for histories of reads (`reads_interleaved_with_ticks`: same
      keyspace; key-repository reads return identical results), and identical result lists for
      histories of key-repository reads (`keyreads_outputs_equal`).
      The hypothesis cannot be dropped: D05 (`reclamation_visible_through_stale_write`) and D06
      (`keyLen_sees_reclamation`) are witnesses in the model.
    * `close_stops`: after `Close` ticks change nothing; a read-only database never reclaims.
-/
import RedkaModel.Proofs.Clean

namespace Redka.Props.C20

open Redka Redka.Model Redka.Sys Redka.Clean

/-! ### the tie to `redka.go` -/

/-- `const interval = 60 * time.Second`, `const nKeys = 0` -/
theorem period_is_one_minute : Sys.periodMs = 60000 ∧ Sys.nKeysVal = 0 := by decide +kernel

/-- the goroutine ranges over the ticker and calls `DeleteExpired(nKeys)`; it is started iff the
database is not read-only; `Close` stops it first -/
theorem manager_wiring :
    Sys.bgWired = true ∧ (∀ readonly : Bool, Sys.startsBg readonly = !readonly) ∧
    Sys.closeStopsBg = true := by decide +kernel

theorem start_spec : ∀ (readonly : Bool) (t0 : Int),
    Bg.start readonly t0 = { period := 60000, nKeys := 0, running := !readonly, t0 := t0 } := by
  intro ro t0
  have h1 := period_is_one_minute
  have h2 := manager_wiring.2.1 ro
  simp only [Bg.start, h1.1, h1.2, h2]

/-! ### one tick -/

/-- a tick is the cleaner with the manager's limit -/
theorem tick_is_cleaner : ∀ (bg : Bg) (now : Int) (db : DB),
    tick bg now db = (keyDeleteExpired db bg.nKeys now).db := fun _ _ _ => rfl

/-- live keys are never touched: a live row stays stored, and so do all its child rows
(every table, either `foreign_keys` setting, every limit) -/
theorem tick_touches_only_expired : ∀ (bg : Bg) (now : Int) (db : DB) (k : KeyRow), KeyIdsUnique db →
    k ∈ db.keys → k.live now = true →
    k ∈ (tick bg now db).keys ∧
    (tick bg now db).strs.filter (fun c => c.kid == k.id) = db.strs.filter (fun c => c.kid == k.id) ∧
    (tick bg now db).lists.filter (fun c => c.kid == k.id) = db.lists.filter (fun c => c.kid == k.id) ∧
    (tick bg now db).sets.filter (fun c => c.kid == k.id) = db.sets.filter (fun c => c.kid == k.id) ∧
    (tick bg now db).hashes.filter (fun c => c.kid == k.id) = db.hashes.filter (fun c => c.kid == k.id) ∧
    (tick bg now db).zsets.filter (fun c => c.kid == k.id) = db.zsets.filter (fun c => c.kid == k.id) := by
  intro bg now db k hu hk hl
  have hs : sel db bg.nKeys now k = false := sel_live_false hu (Int.le_refl now) hk hl
  have hg := survivor_id_not_gone hu (sel db bg.nKeys now) hk hs
  refine ⟨?_, dkw_strs_of hg, dkw_lists_of hg, dkw_sets_of hg, dkw_hashes_of hg, dkw_zsets_of hg⟩
  show k ∈ (keyDeleteExpired db bg.nKeys now).db.keys
  rw [keyDeleteExpired_keys, List.mem_filter]
  exact ⟨hk, by rw [hs]; rfl⟩

/-- nothing is created or reordered by a tick -/
theorem tick_keys_sublist : ∀ (bg : Bg) (now : Int) (db : DB), (tick bg now db).keys.Sublist db.keys := by
  intro bg now db
  show (keyDeleteExpired db bg.nKeys now).db.keys.Sublist db.keys
  rw [keyDeleteExpired_keys]; exact List.filter_sublist

/-- the keyspace every read is specified against — at the time of the tick and at every later
time — is the same before and after the tick -/
theorem tick_abs_unchanged : ∀ (bg : Bg) (now now' : Int) (db : DB), KeyIdsUnique db → now ≤ now' →
    Spec.abs now' (tick bg now db) = Spec.abs now' db :=
  fun bg _ _ _ hu hle => abs_keyDeleteExpired hu bg.nKeys hle

/-- storage does not keep keys that no longer exist: after a tick at `now` (unlimited cleaner, as
configured) no stored key row has `etime ≤ now` -/
theorem storage_bounded : ∀ (bg : Bg) (now : Int) (db : DB), bg.nKeys ≤ 0 →
    ∀ r ∈ (tick bg now db).keys, ∀ e, r.etime = some e → now < e := by
  intro bg now db hn r hr e he
  have hl := live_of_mem_keyDeleteExpired hn hr
  rw [live_iff] at hl
  have : ¬ e ≤ now := fun hle => hl ⟨e, he, hle⟩
  omega

/-- a tick on a `foreign_keys = 1` connection preserves the C11 audit -/
theorem tick_preserves_inv : ∀ (bg : Bg) (now : Int) (db : DB), db.Inv → db.fk = true →
    (tick bg now db).Inv := by
  intro bg now db hinv hfk
  show (keyDeleteExpired db bg.nKeys now).db.Inv
  rw [keyDeleteExpired_db]; exact inv_dkw hinv hfk _

/-- …and their elements: after a tick on a sound database with `foreign_keys = 1` every row of every
child table belongs to a stored key that is live at `now` — no element of a key that no longer
exists is kept -/
theorem storage_bounded_children : ∀ (bg : Bg) (now : Int) (db : DB), bg.nKeys ≤ 0 → db.Inv →
    db.fk = true →
    let post := tick bg now db
    (∀ c ∈ post.strs, ∃ k ∈ post.keys, k.id = c.kid ∧ k.live now = true) ∧
    (∀ c ∈ post.lists, ∃ k ∈ post.keys, k.id = c.kid ∧ k.live now = true) ∧
    (∀ c ∈ post.sets, ∃ k ∈ post.keys, k.id = c.kid ∧ k.live now = true) ∧
    (∀ c ∈ post.hashes, ∃ k ∈ post.keys, k.id = c.kid ∧ k.live now = true) ∧
    (∀ c ∈ post.zsets, ∃ k ∈ post.keys, k.id = c.kid ∧ k.live now = true) := by
  intro bg now db hn hinv hfk post
  have ho := owners_of_inv (tick_preserves_inv bg now db hinv hfk)
  have live : ∀ {kid : Int}, (∃ k ∈ post.keys, k.id = kid) → ∃ k ∈ post.keys, k.id = kid ∧ k.live now = true :=
    fun ⟨k, hk, hid⟩ => ⟨k, hk, hid, live_of_mem_keyDeleteExpired hn hk⟩
  exact ⟨fun c hc => live (ho.1 c hc), fun c hc => live (ho.2.1 c hc), fun c hc => live (ho.2.2.1 c hc),
    fun c hc => live (ho.2.2.2.1 c hc), fun c hc => live (ho.2.2.2.2 c hc)⟩

/-! ### the delay -/

/-- the ticker fires in every window of one period: for `e` after the opening time there is a tick
instant `t` with `e ≤ t < e + period` -/
theorem tick_in_every_window : ∀ (bg : Bg), 0 < bg.period → ∀ e : Int, bg.t0 < e →
    ∃ k : Nat, 1 ≤ k ∧ e ≤ tickAt bg k ∧ tickAt bg k < e + bg.period := by
  intro bg hp e he
  have hq1 : 1 ≤ (e - bg.t0 + bg.period - 1) / bg.period :=
    Int.le_ediv_of_mul_le hp (by omega)
  have hmod := Int.mul_ediv_add_emod (e - bg.t0 + bg.period - 1) bg.period
  have hm0 := Int.emod_nonneg (e - bg.t0 + bg.period - 1) (Int.ne_of_gt hp)
  have hm1 := Int.emod_lt_of_pos (e - bg.t0 + bg.period - 1) hp
  have hcast : (((e - bg.t0 + bg.period - 1) / bg.period).toNat : Int)
      = (e - bg.t0 + bg.period - 1) / bg.period := Int.toNat_of_nonneg (by omega)
  refine ⟨((e - bg.t0 + bg.period - 1) / bg.period).toNat, by omega, ?_, ?_⟩
  all_goals
    unfold tickAt
    rw [hcast, Int.mul_comm]
    generalize bg.period * ((e - bg.t0 + bg.period - 1) / bg.period) = m at hmod
    omega

/-- the computable list of tick instants is the set of tick instants -/
theorem tickTimes_spec : ∀ (bg : Bg) (horizon t : Int),
    t ∈ tickTimes bg horizon ↔
      bg.running = true ∧ 0 < bg.period ∧ ∃ k : Nat, 1 ≤ k ∧ t = tickAt bg k ∧ t ≤ horizon := by
  intro bg horizon t
  unfold tickTimes
  by_cases hr : bg.running = true
  · by_cases hp : 0 < bg.period
    · simp only [hr, hp, decide_true, Bool.and_self, if_true, List.mem_map, List.mem_range, true_and]
      have hmod := Int.mul_ediv_add_emod (horizon - bg.t0) bg.period
      have hm0 := Int.emod_nonneg (horizon - bg.t0) (Int.ne_of_gt hp)
      have hm1 := Int.emod_lt_of_pos (horizon - bg.t0) hp
      constructor
      · rintro ⟨i, hi, rfl⟩
        refine ⟨i + 1, by omega, rfl, ?_⟩
        have h1 : ((i + 1 : Nat) : Int) ≤ (horizon - bg.t0) / bg.period := by omega
        have h2 : ((i + 1 : Nat) : Int) * bg.period ≤ (horizon - bg.t0) / bg.period * bg.period :=
          Int.mul_le_mul_of_nonneg_right h1 (Int.le_of_lt hp)
        unfold tickAt
        rw [Int.mul_comm ((horizon - bg.t0) / bg.period)] at h2
        generalize bg.period * ((horizon - bg.t0) / bg.period) = m at hmod h2
        omega
      · rintro ⟨k, hk, rfl, hle⟩
        refine ⟨k - 1, ?_, by rw [Nat.sub_add_cancel hk]⟩
        unfold tickAt at hle
        have h3 : (k : Int) * bg.period ≤ horizon - bg.t0 := by omega
        have h4 : (k : Int) ≤ (horizon - bg.t0) / bg.period := Int.le_ediv_of_mul_le hp h3
        omega
    · simp [hp]
  · simp [hr]

/-- Right after the `k`-th tick has been delivered no stored key row has `etime ≤ t0 + k·period`,
whatever the clients did before. -/
theorem after_delivered_tick : ∀ (bg : Bg) (db : DB) (evs : List Ev) (horizon : Int),
    bg.running = true → bg.nKeys ≤ 0 → TicksDelivered bg evs horizon →
    ∀ k : Nat, 1 ≤ k → tickAt bg k ≤ horizon →
    ∃ pre post : List Ev, evs = pre ++ Ev.tick (tickAt bg k) :: post ∧
      ∀ r ∈ (runEvents bg db (pre ++ [Ev.tick (tickAt bg k)])).2.keys,
        ∀ e', r.etime = some e' → tickAt bg k < e' := by
  intro bg db evs horizon hrun hn hd k hk hle
  obtain ⟨pre, post, hev, hnc⟩ := hd k hk hle
  refine ⟨pre, post, hev, ?_⟩
  rw [runEvents_append]
  have hbg : (runEvents bg db pre).1 = bg := runEvents_bg_of_no_close bg db pre hnc
  intro r hr e' he'
  have hstep : (runEvents (runEvents bg db pre).1 (runEvents bg db pre).2 [Ev.tick (tickAt bg k)]).2
      = tick bg (tickAt bg k) (runEvents bg db pre).2 := by
    show (step _ _ _).2 = _
    rw [hbg]; simp [step, hrun]
  rw [hstep] at hr
  exact storage_bounded bg _ _ hn r hr e' he'

/-- BOUNDED DELAY.  In a history in which the scheduler delivers the ticks up to `horizon`, for every
instant `e` after the opening time with `e + period ≤ horizon` there is a tick event at some `t`,
`e ≤ t < e + period`, right after which no stored key row has an expiry `≤ t` — in particular
none that expired at `e`. -/
theorem reclaimed_within_period : ∀ (bg : Bg) (db : DB) (evs : List Ev) (horizon : Int),
    bg.running = true → 0 < bg.period → bg.nKeys ≤ 0 → TicksDelivered bg evs horizon →
    ∀ e : Int, bg.t0 < e → e + bg.period ≤ horizon →
    ∃ (t : Int) (pre post : List Ev), evs = pre ++ Ev.tick t :: post ∧ e ≤ t ∧ t < e + bg.period ∧
      (∀ r ∈ (runEvents bg db (pre ++ [Ev.tick t])).2.keys, ∀ e', r.etime = some e' → t < e') ∧
      (∀ r : KeyRow, r.etime = some e → r ∉ (runEvents bg db (pre ++ [Ev.tick t])).2.keys) := by
  intro bg db evs horizon hrun hp hn hd e he hh
  obtain ⟨k, hk1, hlo, hhi⟩ := tick_in_every_window bg hp e he
  obtain ⟨pre, post, hev, hgone⟩ :=
    after_delivered_tick bg db evs horizon hrun hn hd k hk1 (by omega)
  refine ⟨tickAt bg k, pre, post, hev, hlo, hhi, hgone, ?_⟩
  intro r hre hmem
  have := hgone r hmem e hre
  omega

/-- keys that had already expired when the database was opened go with the first tick, one period
after opening -/
theorem reclaimed_stale_at_open : ∀ (bg : Bg) (db : DB) (evs : List Ev) (horizon : Int),
    bg.running = true → bg.nKeys ≤ 0 → TicksDelivered bg evs horizon → bg.t0 + bg.period ≤ horizon →
    ∃ pre post : List Ev, evs = pre ++ Ev.tick (bg.t0 + bg.period) :: post ∧
      ∀ r ∈ (runEvents bg db (pre ++ [Ev.tick (bg.t0 + bg.period)])).2.keys,
        ∀ e', r.etime = some e' → bg.t0 + bg.period < e' := by
  intro bg db evs horizon hrun hn hd hh
  have := after_delivered_tick bg db evs horizon hrun hn hd 1 (Nat.le_refl 1)
    (by rw [tickAt_one]; exact hh)
  rw [tickAt_one] at this
  exact this

/-- THE DOCUMENTED MINUTE.  For the manager `redka.go` starts on a writable database opened at
`t0`: under `TicksDelivered`, a key that expires at `e > t0` is physically gone after a tick at
some `t` with `e ≤ t < e + 60000` ms. -/
theorem reclaimed_within_a_minute : ∀ (t0 : Int) (db : DB) (evs : List Ev) (horizon : Int),
    TicksDelivered (Bg.start false t0) evs horizon →
    ∀ e : Int, t0 < e → e + 60000 ≤ horizon →
    ∃ (t : Int) (pre post : List Ev), evs = pre ++ Ev.tick t :: post ∧ e ≤ t ∧ t < e + 60000 ∧
      (∀ r ∈ (runEvents (Bg.start false t0) db (pre ++ [Ev.tick t])).2.keys,
        ∀ e', r.etime = some e' → t < e') ∧
      (∀ r : KeyRow, r.etime = some e → r ∉ (runEvents (Bg.start false t0) db (pre ++ [Ev.tick t])).2.keys) := by
  intro t0 db evs horizon hd e he hh
  have hs := start_spec false t0
  have := reclaimed_within_period (Bg.start false t0) db evs horizon
    (by rw [hs]; rfl) (by rw [hs]; exact (by decide : (0 : Int) < 60000))
    (by rw [hs]; exact (by decide : (0 : Int) ≤ 0)) hd e (by rw [hs]; exact he)
    (by rw [hs]; exact hh)
  rw [show (Bg.start false t0).period = 60000 from by rw [hs]] at this
  exact this

/-- the same from a well-formed history -/
theorem reclaimed_within_a_minute_wf : ∀ (t0 : Int) (db : DB) (evs : List Ev) (horizon : Int),
    WellFormed (Bg.start false t0) evs horizon →
    ∀ e : Int, t0 < e → e + 60000 ≤ horizon →
    ∃ (t : Int) (pre post : List Ev), evs = pre ++ Ev.tick t :: post ∧ e ≤ t ∧ t < e + 60000 ∧
      (∀ r : KeyRow, r.etime = some e → r ∉ (runEvents (Bg.start false t0) db (pre ++ [Ev.tick t])).2.keys) := by
  intro t0 db evs horizon hwf e he hh
  obtain ⟨t, pre, post, h1, h2, h3, _, h5⟩ := reclaimed_within_a_minute t0 db evs horizon hwf.delivered e he hh
  exact ⟨t, pre, post, h1, h2, h3, h5⟩

/-! ### reclamation is invisible to the clients -/

/-- THE HYPOTHESIS about one operation that gives the general theorem: on states with unique key
ids it keeps ids unique, and run at `now` on two states with the same abstract keyspace from `now`
on, it returns `obs`-indistinguishable results and states with the same abstract keyspace from
`now` on.  This is what the refinement theorem (every operation's abstract behaviour is a function
of `Spec.abs` of the pre-state) provides; `obs` is the observation the refinement is stated for
(results modulo ids/versions/mtimes, `Spec.outEq`).  It FAILS for the D05 operations, see
`reclamation_visible_through_stale_write`. -/
def AbsCongruent (obs : Op → Out → Out → Prop) (o : Op) : Prop :=
  OpCongruent KeyIdsUnique AbsEqFrom obs o

/-- For every history (times non-decreasing from `t`) whose operations are `AbsCongruent`: the
clients get `obs`-equal results, operation by operation, and from the last event on the abstract
keyspace is the same, as in the history with all ticks removed. -/
theorem ops_interleaved_with_ticks_partial : ∀ (obs : Op → Out → Out → Prop) (evs : List Ev) (t : Int)
    (bg : Bg) (db : DB), KeyIdsUnique db → TimesFrom t evs → (∀ o ∈ opsOf evs, AbsCongruent obs o) →
    Forall2 (ObsEq obs) (outputs bg db evs) (outputs bg db (dropTicks evs)) ∧
    (∀ now, lastTime t evs ≤ now →
      Spec.abs now (runEvents bg db evs).2 = Spec.abs now (runEvents bg db (dropTicks evs)).2) ∧
    (runEvents bg db evs).1 = (runEvents bg db (dropTicks evs)).1 := by
  intro obs evs t bg db hu ht hops
  have := simulate (obs := obs) absRel evs t bg db db hu hu (fun _ _ => rfl) ht hops
  exact ⟨this.1, this.2.1, this.2.2.1⟩

/-- UNCONDITIONAL for reads: in a history whose operations are all reads (`Spec.isRead`), with any
ticks in between, the abstract keyspace from the last event on is that of the history without
ticks (i.e. of the initial tables), and every key-repository read (`Count`, `Exists`, `Get`, `Keys`,
`Random`, `Scan`) returns the identical result. -/
theorem reads_interleaved_with_ticks : ∀ (evs : List Ev) (t : Int) (bg : Bg) (db : DB),
    KeyIdsUnique db → TimesFrom t evs → (∀ o ∈ opsOf evs, Spec.isRead o = true) →
    Forall2 (ObsEq obsRead) (outputs bg db evs) (outputs bg db (dropTicks evs)) ∧
    (∀ now, lastTime t evs ≤ now →
      Spec.abs now (runEvents bg db evs).2 = Spec.abs now (runEvents bg db (dropTicks evs)).2) := by
  intro evs t bg db hu ht hops
  have := simulate (obs := obsRead) bothRel evs t bg db db hu hu
    ⟨fun _ _ => rfl, fun _ _ => rfl⟩ ht (fun o ho => read_congruent (hops o ho))
  exact ⟨this.1, this.2.1.1⟩

/-- a history of key-repository reads returns exactly the same list of results with and without
reclamation -/
theorem keyreads_outputs_equal : ∀ (evs : List Ev) (t : Int) (bg : Bg) (db : DB),
    KeyIdsUnique db → TimesFrom t evs → (∀ o ∈ opsOf evs, isKeyRead o = true) →
    outputs bg db evs = outputs bg db (dropTicks evs) := by
  intro evs t bg db hu ht hops
  have hc : ∀ o ∈ opsOf evs, OpCongruent KeyIdsUnique
      (fun t a b => AbsEqFrom t a b ∧ LiveRowsEqFrom t a b) (fun _ x y => x = y) o := by
    intro o ho
    have hr := read_congruent (isRead_of_isKeyRead (hops o ho))
    exact ⟨hr.pres, fun now a b ga gb h => ⟨(hr.congr now a b ga gb h).1 (hops o ho), (hr.congr now a b ga gb h).2⟩⟩
  have := simulate (obs := fun _ x y => x = y) bothRel evs t bg db db hu hu
    ⟨fun _ _ => rfl, fun _ _ => rfl⟩ ht hc
  exact Forall2.eq_of_eq (fun a b h => Prod.ext h.1 h.2) this.1

/-! #### the hypothesis cannot be dropped -/

/-- an expired, not yet reclaimed list `l` (id 1, one element) -/
def staleList : DB :=
  { keys := [ { id := 1, key := [108], ty := 2, version := 1, etime := some 5, mtime := 0, len := some 1 } ],
    lists := [ { kid := 1, pos := 0, elem := [120] } ] }

/-- D05 in the model: `RPUSH l y` after the tick creates a fresh visible list; without the tick
the push goes to the stale row, keeps its passed expiry and stays invisible.  So reclamation IS
observable through the D05 operations, and `AbsCongruent` fails for them. -/
theorem reclamation_visible_through_stale_write :
    let bg := Bg.start false 0
    let evs := [Ev.tick 60000, Ev.op (.listPushBack [108] [121]) 60001]
    KeyIdsUnique staleList ∧ TimesFrom 0 evs ∧
    Spec.abs 60001 (runEvents bg staleList evs).2 = [([108], ⟨.list [[121]], none⟩)] ∧
    Spec.abs 60001 (runEvents bg staleList (dropTicks evs)).2 = [] := by
  refine ⟨?_, ?_, ?_⟩
  · rw [keyIdsUnique_iff]; decide +kernel
  · unfold TimesFrom; decide +kernel
  · decide +kernel

theorem listPushBack_not_absCongruent : ∀ obs : Op → Out → Out → Prop,
    ¬ AbsCongruent obs (.listPushBack [108] [121]) := by
  intro obs h
  have hw := reclamation_visible_through_stale_write
  have := (ops_interleaved_with_ticks_partial obs
    [Ev.tick 60000, Ev.op (.listPushBack [108] [121]) 60001] 0 (Bg.start false 0) staleList hw.1 hw.2.1
    (by intro o ho; simp [opsOf] at ho; exact ho ▸ h)).2.1 60001 (by decide)
  rw [hw.2.2.1, hw.2.2.2] at this
  exact absurd this (by decide)

/-- D06 in the model: `Key().Len()` counts stored rows, so it sees whether the tick has run -/
theorem keyLen_sees_reclamation :
    let bg := Bg.start false 0
    let evs := [Ev.tick 60000, Ev.op .keyLen 60001]
    outputs bg staleList evs = [(.keyLen, .ok (.int 0))] ∧
    outputs bg staleList (dropTicks evs) = [(.keyLen, .ok (.int 1))] := by
  have hs := start_spec false 0
  simp only [hs]
  exact ⟨rfl, rfl⟩

/-! ### closing -/

/-- `Close` stops the ticker: afterwards tick events change nothing — the state after `close`
followed by any history is that of the same history with its ticks removed; and it stays stopped. -/
theorem close_stops : ∀ (bg : Bg) (db : DB) (evs : List Ev),
    bg.close.running = false ∧
    runEvents bg db (Ev.close :: evs) = runEvents bg db (Ev.close :: dropTicks evs) ∧
    outputs bg db (Ev.close :: evs) = outputs bg db (Ev.close :: dropTicks evs) ∧
    (runEvents bg db (Ev.close :: evs)).1.running = false := by
  intro bg db evs
  refine ⟨close_running bg, runEvents_stopped bg.close db evs (close_running bg),
    outputs_stopped bg.close db evs (close_running bg), ?_⟩
  show (runEvents bg.close db evs).1.running = false
  have : ∀ (evs : List Ev) (b : Bg) (d : DB), b.running = false → (runEvents b d evs).1.running = false := by
    intro evs
    induction evs with
    | nil => intro b d h; exact h
    | cons x xs ih =>
      intro b d h
      cases x with
      | op o now => exact ih b _ h
      | tick now =>
        show (runEvents (step b d (.tick now)).1 (step b d (.tick now)).2 xs).1.running = false
        rw [step_tick_stopped h]; exact ih b d h
      | close => exact ih b.close d (close_running b)
  exact this evs bg.close db (close_running bg)

/-- after `Close`, a history of ticks only leaves the tables exactly as they were -/
theorem close_stops_ticks : ∀ (bg : Bg) (db : DB) (evs : List Ev), (∀ ev ∈ evs, ev.isTick = true) →
    runEvents bg db (Ev.close :: evs) = (bg.close, db) := by
  intro bg db evs ht
  show runEvents bg.close db evs = _
  rw [runEvents_stopped bg.close db evs (close_running bg)]
  have : dropTicks evs = [] := by
    unfold dropTicks
    rw [List.filter_eq_nil_iff]
    intro a ha; simp [ht a ha]
  rw [this]; rfl

/-- a database opened read-only never reclaims -/
theorem readonly_never_reclaims : ∀ (t0 : Int) (db : DB) (evs : List Ev),
    (Bg.start true t0).running = false ∧
    runEvents (Bg.start true t0) db evs = runEvents (Bg.start true t0) db (dropTicks evs) := by
  intro t0 db evs
  have h : (Bg.start true t0).running = false := by rw [start_spec]; rfl
  exact ⟨h, runEvents_stopped _ db evs h⟩

/-! ### non-vacuity -/

/-- string `a` (id 1) expired at 5 with its value row; string `b` (id 2) expires at 200 000;
string `c` (id 3) persistent -/
def sample : DB :=
  { keys := [ { id := 1, key := [97], ty := 1, version := 1, etime := some 5, mtime := 0, len := none },
              { id := 2, key := [98], ty := 1, version := 1, etime := some 200000, mtime := 0, len := none },
              { id := 3, key := [99], ty := 1, version := 1, etime := none, mtime := 0, len := none } ],
    strs := [ { kid := 1, value := [120] }, { kid := 2, value := [121] }, { kid := 3, value := [122] } ] }

example : sample.Inv := by show _ = true; decide +kernel

/-- the tick removes exactly the expired key and its value row -/
example : tick (Bg.start false 0) 60000 sample =
    { sample with
      keys := [ { id := 2, key := [98], ty := 1, version := 1, etime := some 200000, mtime := 0, len := none },
                { id := 3, key := [99], ty := 1, version := 1, etime := none, mtime := 0, len := none } ],
      strs := [ { kid := 2, value := [121] }, { kid := 3, value := [122] } ] } := by decide +kernel

/-- the keyspace is the same before and after -/
example : Spec.abs 60000 (tick (Bg.start false 0) 60000 sample) = Spec.abs 60000 sample := by decide +kernel

/-- `b` goes with the fourth tick (240 000 ≥ 200 000), not before -/
example : ((tick (Bg.start false 0) 180000 sample).keys.map (·.id)) = [2, 3] := by decide +kernel
example : ((tick (Bg.start false 0) 240000 sample).keys.map (·.id)) = [3] := by decide +kernel

/-- a two-minute history: a read, the first tick, a write, the second tick -/
def history : List Ev :=
  [ Ev.op (.strGet [98]) 10, Ev.tick 60000, Ev.op (.strSet [100] [119]) 70000, Ev.tick 120000 ]

/-- it is well-formed for the manager of a writable database opened at 0, horizon two minutes —
so the hypotheses of the delay theorems are satisfiable -/
theorem history_wellFormed : WellFormed (Bg.start false 0) history 120000 := by
  have hs := start_spec false 0
  refine ⟨?_, ?_, ?_⟩
  · rw [hs]; unfold TimesFrom; decide +kernel
  · intro t ht
    simp only [history, List.mem_cons, List.mem_nil_iff, or_false, reduceCtorEq, false_or, Ev.tick.injEq] at ht
    rcases ht with rfl | rfl
    · exact ⟨1, Nat.le_refl 1, by rw [hs]; decide⟩
    · exact ⟨2, by decide, by rw [hs]; decide⟩
  · intro k hk hle
    rw [hs] at hle ⊢
    unfold tickAt at hle ⊢
    simp only at hle ⊢
    have : k = 1 ∨ k = 2 := by omega
    rcases this with rfl | rfl
    · exact ⟨[Ev.op (.strGet [98]) 10], [Ev.op (.strSet [100] [119]) 70000, Ev.tick 120000], rfl, by simp⟩
    · exact ⟨[Ev.op (.strGet [98]) 10, Ev.tick 60000, Ev.op (.strSet [100] [119]) 70000], [], rfl, by simp⟩

/-- and the conclusion on it: the key that expired at 5 … well before opening is gone after the first
tick; a key expiring at 1 (after opening at 0) is gone after a tick before 60 001 -/
example : ∃ (t : Int) (pre post : List Ev), history = pre ++ Ev.tick t :: post ∧ 1 ≤ t ∧ t < 1 + 60000 ∧
    (∀ r : KeyRow, r.etime = some 1 → r ∉ (runEvents (Bg.start false 0) sample (pre ++ [Ev.tick t])).2.keys) :=
  reclaimed_within_a_minute_wf 0 sample history 120000 history_wellFormed 1 (by decide) (by decide)

/-- the final state of the history: `a` reclaimed with its value, `b`, `c` and the new `d` stored -/
example : ((runEvents (Bg.start false 0) sample history).2.keys.map (·.key)) = [[98], [99], [100]] ∧
    ((runEvents (Bg.start false 0) sample history).2.strs.map (·.kid)) = [2, 3, 4] := by decide +kernel

end Redka.Props.C20
