/-
  C02 — lists behave like in-memory slices (refinement).

  "For every sequence of list operations (push and pop at both ends, pop-and-push between lists,
  insert before/after a pivot, set by index, remove occurrences from front, back or all, trim,
  range, index, length) each key holds exactly the sequence an in-memory slice would hold and each
  call returns what the slice operation returns. Index arguments follow the Redis rules: negative
  indexes count from the tail, out-of-range bounds are clamped, inverted or empty ranges select
  nothing, and a missing key reads as an empty list and never as an error. A list keeps accepting
  inserts at any position for as long as it exists, and its reported length always equals the
  number of elements a full range returns."

  What is proved here. `Model.dbRun` is the statement-level model of the `DB`-level methods of
  `internal/rlist` over the tables `rkey` and `rlist`; `Spec.step` is the in-memory slice;
  `Spec.abs now db` is the keyspace a table state stands for at clock value `now`: a list key
  stands for the elements of its `rlist` rows in the order of their positions (`pos`, a double,
  here an exact `Dyadic`). The refinement theorem says that one call of ANY of the fifteen list
  operations on any table state satisfying the structural invariant C11 (`DB.Inv`), with any
  arguments and any clock value, returns what the slice returns and leaves tables that stand for
  the slice's new state — outside narrow, decidable classes of inputs on which the real code (and
  therefore the model) is known to deviate:

    * `Stale` (D05): the operation writes to a name whose stored key row has expired but has not
      been cleaned up yet (push, pop-and-push destination; the catalogue also lists insert, where
      it is harmless);
    * `Collides` (D03): an insert whose computed midpoint is already taken (`sqlUnique`).

  The theorem comes in three forms that differ only in how the position arithmetic of the
  statements that add a row (`max + 1`, `min - 1`, `pivot ± 1`, `(a + b) / 2`, computed in doubles;
  `round53`, `mid53` in the model) is constrained:

    1. `list_refines_partial` — under `Spacious`: the new position lies strictly on the correct
       side of its neighbours. This is exactly what the proof needs and it is decidable on the
       tables; it implies `¬ Collides` (`spacious_not_collides`).
    2. `list_refines_partial_exact` — under `Exact`: no rounding happens in the sum the statement
       computes (`exact_spacious`). True for integer positions below 2^52 and midpoints with few
       bits (`ListPos.pushRoom_of_small_ints`, `ListPos.insertRoom_of_grid`).
    3. `list_refines_partial_repr` — for tables whose positions are doubles (`Representable`, what
       the `real` column can hold; preserved by every list operation,
       `list_preserves_representable`) under `AnyCollides = false`: the model's own collision
       test. Here NO side condition on the arithmetic is left: rounding to 53 bits never crosses a
       representable number (`Proofs/ListRound.lean`), so a new position can only be misplaced by
       coinciding with a neighbour (`spacious_of_representable`). `AnyCollides` is D03 for the
       inserts; for a push it is the same `sqlUnique` failure, which the catalogue does NOT list
       (`push_collision_deviates`: `max = 2^53`, reachable only after 2^53 pushes to one end).
       `Spacious` can fail without a collision only for positions that are not doubles
       (`unrepresentable_position_deviates`), which SQLite cannot store.

  All deviations are shown to be real by concrete witnesses, so the full-strength statement is
  false (`full_strength_is_false`, `without_d03_is_false`).

  `list_seq_refines` / `list_seq_refines_repr` lift the single step to any sequence of list
  operations at non-decreasing clock values; they rest on `list_preserves_lwf` (every list
  operation keeps `DB.LWF`, for every state and argument, deviation classes included) and
  `Spec.abs_mono`.

  Scope notes.
    * `Covered` is every constructor of the family: nothing is excluded.
    * Index and count arguments are Go `int`s; `Op` carries unbounded `Int`s. The model does no
      fixed-width arithmetic on them and the theorems hold for all integers, so no `ArgsInRange`
      hypothesis is needed.
    * Results are compared with `=` (list results never contain key rows).
    * The exponent range of doubles (overflow, subnormals) is not modelled: `round53` rounds the
      significand only.

  Only property theorems and non-vacuity examples live here; the lemmas are in
  `RedkaModel/Proofs/ListOrd.lean` (orders, sorted lists, list surgery), `Proofs/ListRows.lean`
  (`rlist` against the abstraction, `DB.LWF`, `Stored`), `Proofs/ListRef.lean` (one refinement
  lemma per operation), `Proofs/ListPos.lean` (exact position arithmetic) and
  `Proofs/ListRound.lean` (rounding never crosses a double).
-/
import RedkaModel.Proofs.ListRef
import RedkaModel.Proofs.ListPos
import RedkaModel.Proofs.ListRound

namespace Redka.Props.C02

open Redka Redka.Model Redka.Spec Redka.DB Redka.Proofs.Index Redka.ListPos Redka.ListRound

/-! ### the family -/

/-- the operations of `DB.List()` -/
def isListOp : Op → Bool
  | .listDelete .. | .listDeleteBack .. | .listDeleteFront .. | .listGet .. | .listInsertAfter ..
  | .listInsertBefore .. | .listLen _ | .listPopBack _ | .listPopBackPushFront .. | .listPopFront _
  | .listPushBack .. | .listPushFront .. | .listRange .. | .listSet .. | .listTrim .. => true
  | _ => false

def IsListOp (op : Op) : Prop := isListOp op = true

instance (op : Op) : Decidable (IsListOp op) := inferInstanceAs (Decidable (_ = true))

/-- every operation of the family is covered by `list_refines_partial` -/
def Covered : Op → Bool := isListOp

/-- the family as data: the two directions of a delete, insert, pop and push are one operation with a flag,
as they are one function of the model -/
inductive ListOp
  | delete (k e : Bytes) | deleteN (k e : Bytes) (n : Int) (back : Bool) | get (k : Bytes) (i : Int)
  | insert (k p e : Bytes) (after : Bool) | len (k : Bytes) | pop (k : Bytes) (front : Bool)
  | popPush (s d : Bytes) | push (k e : Bytes) (front : Bool) | range (k : Bytes) (a b : Int)
  | set (k : Bytes) (i : Int) (e : Bytes) | trim (k : Bytes) (a b : Int)

def ListOp.toOp : ListOp → Op
  | .delete k e => .listDelete k e
  | .deleteN k e n true => .listDeleteBack k e n
  | .deleteN k e n false => .listDeleteFront k e n
  | .get k i => .listGet k i
  | .insert k p e true => .listInsertAfter k p e
  | .insert k p e false => .listInsertBefore k p e
  | .len k => .listLen k
  | .pop k true => .listPopFront k
  | .pop k false => .listPopBack k
  | .popPush s d => .listPopBackPushFront s d
  | .push k e true => .listPushFront k e
  | .push k e false => .listPushBack k e
  | .range k a b => .listRange k a b
  | .set k i e => .listSet k i e
  | .trim k a b => .listTrim k a b

/-- the one place where the operations outside the family are dismissed -/
theorem exists_listOp {op : Op} (hop : IsListOp op) : ∃ l : ListOp, op = l.toOp := by
  cases op <;> first | (cases hop; done) | skip
  case listDelete k e => exact ⟨.delete k e, rfl⟩
  case listDeleteBack k e n => exact ⟨.deleteN k e n true, rfl⟩
  case listDeleteFront k e n => exact ⟨.deleteN k e n false, rfl⟩
  case listGet k i => exact ⟨.get k i, rfl⟩
  case listInsertAfter k p e => exact ⟨.insert k p e true, rfl⟩
  case listInsertBefore k p e => exact ⟨.insert k p e false, rfl⟩
  case listLen k => exact ⟨.len k, rfl⟩
  case listPopBack k => exact ⟨.pop k false, rfl⟩
  case listPopBackPushFront s d => exact ⟨.popPush s d, rfl⟩
  case listPopFront k => exact ⟨.pop k true, rfl⟩
  case listPushBack k e => exact ⟨.push k e false, rfl⟩
  case listPushFront k e => exact ⟨.push k e true, rfl⟩
  case listRange k a b => exact ⟨.range k a b, rfl⟩
  case listSet k i e => exact ⟨.set k i e, rfl⟩
  case listTrim k a b => exact ⟨.trim k a b, rfl⟩

/-! ### the classifiers of known deviations -/

/-- D05, exactly as in `Spec.known` -/
def Stale (op : Op) (now : Int) (db : DB) : Bool :=
  (Spec.writeKeys op).any (Spec.staleKey db now)

/-- D03, exactly as in `Spec.known`: the model's own collision test -/
def Collides (op : Op) (now : Int) (db : DB) : Bool :=
  match op with
  | .listInsertAfter .. | .listInsertBefore .. =>
    (match (Model.tx true op now db).out with
     | .error .sqlUnique => true
     | _ => false)
  | _ => false

/-- The side condition on the position arithmetic: the new row's position lies strictly on the
correct side of its neighbours (beyond the end for a push; between the pivot and its neighbour for
an insert). For pop-and-push it is judged on the tables the pop leaves (when the pop succeeds). -/
def Spacious (op : Op) (now : Int) (db : DB) : Bool :=
  match op with
  | .listPushBack k _ => pushSpacious db k false now
  | .listPushFront k _ => pushSpacious db k true now
  | .listPopBackPushFront s d =>
    (match (Model.listPop db s false now).out with
     | .ok _ => pushSpacious (Model.listPop db s false now).db d true now
     | .error _ => true)
  | .listInsertAfter k p _ =>
    (match db.liveKeyT k TList now with
     | some r => insertRoom (Model.listRows db r.id) p true
     | none => true)
  | .listInsertBefore k p _ =>
    (match db.liveKeyT k TList now with
     | some r => insertRoom (Model.listRows db r.id) p false
     | none => true)
  | _ => true

/-- the catalogue's D03 entry and `Collides` read the same outcome of the insert -/
theorem d03_eq (o : Out) :
    (match o with
      | .error .sqlUnique => ["D03"]
      | _ => ([] : List String)) =
    if (match o with
      | .error .sqlUnique => true
      | _ => false) = true then ["D03"] else [] := by
  cases o with
  | ok v => rfl
  | error er => cases er <;> rfl

/-- The two classifiers are the entries D05, D03 of the catalogue of known findings
that the driver consults (`Spec.known`), for every list operation. -/
theorem classifiers_are_the_catalogue : ∀ (inTx : Bool) (op : Op) (now : Int) (db : DB), IsListOp op →
    Spec.known inTx op now db
      = (if Stale op now db then ["D05"] else []) ++ (if Collides op now db then ["D03"] else []) := by
  intro inTx op now db hop
  obtain ⟨l, rfl⟩ := exists_listOp hop
  cases l with
  | insert k p e after =>
    cases after <;>
    · simp only [ListOp.toOp, Spec.known, Stale, Collides]
      congr 1
      exact d03_eq _
  | deleteN k e n back => cases back <;> rfl
  | pop k front => cases front <;> rfl
  | push k e front => cases front <;> rfl
  | _ => rfl

theorem liveListLen_eq (db : DB) (now : Int) (k : Bytes) :
    Spec.liveListLen db now k = (db.liveKeyT k TList now).map (fun r => (Model.listRows db r.id).length) :=
  rfl

/-! ### the refinement theorem -/

theorem stale_push {k e : Bytes} {front : Bool} {now : Int} {db : DB} :
    Stale (ListOp.push k e front).toOp now db = staleKey db now k := by
  cases front <;> exact Bool.or_false _

theorem stale_popPush {s d : Bytes} {now : Int} {db : DB} :
    Stale (.listPopBackPushFront s d) now db = staleKey db now d := Bool.or_false _

/-- `Spacious` of an insert, as `listInsert_refines` asks for it -/
theorem spacious_insert {k p e : Bytes} {after : Bool} {now : Int} {db : DB} :
    Spacious (ListOp.insert k p e after).toOp now db = true ↔
      ∀ r, db.liveKeyT k TList now = some r → insertRoom (Model.listRows db r.id) p after = true := by
  have h : ∀ o : Option KeyRow,
      (match o with
        | some r => insertRoom (Model.listRows db r.id) p after
        | none => true) = true ↔
      ∀ r, o = some r → insertRoom (Model.listRows db r.id) p after = true := by
    intro o
    cases o with
    | none => exact ⟨fun _ _ hr => (nomatch hr), fun _ => rfl⟩
    | some r => exact ⟨fun h _ hr => by cases hr; exact h, fun h => h r rfl⟩
  cases after <;> exact h _

/-- `Spacious` of pop-and-push, as `listPopBackPushFront_refines` asks for it -/
theorem spacious_popPush {s d : Bytes} {now : Int} {db : DB} :
    Spacious (.listPopBackPushFront s d) now db = true ↔
      ∀ v, (Model.listPop db s false now).out = .ok v →
        pushSpacious (Model.listPop db s false now).db d true now = true := by
  show (match (Model.listPop db s false now).out with
      | .ok _ => pushSpacious (Model.listPop db s false now).db d true now
      | .error _ => true) = true ↔ _
  cases ho : (Model.listPop db s false now).out with
  | error er => exact ⟨fun _ v hv => (nomatch hv), fun _ => rfl⟩
  | ok v => exact ⟨fun h _ _ => h, fun h => h v rfl⟩

/-- The same under `DB.LWF`, the consequence of the invariant that the proof uses (`DB.WF`, plus:
the cached length of a list key is its number of rows, `(kid, pos)` is unique, every `rlist` row
has an owner) and that every list operation preserves (`list_preserves_lwf`). -/
theorem list_refines_lwf : ∀ (op : Op) (now : Int) (db : DB),
    IsListOp op → db.LWF → Stale op now db = false → Spacious op now db = true →
    let r := Model.dbRun op now db
    r.out = (Spec.step op now (Spec.abs now db)).out ∧
      Spec.abs now r.db = Spec.purge now (Spec.step op now (Spec.abs now db)).st := by
  intro op now db hop hw hst hsp
  obtain ⟨l, rfl⟩ := exists_listOp hop
  cases l with
  | delete k e => exact (listDelete_refines hw now k e).1
  | deleteN k e n back => cases back <;> exact (listDeleteN_refines hw now k e n _).1
  | get k i => exact listGet_refines hw now k i
  | insert k p e after =>
    cases after <;> exact listInsert_refines hw now k p e _ (spacious_insert.1 hsp)
  | len k => exact listLen_refines hw now k
  | pop k front => cases front <;> exact (listPop_refines hw now k _).1
  | popPush s d =>
    exact listPopBackPushFront_refines hw (stale_popPush ▸ hst) (spacious_popPush.1 hsp)
  | push k e front =>
    have hns := stale_push ▸ hst
    cases front <;> exact listPush_refines hw hns e _ hsp
  | range k a b => exact listRange_refines hw now k a b
  | set k i e => exact (listSet_refines hw now k i e).1
  | trim k a b => exact listTrim_refines hw now k a b

/-- **C02, partial refinement.** One call of any list operation, on any table state satisfying the
structural invariant, for any arguments and any clock value, outside the class `Stale` (D05)
and with `Spacious` position arithmetic (which excludes `Collides`, D03; D01 and D02 are repaired: `Range`
and `Trim` refine with no side condition, `Proofs.ListRef.listRange_refines`, `listTrim_refines`): the model returns exactly what the in-memory slice returns, and the tables
afterwards stand for exactly the slice's new state.

All fifteen operations are covered (`Covered = isListOp`).

The full-strength statement (without the classifiers) is FALSE of the code: see
`insert_collision_deviates`, `stale_push_deviates`. -/
theorem list_refines_partial : ∀ (op : Op) (now : Int) (db : DB),
    IsListOp op → db.Inv → Stale op now db = false → Spacious op now db = true →
    let r := Model.dbRun op now db
    r.out = (Spec.step op now (Spec.abs now db)).out ∧
      Spec.abs now r.db = Spec.purge now (Spec.step op now (Spec.abs now db)).st :=
  fun op now db hop hinv => list_refines_lwf op now db hop (DB.Inv.lwf hinv)

theorem spec_listInsert_out_ne (s : State) (k p e : Bytes) (after : Bool) :
    (Spec.listInsert s k p e after).out ≠ .error .sqlUnique := by
  unfold Spec.listInsert
  split
  · split <;> simp [Spec.ok, Spec.er]
  · simp [Spec.er]

/-- `Spacious` excludes D03: when the new position lies strictly between its neighbours the
insert statement cannot hit the unique index. -/
theorem spacious_not_collides : ∀ (op : Op) (now : Int) (db : DB), IsListOp op → db.LWF →
    Spacious op now db = true → Collides op now db = false := by
  intro op now db hop hw hsp
  obtain ⟨l, rfl⟩ := exists_listOp hop
  cases l with
  | insert k p e after =>
    have hne := spec_listInsert_out_ne (abs now db) k p e after
    rw [← (listInsert_refines hw now k p e after (spacious_insert.1 hsp)).1, Dispatch.update_out] at hne
    -- `Collides` is a match on the outcome of the insert; only `.error .sqlUnique` gives `true`
    cases after <;>
    · show (match (Model.listInsert db k p e _ now).out with
          | .error .sqlUnique => true
          | _ => false) = false
      split
      · exact absurd ‹_› hne
      · rfl
  | deleteN k e n back => cases back <;> rfl
  | pop k front => cases front <;> rfl
  | push k e front => cases front <;> rfl
  | _ => rfl

/-! ### `Spacious` from exact position arithmetic -/

/-- no rounding happens in the position arithmetic of the push that `sqlPush` prepares -/
def pushExactOn (db : DB) (k : Bytes) (front : Bool) (now : Int) : Bool :=
  match Model.listPushKey db k now with
  | .error _ => true
  | .ok (db1, r) => pushExact db1.lists r.id front

/-- No rounding happens in the position arithmetic of the operation: the sum `max + 1`,
`min - 1`, `pivot ± 1` or `a + b` the statement computes is a double. Holds for integer positions
below 2^52 and for midpoints with few bits (`ListPos.pushRoom_of_small_ints`,
`ListPos.insertRoom_of_grid`, `ListPos.round53_grid_add`). -/
def Exact (op : Op) (now : Int) (db : DB) : Bool :=
  match op with
  | .listPushBack k _ => pushExactOn db k false now
  | .listPushFront k _ => pushExactOn db k true now
  | .listPopBackPushFront s d =>
    (match (Model.listPop db s false now).out with
     | .ok _ => pushExactOn (Model.listPop db s false now).db d true now
     | .error _ => true)
  | .listInsertAfter k p _ =>
    (match db.liveKeyT k TList now with
     | some r => insertExact (Model.listRows db r.id) p true
     | none => true)
  | .listInsertBefore k p _ =>
    (match db.liveKeyT k TList now with
     | some r => insertExact (Model.listRows db r.id) p false
     | none => true)
  | _ => true

theorem pushSpacious_of_exact (db : DB) (k : Bytes) (front : Bool) (now : Int)
    (h : pushExactOn db k front now = true) : pushSpacious db k front now = true := by
  unfold pushExactOn at h
  unfold pushSpacious
  cases hk : Model.listPushKey db k now with
  | error e => rfl
  | ok p =>
    obtain ⟨db1, r⟩ := p
    rw [hk] at h
    exact pushRoom_of_exact _ _ _ h

/-- exact position arithmetic is `Spacious` -/
theorem exact_spacious : ∀ (op : Op) (now : Int) (db : DB), Exact op now db = true →
    Spacious op now db = true := by
  intro op now db h
  cases op <;> first | rfl | skip
  case listPushBack k e => exact pushSpacious_of_exact db k false now h
  case listPushFront k e => exact pushSpacious_of_exact db k true now h
  case listPopBackPushFront s d =>
    simp only [Exact, Spacious] at h ⊢
    cases ho : (Model.listPop db s false now).out with
    | error e => rfl
    | ok v => rw [ho] at h; exact pushSpacious_of_exact _ d true now h
  case listInsertAfter k p e =>
    simp only [Exact, Spacious] at h ⊢
    cases hk : db.liveKeyT k TList now with
    | none => rfl
    | some r => rw [hk] at h; exact insertRoom_of_exact _ _ _ h
  case listInsertBefore k p e =>
    simp only [Exact, Spacious] at h ⊢
    cases hk : db.liveKeyT k TList now with
    | none => rfl
    | some r => rw [hk] at h; exact insertRoom_of_exact _ _ _ h

/-- **C02, partial refinement, with the side condition stated on the arithmetic.** As
`list_refines_partial`, with `Spacious` replaced by `Exact`: the double-precision sum the
statement computes is exact. -/
theorem list_refines_partial_exact : ∀ (op : Op) (now : Int) (db : DB),
    IsListOp op → db.Inv → Stale op now db = false → Exact op now db = true →
    let r := Model.dbRun op now db
    r.out = (Spec.step op now (Spec.abs now db)).out ∧
      Spec.abs now r.db = Spec.purge now (Spec.step op now (Spec.abs now db)).st :=
  fun op now db hop hinv hst hex =>
    list_refines_partial op now db hop hinv hst (exact_spacious op now db hex)

/-! ### sequences of operations -/

/-- Every list operation keeps `DB.LWF` (for every state and argument, deviation classes
included). -/
theorem list_preserves_lwf : ∀ (op : Op) (now : Int) (db : DB), IsListOp op → db.LWF →
    (Model.dbRun op now db).db.LWF := by
  intro op now db hop hw
  obtain ⟨l, rfl⟩ := exists_listOp hop
  cases l with
  | delete k e => exact update_pres hw (listDelete_refines hw now k e).2
  | deleteN k e n back => cases back <;> exact update_pres hw (listDeleteN_refines hw now k e n _).2
  | get k i => exact (Proofs.NoTrace.listGet_db db k i now).symm ▸ hw
  | insert k p e after => cases after <;> exact update_pres hw (listInsert_lwf hw k p e _ now)
  | len k => exact (Proofs.NoTrace.listLen_db db k now).symm ▸ hw
  | pop k front => cases front <;> exact update_pres hw (listPop_refines hw now k _).2
  | popPush s d => exact Dispatch.update_pres_of_ok hw (fun _ hv => listPopBackPushFront_lwf hw s d now hv)
  | push k e front => cases front <;> exact Dispatch.update_pres_of_ok hw (fun _ hv => listPush_lwf hw k e _ now hv)
  | range k a b => exact (Proofs.NoTrace.listRange_db db k a b now).symm ▸ hw
  | set k i e => exact update_pres hw (listSet_refines hw now k i e).2
  | trim k a b => exact update_pres hw (listTrim_refines_lwf hw now k a b).2

/-- the `DB.WF` part -/
theorem list_preserves_wf : ∀ (op : Op) (now : Int) (db : DB), IsListOp op → db.LWF →
    (Model.dbRun op now db).db.WF :=
  fun op now db hop hw => (list_preserves_lwf op now db hop hw).wf

/-- a run of timed calls on the tables: the results, and the tables at the end -/
def runModel : List (Op × Int) → DB → List Out × DB
  | [], db => ([], db)
  | (op, now) :: rest, db =>
    let r := Model.dbRun op now db
    let t := runModel rest r.db
    (r.out :: t.1, t.2)

/-- the same run on the in-memory keyspace; a key disappears when the clock reaches its expiry -/
def runSpec : List (Op × Int) → State → List Out × State
  | [], s => ([], s)
  | (op, now) :: rest, s =>
    let r := Spec.step op now (Spec.purge now s)
    let t := runSpec rest (Spec.purge now r.st)
    (r.out :: t.1, t.2)

/-- no call of the run falls into a known deviation class, judged on the tables it meets -/
def CleanRun : List (Op × Int) → DB → Prop
  | [], _ => True
  | (op, now) :: rest, db =>
    IsListOp op ∧ Stale op now db = false ∧  Spacious op now db = true ∧
      CleanRun rest (Model.dbRun op now db).db

/-- the clock does not run backwards -/
def ClockOk : Int → List (Op × Int) → Prop
  | _, [] => True
  | t, (_, now) :: rest => t ≤ now ∧ ClockOk now rest

def lastClock : Int → List (Op × Int) → Int
  | t, [] => t
  | _, (_, now) :: rest => lastClock now rest

/-- **C02 for sequences.** Any sequence of list operations at non-decreasing clock values, started
on tables satisfying the invariant and never meeting a known deviation class: every call returns
what the in-memory slices return, and at the end the tables stand for exactly those slices. -/
theorem list_seq_refines : ∀ (tr : List (Op × Int)) (t : Int) (db : DB), db.LWF → ClockOk t tr →
    CleanRun tr db →
    (runModel tr db).1 = (runSpec tr (Spec.abs t db)).1 ∧
      Spec.abs (lastClock t tr) (runModel tr db).2 = (runSpec tr (Spec.abs t db)).2
  | [], _, _, _, _, _ => ⟨rfl, rfl⟩
  | (op, now) :: rest, t, db, hw, hc, hcl => by
    obtain ⟨hop, hst, hsp, hrest⟩ := hcl
    obtain ⟨href1, href2⟩ := list_refines_lwf op now db hop hw hst hsp
    have ih := list_seq_refines rest now (Model.dbRun op now db).db
      (list_preserves_lwf op now db hop hw) hc.2 hrest
    simp only [runModel, runSpec, lastClock]
    rw [← abs_mono hw.wf.names hc.1, ← href1, ← href2]
    exact ⟨by rw [ih.1], ih.2⟩

/-- … in particular from any state satisfying the C11 invariant. -/
theorem list_seq_refines_inv : ∀ (tr : List (Op × Int)) (t : Int) (db : DB), db.Inv → ClockOk t tr →
    CleanRun tr db →
    (runModel tr db).1 = (runSpec tr (Spec.abs t db)).1 ∧
      Spec.abs (lastClock t tr) (runModel tr db).2 = (runSpec tr (Spec.abs t db)).2 :=
  fun tr t db hinv => list_seq_refines tr t db (DB.Inv.lwf hinv)

/-! ### positions that are doubles: the collision test is the exact classifier -/

/-- the model's own collision test (`sqlUnique` on `(kid, pos)`), for every operation that adds a
row: D03 for the inserts (`Collides`), and the same failure for a push, which the catalogue does
not list -/
def AnyCollides (op : Op) (now : Int) (db : DB) : Bool :=
  match (Model.tx true op now db).out with
  | .error .sqlUnique => true
  | _ => false

theorem anyCollides_insert (k p e : Bytes) (now : Int) (db : DB) :
    AnyCollides (.listInsertAfter k p e) now db = Collides (.listInsertAfter k p e) now db ∧
    AnyCollides (.listInsertBefore k p e) now db = Collides (.listInsertBefore k p e) now db :=
  ⟨rfl, rfl⟩

theorem ne_unique_of_anyCollides {op : Op} {now : Int} {db : DB} (h : AnyCollides op now db = false) :
    (Model.tx true op now db).out ≠ .error .sqlUnique := by
  intro he
  simp [AnyCollides, he] at h

theorem pushSpacious_of_repr {db : DB} {k e : Bytes} {front : Bool} {now : Int} (hr : Representable db)
    (hnc : (Model.listPush db k e front now).out ≠ .error .sqlUnique) :
    pushSpacious db k front now = true := by
  unfold pushSpacious
  cases hk : Model.listPushKey db k now with
  | error er => rfl
  | ok pr =>
    obtain ⟨db1, r⟩ := pr
    simp only []
    apply pushRoom_of_repr
    · rw [listPushKey_lists hk]; exact hr
    · cases hc : ((db1.lists.filter (fun x => x.kid == r.id)).map (·.pos)).contains
          (pushPos db1.lists r.id front) with
      | false => rfl
      | true =>
        exfalso
        apply hnc
        rw [listPush_eq, hk]
        simp only []
        rw [if_pos hc]
        rfl

theorem listPop_ok_bytes {db : DB} {k : Bytes} {front : Bool} {now : Int} {v : Val}
    (h : (Model.listPop db k front now).out = .ok v) : ∃ el, v = .bytes el := by
  unfold Model.listPop at h
  split at h
  · simp [Res.err] at h
  · simp only [] at h
    split at h
    · simp [Res.err] at h
    · simp only [Res.ok, Except.ok.injEq] at h
      exact ⟨_, h.symm⟩

/-- **On tables whose positions are doubles, `Spacious` is exactly "no collision".** Rounding to
53 bits never crosses a representable number (`ListRound.round53_ge_of_repr_le`,
`round53_le_of_repr_ge`), so a freshly computed position can only be misplaced by coinciding with
a neighbour — which the unique index detects. -/
theorem spacious_of_representable : ∀ (op : Op) (now : Int) (db : DB), IsListOp op →
    Representable db → AnyCollides op now db = false → Spacious op now db = true := by
  intro op now db hop hr hac
  have hne := ne_unique_of_anyCollides hac
  obtain ⟨l, rfl⟩ := exists_listOp hop
  cases l with
  | push k e front => cases front <;> exact pushSpacious_of_repr (e := e) hr hne
  | popPush s d =>
    refine spacious_popPush.2 (fun v hpo => ?_)
    obtain ⟨el, rfl⟩ := listPop_ok_bytes hpo
    apply pushSpacious_of_repr (e := el) (listPop_repr hr s false now)
    intro hpu
    apply hne
    show (Model.listPopBackPushFront db s d now).out = _
    simp [Model.listPopBackPushFront, hpo, hpu, Res.err]
  | insert k p e after =>
    refine spacious_insert.2 (fun r hk => ?_)
    apply insertRoom_of_repr
    · intro x hx; exact hr x (mem_rowsOf.1 hx).1
    · intro np hnp hmem
      apply hne
      have hout : (Model.listInsert db k p e after now).out = .error .sqlUnique := by
        rw [listInsert_eq, hk]
        simp only [hnp]
        rw [if_pos (by rw [List.contains_eq_mem]; exact decide_eq_true hmem)]
        rfl
      cases after <;> exact hout
  | deleteN k e n back => cases back <;> rfl
  | pop k front => cases front <;> rfl
  | _ => rfl

/-- **C02, partial refinement, for tables whose positions are doubles** (everything SQLite can
store in the `real` column `rlist.pos`): outside `Stale` (D05) and `AnyCollides` (D03, and the same `sqlUnique` failure of a push) the model returns
exactly what the in-memory slice returns and the tables afterwards stand for the slice's new
state. No side condition on the arithmetic is left. -/
theorem list_refines_partial_repr : ∀ (op : Op) (now : Int) (db : DB),
    IsListOp op → db.Inv → Representable db → Stale op now db = false → AnyCollides op now db = false →
    let r := Model.dbRun op now db
    r.out = (Spec.step op now (Spec.abs now db)).out ∧
      Spec.abs now r.db = Spec.purge now (Spec.step op now (Spec.abs now db)).st :=
  fun op now db hop hinv hr hst hac =>
    list_refines_partial op now db hop hinv hst (spacious_of_representable op now db hop hr hac)

/-- every list operation leaves positions that are doubles -/
theorem list_preserves_representable : ∀ (op : Op) (now : Int) (db : DB), IsListOp op →
    Representable db → Representable (Model.dbRun op now db).db := by
  intro op now db hop hr
  obtain ⟨l, rfl⟩ := exists_listOp hop
  cases l with
  | delete k e => exact update_pres hr (listDelete_repr hr k e now)
  | deleteN k e n back => cases back <;> exact update_pres hr (listDeleteN_repr hr k e n _ now)
  | get k i => exact (Proofs.NoTrace.listGet_db db k i now).symm ▸ hr
  | insert k p e after => cases after <;> exact update_pres hr (listInsert_repr hr k p e _ now)
  | len k => exact (Proofs.NoTrace.listLen_db db k now).symm ▸ hr
  | pop k front => cases front <;> exact update_pres hr (listPop_repr hr k _ now)
  | popPush s d => exact update_pres hr (listPopBackPushFront_repr hr s d now)
  | push k e front => cases front <;> exact update_pres hr (listPush_repr hr k e _ now)
  | range k a b => exact (Proofs.NoTrace.listRange_db db k a b now).symm ▸ hr
  | set k i e => exact update_pres hr (listSet_repr hr k i e now)
  | trim k a b => exact update_pres hr (listTrim_repr hr k a b now)

/-- no call of the run falls into a catalogued deviation class or hits the unique index -/
def CleanRunRepr : List (Op × Int) → DB → Prop
  | [], _ => True
  | (op, now) :: rest, db =>
    IsListOp op ∧ Stale op now db = false ∧  AnyCollides op now db = false ∧
      CleanRunRepr rest (Model.dbRun op now db).db

theorem cleanRun_of_repr : ∀ (tr : List (Op × Int)) (db : DB), db.LWF → Representable db →
    CleanRunRepr tr db → CleanRun tr db
  | [], _, _, _, _ => trivial
  | (op, now) :: rest, db, hw, hr, ⟨hop, hst, hac, hrest⟩ =>
    ⟨hop, hst, spacious_of_representable op now db hop hr hac,
      cleanRun_of_repr rest _ (list_preserves_lwf op now db hop hw)
        (list_preserves_representable op now db hop hr) hrest⟩

/-- **C02 for sequences, on tables whose positions are doubles.** Started on tables that satisfy
the invariant and store only doubles (e.g. the empty database), any sequence of list operations
at non-decreasing clock values that never meets D05 and never hits the unique index:
every call returns what the in-memory slices return, and at the end the tables stand for exactly
those slices. -/
theorem list_seq_refines_repr : ∀ (tr : List (Op × Int)) (t : Int) (db : DB), db.Inv →
    Representable db → ClockOk t tr → CleanRunRepr tr db →
    (runModel tr db).1 = (runSpec tr (Spec.abs t db)).1 ∧
      Spec.abs (lastClock t tr) (runModel tr db).2 = (runSpec tr (Spec.abs t db)).2 :=
  fun tr t db hinv hr hc hcl =>
    list_seq_refines tr t db (DB.Inv.lwf hinv) hc (cleanRun_of_repr tr db (DB.Inv.lwf hinv) hr hcl)

/-! ### the property, clause by clause -/

/-- what a write leaves under its name, as long as that has not expired -/
theorem get_of_written {db db' : DB} (hn : (db.keys.map (·.key)).Nodup) {now : Int} {k : Bytes} {e : Entry}
    (h : Spec.abs now db' = Spec.purge now (Spec.put (Spec.abs now db) k e))
    (hl : liveAt now e.etime = true) : Spec.get (Spec.abs now db') k = some e := by
  rw [h, get_purge ((sorted_abs hn now).put k _), get_put]
  simp [hl]

/-- the visible list at `k` -/
def HoldsList (now : Int) (db : DB) (k : Bytes) (l : List Bytes) : Prop :=
  ∃ et, Spec.get (Spec.abs now db) k = some ⟨.list l, et⟩

/-- "its reported length always equals the number of elements a full range returns": on a
visible list `Len` returns its length and `Range(0, -1)` returns all of it, in order. -/
theorem len_eq_full_range_count : ∀ (k : Bytes) (l : List Bytes) (now : Int) (db : DB), db.Inv →
    HoldsList now db k l →
    (Model.dbRun (.listLen k) now db).out = .ok (.int l.length) ∧
    (Model.dbRun (.listRange k 0 (-1)) now db).out = .ok (.list (l.map .bytes)) := by
  intro k l now db hinv ⟨et, hg⟩
  have hw := DB.Inv.lwf hinv
  refine ⟨?_, ?_⟩
  · have h := (listLen_refines hw now k).1
    show (Model.listLen db k now).out = _
    rw [h]; simp [Spec.listLen, Spec.listAt, hg, Spec.ok]
  · have h := (listRange_refines hw now k 0 (-1)).1
    have hfull : Spec.lrange l 0 (-1) = l := by
      have h1 := range_refines l 0 (-1)
      rw [full_range_is_list] at h1
      exact h1.symm
    show (Model.listRange db k 0 (-1) now).out = _
    rw [h]
    simp [Spec.listRange, Spec.listAt, hg, Spec.ok, Spec.bytesList, hfull]

/-- "a missing key reads as an empty list and never as an error" — for `Len`, for `Range` with any
bounds (D02 repaired), and for the removals and `Trim` (nothing to remove). `Get`, `Set`, the pops
and the inserts report `ErrNotFound` by design. -/
theorem missing_key_reads_empty : ∀ (k : Bytes) (now : Int) (db : DB), db.Inv →
    Spec.get (Spec.abs now db) k = none →
    (Model.dbRun (.listLen k) now db).out = .ok (.int 0) ∧
    (∀ a b, (Model.dbRun (.listRange k a b) now db).out = .ok (.list [])) ∧
    (∀ e, (Model.dbRun (.listDelete k e) now db).out = .ok (.int 0)) ∧
    (∀ a b, (Model.dbRun (.listTrim k a b) now db).out = .ok (.int 0)) := by
  intro k now db hinv hg
  have hw := DB.Inv.lwf hinv
  have hk : db.liveKeyT k TList now = none := by
    rcases lview hw.wf now k with ⟨r, _, _, _, hg', _⟩ | ⟨hk, _⟩
    · rw [hg'] at hg; cases hg
    · exact hk
  refine ⟨?_, ?_, ?_, ?_⟩
  · have h := (listLen_refines hw now k).1
    show (Model.listLen db k now).out = _
    rw [h]; simp [Spec.listLen, Spec.listAt, hg, Spec.ok]
  · intro a b
    show (Model.listRange db k a b now).out = _
    rw [listRange_missing hk]
    rfl
  · intro e
    have h := (listDelete_refines hw now k e).1.1
    rw [show Model.dbRun (.listDelete k e) now db = update (fun d => Model.listDelete d k e now) db from rfl, h]
    simp [Spec.listDeleteAll, hg, Spec.ok]
  · intro a b
    show (update (fun d => Model.listTrim d k a b now) db).out = _
    rw [Dispatch.update_out]
    simp [Model.listTrim, hk, Res.ok]

/-- "push … each call returns what the slice operation returns": a push to the back of a visible
list (not stale by construction, position arithmetic `Spacious`) appends the element and returns
the new length; the expiry is untouched. -/
theorem push_back_appends : ∀ (k e : Bytes) (l : List Bytes) (et : Option Int) (now : Int) (db : DB),
    db.Inv → Spec.get (Spec.abs now db) k = some ⟨.list l, et⟩ →
    Spacious (.listPushBack k e) now db = true →
    (Model.dbRun (.listPushBack k e) now db).out = .ok (.int (l.length + 1)) ∧
    Spec.get (Spec.abs now (Model.dbRun (.listPushBack k e) now db).db) k
      = some ⟨.list (l ++ [e]), et⟩ := by
  intro k e l et now db hinv hg hsp
  have hw := DB.Inv.lwf hinv
  obtain ⟨hlive, hns⟩ := get_abs_live hw.wf hg
  have hlive : liveAt now et = true := hlive
  have href : Refines now (Model.dbRun (.listPushBack k e) now db) _ :=
    listPush_refines hw hns e false hsp
  simp only [Spec.listPush, hg, Spec.ok, Bool.false_eq_true, if_false] at href
  refine ⟨by rw [href.1]; simp, ?_⟩
  exact get_of_written hw.wf.names href.2 hlive

/-- a push to a missing key creates the list -/
theorem push_creates : ∀ (k e : Bytes) (front : Bool) (now : Int) (db : DB), db.Inv →
    db.findKey k = none →
    let op := if front then Op.listPushFront k e else Op.listPushBack k e
    (Model.dbRun op now db).out = .ok (.int 1) ∧
    Spec.get (Spec.abs now (Model.dbRun op now db).db) k = some ⟨.list [e], none⟩ := by
  intro k e front now db hinv hf
  have hw := DB.Inv.lwf hinv
  have hg : Spec.get (Spec.abs now db) k = none := by rw [get_abs hw.wf.names, hf]; rfl
  have hns : staleKey db now k = false := by simp [staleKey, hf]
  have hsp : pushSpacious db k front now = true := by
    unfold pushSpacious
    rw [listPushKey_eq, keyUpsert_new hf]
    simp only [pushRoom]
    show (List.filter (fun x => x.kid == db.nextKeyId) db.lists).all _ = true
    rw [hw.no_rows_fresh]; rfl
  have href := listPush_refines hw hns e front hsp
  unfold Refines at href
  simp only [Spec.listPush, hg, Spec.ok] at href
  cases front <;> exact ⟨href.1, get_of_written hw.wf.names href.2 rfl⟩

theorem insertAt_length (p e : Bytes) (after : Bool) : ∀ (l l' : List Bytes),
    Spec.insertAt p e after l = some l' → l'.length = l.length + 1
  | [], _, h => by simp [Spec.insertAt] at h
  | y :: ys, l', h => by
    simp only [Spec.insertAt] at h
    split at h
    · cases h; cases after <;> simp
    · cases hrec : Spec.insertAt p e after ys with
      | none => simp [hrec] at h
      | some m =>
        simp only [hrec, Option.map_some, Option.some.injEq] at h
        subst h
        simp [insertAt_length p e after ys m hrec]

/-- "A list keeps accepting inserts at any position for as long as it exists": on a visible list
that contains the pivot, an insert with `Spacious` position arithmetic succeeds, returns the new
length and puts the element next to the first occurrence of the pivot. (Without `Spacious` the
sentence is FALSE of the code: D03, `insert_collision_deviates`.) -/
theorem insert_accepted : ∀ (k p e : Bytes) (after : Bool) (l l' : List Bytes) (et : Option Int)
    (now : Int) (db : DB), db.Inv →
    Spec.get (Spec.abs now db) k = some ⟨.list l, et⟩ → Spec.insertAt p e after l = some l' →
    let op := if after then Op.listInsertAfter k p e else Op.listInsertBefore k p e
    Spacious op now db = true →
    (Model.dbRun op now db).out = .ok (.int (l.length + 1)) ∧
    Spec.get (Spec.abs now (Model.dbRun op now db).db) k = some ⟨.list l', et⟩ := by
  intro k p e after l l' et now db hinv hg hins op hsp
  have hw := DB.Inv.lwf hinv
  obtain ⟨hlive, _⟩ := get_abs_live hw.wf hg
  have hlive : liveAt now et = true := hlive
  have hlen : l'.length = l.length + 1 := insertAt_length p e after l l' hins
  have hroom : ∀ r, db.liveKeyT k TList now = some r → insertRoom (listRows db r.id) p after = true := by
    intro r hr
    cases after <;> simpa [op, Spacious, hr] using hsp
  have href := listInsert_refines hw now k p e after hroom
  unfold Refines at href
  simp only [Spec.listInsert, hg, hins, Spec.ok] at href
  have hrun : Model.dbRun op now db = update (fun d => Model.listInsert d k p e after now) db := by
    cases after <;> rfl
  rw [hrun]
  refine ⟨by rw [href.1, hlen]; simp, ?_⟩
  exact get_of_written hw.wf.names href.2 hlive

/-- "pop … returns what the slice operation returns": a pop from the back of a visible non-empty
list returns its last element and leaves the rest. -/
theorem pop_back_returns_last : ∀ (k x : Bytes) (l : List Bytes) (et : Option Int) (now : Int) (db : DB),
    db.Inv → Spec.get (Spec.abs now db) k = some ⟨.list (l ++ [x]), et⟩ →
    (Model.dbRun (.listPopBack k) now db).out = .ok (.bytes x) ∧
    Spec.get (Spec.abs now (Model.dbRun (.listPopBack k) now db).db) k = some ⟨.list l, et⟩ := by
  intro k x l et now db hinv hg
  have hw := DB.Inv.lwf hinv
  obtain ⟨hlive, _⟩ := get_abs_live hw.wf hg
  have hlive : liveAt now et = true := hlive
  have href := (listPop_refines hw now k false).1
  unfold Refines at href
  simp only [Spec.listPop, hg, Bool.false_eq_true, if_false, List.getLast?_append, List.getLast?_singleton,
    Option.some_or, List.dropLast_concat, Spec.ok] at href
  exact ⟨href.1, get_of_written hw.wf.names href.2 hlive⟩

/-- an emptied list still exists (and keeps accepting pushes): popping the only element leaves
the empty list, not a missing key -/
theorem emptied_list_exists : ∀ (k x : Bytes) (et : Option Int) (now : Int) (db : DB),
    db.Inv → Spec.get (Spec.abs now db) k = some ⟨.list [x], et⟩ →
    Spec.get (Spec.abs now (Model.dbRun (.listPopBack k) now db).db) k = some ⟨.list [], et⟩ :=
  fun k x et now db hinv hg => (pop_back_returns_last k x [] et now db hinv hg).2

/-! ### the deviations are real -/

def bK : Bytes := [107]          -- "k"
def bA : Bytes := [97]           -- "a"
def bB : Bytes := [98]           -- "b"
def bC : Bytes := [99]           -- "c"
def bX : Bytes := [120]          -- "x"
def bN : Bytes := [110]          -- "n", not stored

/-- one list "k" = ["a","b","c"] at positions 0, 1, 2 -/
def dbABC : DB :=
  { keys := [{ id := 1, key := bK, ty := 2, version := 1, etime := none, mtime := 0, len := some 3 }],
    lists := [{ kid := 1, pos := 0, elem := bA }, { kid := 1, pos := 1, elem := bB },
      { kid := 1, pos := 2, elem := bC }] }

/-- one list "k" = ["a","b"] at the adjacent doubles 2^53 and 2^53 + 2 -/
def dbTight : DB :=
  { keys := [{ id := 1, key := bK, ty := 2, version := 1, etime := none, mtime := 0, len := some 2 }],
    lists := [{ kid := 1, pos := 9007199254740992, elem := bA },
      { kid := 1, pos := 9007199254740994, elem := bB }] }

/-- one list "k" = ["a"] whose expiry (5) has passed at `now = 10`, not yet cleaned up -/
def dbStaleList : DB :=
  { keys := [{ id := 1, key := bK, ty := 2, version := 1, etime := some 5, mtime := 0, len := some 1 }],
    lists := [{ kid := 1, pos := 0, elem := bA }] }

/-- one list "k" = ["a"] at a position that is not a double: 2^60 + 1 (61 significant bits) -/
def dbWide : DB :=
  { keys := [{ id := 1, key := bK, ty := 2, version := 1, etime := none, mtime := 0, len := some 1 }],
    lists := [{ kid := 1, pos := 1152921504606846977, elem := bA }] }

def outErr : Out → Option Err
  | .error e => some e
  | _ => none

theorem out_of_outErr {o : Out} {e : Err} (h : outErr o = some e) : o = .error e := by
  cases o with
  | error e' => simp only [outErr, Option.some.injEq] at h; rw [h]
  | ok v => simp [outErr] at h

/-- D01 was real (`Range`), and is repaired. `Range("k", 2, 0)` on ["a","b","c"]: in-range, non-negative,
inverted bounds escape the Go shortcut; the statement used to reach SQLite as `LIMIT 2, -1` and return
["c"] (`Props.C02.raw_range_limit_deviates`); the clamped window is empty, as the slice's. -/
theorem range_inverted_agrees :
    dbABC.Inv ∧
    (Model.dbRun (.listRange bK 2 0) 10 dbABC).out = .ok (.list []) ∧
    (Spec.step (.listRange bK 2 0) 10 (Spec.abs 10 dbABC)).out = .ok (.list []) := by
  refine ⟨by unfold DB.Inv; decide, by rfl, by rfl⟩

/-- D01 was real (`Trim`), and is repaired. `Trim("k", -5, 0)` on ["a","b","c"] keeps ["a"]. -/
theorem trim_clamped_agrees :
    dbABC.Inv ∧
    (Model.dbRun (.listTrim bK (-5) 0) 10 dbABC).out = .ok (.int 2) ∧
    (Spec.step (.listTrim bK (-5) 0) 10 (Spec.abs 10 dbABC)).out = .ok (.int 2) ∧
    Spec.get (Spec.abs 10 (Model.dbRun (.listTrim bK (-5) 0) 10 dbABC).db) bK
      = some ⟨.list [bA], none⟩ ∧
    Spec.get (Spec.purge 10 (Spec.step (.listTrim bK (-5) 0) 10 (Spec.abs 10 dbABC)).st) bK
      = some ⟨.list [bA], none⟩ := by
  refine ⟨by unfold DB.Inv; decide, by rfl, by rfl, by decide +kernel, by decide +kernel⟩

/-- D02 was real, and is repaired. `Range("n", 0, -1)` of a missing key is the empty list ("a missing key
reads as an empty list and never as an error"); it used to fail with a datatype mismatch (`LIMIT NULL`). -/
theorem range_missing_agrees :
    dbABC.Inv ∧
    (Model.dbRun (.listRange bN 0 (-1)) 10 dbABC).out = .ok (.list []) ∧
    (Spec.step (.listRange bN 0 (-1)) 10 (Spec.abs 10 dbABC)).out = .ok (.list []) := by
  refine ⟨by unfold DB.Inv; decide, by rfl, by rfl⟩

/-- D03 is real. Between the adjacent doubles 2^53 and 2^53 + 2 the midpoint `(a + b) / 2` rounds
back to 2^53: the insert hits the unique index on `(kid, pos)`. The slice accepts the insert
("a list keeps accepting inserts at any position for as long as it exists"). -/
theorem insert_collision_deviates :
    dbTight.Inv ∧ Collides (.listInsertAfter bK bA bX) 10 dbTight = true ∧
    Spacious (.listInsertAfter bK bA bX) 10 dbTight = false ∧
    Stale (.listInsertAfter bK bA bX) 10 dbTight = false ∧
    (Model.dbRun (.listInsertAfter bK bA bX) 10 dbTight).out = .error .sqlUnique ∧
    (Spec.step (.listInsertAfter bK bA bX) 10 (Spec.abs 10 dbTight)).out = .ok (.int 3) := by
  refine ⟨by unfold DB.Inv; decide +kernel, by decide +kernel, by decide +kernel, by decide +kernel,
    out_of_outErr (by decide +kernel), by rfl⟩

/-- D05 is real. The list "k" expired at 5; at 10 it does not exist, so a push must create
"k" = ["x"] without expiry and return 1. The model (like the code) reuses the expired row: it
answers 2 and the key still does not exist afterwards. -/
theorem stale_push_deviates :
    dbStaleList.Inv ∧ Stale (.listPushBack bK bX) 10 dbStaleList = true ∧
    (Model.dbRun (.listPushBack bK bX) 10 dbStaleList).out = .ok (.int 2) ∧
    (Spec.step (.listPushBack bK bX) 10 (Spec.abs 10 dbStaleList)).out = .ok (.int 1) ∧
    Spec.get (Spec.abs 10 (Model.dbRun (.listPushBack bK bX) 10 dbStaleList).db) bK = none ∧
    Spec.get (Spec.purge 10 (Spec.step (.listPushBack bK bX) 10 (Spec.abs 10 dbStaleList)).st) bK
      = some ⟨.list [bX], none⟩ := by
  refine ⟨by unfold DB.Inv; decide, by decide, by rfl, by rfl, by decide +kernel, by decide +kernel⟩

/-- `Spacious` is needed beyond D03 only for positions that are not doubles: with the single row
at 2^60 + 1 (61 significant bits; SQLite cannot store it) `max + 1` rounds DOWN to 2^60, no
collision is detected and the pushed element lands in front. This is a statement about the
model's `Dyadic` positions, not about the code. -/
theorem unrepresentable_position_deviates :
    dbWide.Inv ∧ Spacious (.listPushBack bK bX) 10 dbWide = false ∧
    Stale (.listPushBack bK bX) 10 dbWide = false ∧
    Spec.get (Spec.abs 10 (Model.dbRun (.listPushBack bK bX) 10 dbWide).db) bK
      = some ⟨.list [bX, bA], none⟩ ∧
    Spec.get (Spec.purge 10 (Spec.step (.listPushBack bK bX) 10 (Spec.abs 10 dbWide)).st) bK
      = some ⟨.list [bA, bX], none⟩ := by
  refine ⟨by unfold DB.Inv; decide +kernel, by decide +kernel, by decide +kernel, by decide +kernel,
    by decide +kernel⟩

/-- one list "k" = ["a"] at position 2^53, a double whose successor 2^53 + 1 is not one -/
def dbEdge : DB :=
  { keys := [{ id := 1, key := bK, ty := 2, version := 1, etime := none, mtime := 0, len := some 1 }],
    lists := [{ kid := 1, pos := 9007199254740992, elem := bA }] }

instance : Decidable (Representable db) :=
  inferInstanceAs (Decidable (∀ x ∈ db.lists, repr53 x.pos = true))

/-- The same collision can hit a push: at `max = 2^53` the sum `max + 1` rounds back to `max` and
`sqlPushBack` fails on the unique index, where the slice accepts the push. All positions are
doubles and the invariant holds. This class is NOT in the catalogue (`Spec.known` reports
nothing): it needs 2^53 pushes to one end of one list and was never observed; it is excluded here
by `AnyCollides` (and by `Spacious`). -/
theorem push_collision_deviates :
    dbEdge.Inv ∧ Representable dbEdge ∧ AnyCollides (.listPushBack bK bX) 10 dbEdge = true ∧
    Spacious (.listPushBack bK bX) 10 dbEdge = false ∧
    Spec.known true (.listPushBack bK bX) 10 dbEdge = [] ∧
    (Model.dbRun (.listPushBack bK bX) 10 dbEdge).out = .error .sqlUnique ∧
    (Spec.step (.listPushBack bK bX) 10 (Spec.abs 10 dbEdge)).out = .ok (.int 2) := by
  refine ⟨by unfold DB.Inv; decide +kernel, by decide +kernel, by decide +kernel, by decide +kernel,
    by decide +kernel, out_of_outErr (by decide +kernel), by rfl⟩

/-- Hence the refinement statement without the classifiers is false. -/
theorem full_strength_is_false :
    ¬ (∀ (op : Op) (now : Int) (db : DB), IsListOp op → db.Inv →
        (Model.dbRun op now db).out = (Spec.step op now (Spec.abs now db)).out ∧
        Spec.abs now (Model.dbRun op now db).db
          = Spec.purge now (Spec.step op now (Spec.abs now db)).st) := by
  intro h
  have h1 := (h (.listPushBack bK bX) 10 dbStaleList rfl stale_push_deviates.1).1
  rw [stale_push_deviates.2.2.1, stale_push_deviates.2.2.2.1] at h1
  cases h1

/-- … and it stays false when only the catalogue's D05 is excluded: D03 is needed. -/
theorem without_d03_is_false :
    ¬ (∀ (op : Op) (now : Int) (db : DB), IsListOp op → db.Inv → Stale op now db = false →
        (Model.dbRun op now db).out = (Spec.step op now (Spec.abs now db)).out) := by
  intro h
  have h1 := h (.listInsertAfter bK bA bX) 10 dbTight rfl insert_collision_deviates.1
    insert_collision_deviates.2.2.2.1
  rw [insert_collision_deviates.2.2.2.2.1, insert_collision_deviates.2.2.2.2.2] at h1
  cases h1

/-! ### non-vacuity: the hypotheses are satisfiable for every kind of operation -/

def bL : Bytes := [108]          -- "l"
def bM : Bytes := [109]          -- "m"
def bS : Bytes := [115]          -- "s"

/-- a list "l" = ["a","b","a","c"] (positions -1, 0, 1/2, 1) that expires at 100, a list
"m" = ["x"], a string "s" -/
def demo : DB :=
  { keys := [
      { id := 1, key := bL, ty := 2, version := 4, etime := some 100, mtime := 0, len := some 4 },
      { id := 2, key := bM, ty := 2, version := 1, etime := none, mtime := 0, len := some 1 },
      { id := 3, key := bS, ty := 1, version := 1, etime := none, mtime := 0, len := none }],
    strs := [{ kid := 3, value := [118] }],
    lists := [{ kid := 1, pos := 0, elem := bB }, { kid := 1, pos := 1, elem := bC },
      { kid := 1, pos := -1, elem := bA }, { kid := 2, pos := 0, elem := bX },
      { kid := 1, pos := dyHalf 1, elem := bA }] }

example : demo.Inv := by unfold DB.Inv; decide +kernel

example : Spec.abs 10 demo
    = [(bL, ⟨.list [bA, bB, bA, bC], some 100⟩), (bM, ⟨.list [bX], none⟩), (bS, ⟨.str [118], none⟩)] := by
  decide +kernel

/-- every hypothesis of `list_refines_partial` holds for an operation of each kind on `demo` -/
example : ∀ op ∈ [Op.listDelete bL bA, .listDelete bN bA, .listDeleteBack bL bA 1,
      .listDeleteFront bL bA 5, .listDeleteFront bL bA (-1), .listGet bL (-1), .listGet bS 0,
      .listInsertAfter bL bA bX, .listInsertBefore bL bC bX, .listInsertAfter bL bN bX,
      .listInsertBefore bL bA bX, .listLen bL, .listLen bN, .listPopBack bL, .listPopFront bM,
      .listPopFront bS, .listPopBackPushFront bL bM, .listPopBackPushFront bL bL,
      .listPopBackPushFront bL bN, .listPopBackPushFront bL bS, .listPushBack bL bX,
      .listPushFront bL bX, .listPushBack bN bX, .listPushFront bS bX, .listRange bL 1 (-2),
      .listRange bL (-100) 100, .listRange bN 0 5, .listSet bL (-2) bX, .listSet bL 7 bX,
      .listTrim bL 1 2, .listTrim bL (-3) 100, .listTrim bN (-1) (-5)],
    IsListOp op ∧ Stale op 10 demo = false ∧  Collides op 10 demo = false ∧ Spacious op 10 demo = true := by
  decide +kernel

/-- the theorem instantiated: insert "x" after the first "a" of "l" -/
example :
    (Model.dbRun (.listInsertAfter bL bA bX) 10 demo).out = .ok (.int 5) ∧
    Spec.get (Spec.abs 10 (Model.dbRun (.listInsertAfter bL bA bX) 10 demo).db) bL
      = some ⟨.list [bA, bX, bB, bA, bC], some 100⟩ :=
  insert_accepted bL bA bX true [bA, bB, bA, bC] [bA, bX, bB, bA, bC] (some 100) 10 demo
    (by unfold DB.Inv; decide +kernel) (by decide +kernel) (by decide) (by decide +kernel)

/-- length and full range agree on "l" -/
example :
    (Model.dbRun (.listLen bL) 10 demo).out = .ok (.int 4) ∧
    (Model.dbRun (.listRange bL 0 (-1)) 10 demo).out
      = .ok (.list [.bytes bA, .bytes bB, .bytes bA, .bytes bC]) :=
  len_eq_full_range_count bL [bA, bB, bA, bC] 10 demo (by unfold DB.Inv; decide +kernel)
    ⟨some 100, by decide +kernel⟩

/-- a run on `demo` that satisfies the hypotheses of `list_seq_refines`: pushes at both ends,
an insert, a removal, pop-and-push between lists, a set, a trim, and reads after "l" expired -/
def demoRun : List (Op × Int) :=
  [(.listPushBack bL bX, 10), (.listPushFront bN bA, 11), (.listInsertBefore bL bC bB, 11),
   (.listDeleteBack bL bA 1, 12), (.listPopBackPushFront bL bN, 12), (.listSet bN (-1) bC, 13),
   (.listTrim bL 1 (-2), 13), (.listRange bL 0 (-1), 14), (.listLen bL, 200), (.listRange bN 0 10, 200)]

instance decCleanRun : ∀ tr db, Decidable (CleanRun tr db)
  | [], _ => isTrue trivial
  | (op, now) :: rest, db =>
    have := decCleanRun rest (Model.dbRun op now db).db
    inferInstanceAs (Decidable (_ ∧ _ ∧ _ ∧ _))

instance decClockOk : ∀ t tr, Decidable (ClockOk t tr)
  | _, [] => isTrue trivial
  | t, (_, now) :: rest =>
    have := decClockOk now rest
    inferInstanceAs (Decidable (t ≤ now ∧ ClockOk now rest))

example : ClockOk 10 demoRun ∧ CleanRun demoRun demo := by decide +kernel

/-- at 200 the key "l" (expiry 100) is gone; "n" = ["x","c"], "m" untouched -/
example : (runSpec demoRun (Spec.abs 10 demo)).2
    = [(bM, ⟨.list [bX], none⟩), (bN, ⟨.list [bX, bC], none⟩), (bS, ⟨.str [118], none⟩)] := by
  decide +kernel

instance decCleanRunRepr : ∀ tr db, Decidable (CleanRunRepr tr db)
  | [], _ => isTrue trivial
  | (op, now) :: rest, db =>
    have := decCleanRunRepr rest (Model.dbRun op now db).db
    inferInstanceAs (Decidable (_ ∧ _ ∧ _ ∧ _))

/-- `demo` stores doubles only, the run never hits the unique index (the hypotheses of
`list_seq_refines_repr`), and the tables at the end still store doubles only -/
example : Representable demo ∧ CleanRunRepr demoRun demo ∧ Representable (runModel demoRun demo).2 := by
  decide +kernel

/-- the hypotheses of `list_refines_partial_repr` for the operations that add a row -/
example : ∀ op ∈ [Op.listInsertAfter bL bA bX, .listInsertBefore bL bC bX, .listPushBack bL bX,
      .listPushFront bL bX, .listPushBack bN bX, .listPopBackPushFront bL bM],
    AnyCollides op 10 demo = false ∧ Exact op 10 demo = true := by
  decide +kernel

end Redka.Props.C02
