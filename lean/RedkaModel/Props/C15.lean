/-
  Property C15: MULTI / EXEC / DISCARD.

  "On each connection independently, MULTI starts queuing, queued commands are acknowledged but have
  no effect until EXEC, EXEC runs them in order as one atomic, isolated unit and replies with their
  individual replies in order, and DISCARD drops them; EXEC or DISCARD without MULTI and nested
  MULTI are refused without disturbing the connection. If any queued command fails while executing,
  none of the block's effects is kept, and other connections never observe a partially executed
  block nor have their own commands pulled into it."

  What is proved, and about what:

  * The object is `Wire.handle : ConnState → DB → now → request → ConnState × DB × tokens`, the
    model of the handler chain `parse → multi → handle → handleMulti / handleSingle` of
    internal/server (it agrees with the real chain on every MULTI/EXEC/DISCARD sequence of length
    ≤ 5 over 7 request kinds and on the random wire corpus; that agreement is tested, not proved).
  * The reference is `Spec.Multi.refStep`, a two-phase machine (`idle` / `queuing q`) over protocol
    requests (`Spec.Multi.Req`, obtained from the raw request by `Spec.Multi.classify`). What ONE
    command replies and does is taken from the command layer (`Wire.run`) on both sides: the
    theorems are about the transaction protocol, not about the 98 commands.
  * `multi_step_refines` / `multi_refines`: on every request, and by induction on every request
    SEQUENCE, the model does exactly what the reference does — new phase, new tables, tokens —
    unless the step is classified:
      - `BlockFails` is NOT an exception (defect D12 is repaired: `handleMulti` runs every queued command,
        remembers the first error and returns it at the end): an EXEC whose block has a failing command is
        exactly the reference's — idle, tables rolled back, `*|q|` and ALL |q| replies
        (`multi_step_refines_failing`, `failing_block_reply_complete`; closed witness `exec_failing_block_agrees`).
      - `OutOfDomain`: the request is outside the parser model (`out_of_scope_iff`: non-ASCII name,
        number outside the numeric model, empty request; never a panic) or the block meets a
        command outside the command model's numeric domain (`RunRes.ood`): NO CLAIM by the wire
        model; `ood_block_no_claim` shows that the restriction is needed, `out_of_scope_inert` and
        `phase_is_own_history` what still holds.
    `multi_refines_indomain` is the same equality over sequences WITH failing blocks (only out-of-domain blocks excluded).
  * "On each connection independently … nor have their own commands pulled into it": the
    connection state is a value per connection; `connections_independent`,
    `phase_is_own_history` (the phase — the queue included — of a connection after ANY interleaving
    with another connection is a fold over ITS OWN requests), `exec_runs_own_queue`.
  * "isolated … other connections never observe a partially executed block": inside this model a
    request is one step, so nothing can interleave with a block. That the block is ONE
    `db.Update` is `exec_is_update`; that an `Update` block is isolated from the statements of
    concurrent callers is property C08 (`Props.C08.source_linearizable`, with a MULTI block being
    the job `Sched.Job.block` by `Props.C08.transaction_block_is_execTx`); `multi_block_is_sched_block`
    connects the two for queues whose commands are single repository operations.

  NOT proved here: that the `*redka.Tx` handed to the queued commands is isolated at the SQLite
  level (C08's contract model), and what happens when `Update` itself fails at BEGIN/COMMIT (C07:
  `usertx_atomic`; the reply would again be short).
-/
import RedkaModel.Proofs.Multi
import RedkaModel.Proofs.WireReply
import RedkaModel.Proofs.WireEval

namespace Redka.Props.C15

open Redka Redka.Wire Redka.Spec.Multi Redka.MultiProofs

/-! ### 1. the invariant -/

/-- Between two requests the command slice of a connection is empty unless it is in MULTI; every
request — in scope or not — keeps it so. (`WFConn st := st.inMulti = false → st.cmds = []`) -/
theorem handle_preserves_wfconn : ∀ (st : ConnState) (db : DB) (now : Int) (req : List Bytes),
    WFConn st → WFConn (handle st db now req).1 :=
  MultiProofs.handle_preserves_wfconn

/-- the fresh connection (`new(connState)`) is well-formed and idle -/
theorem fresh_conn : WFConn {} ∧ phaseOf {} = .idle := by decide

/-- on well-formed states the abstraction loses nothing -/
theorem phaseOf_injective : ∀ st, WFConn st → ofPhase (phaseOf st) = st :=
  fun _ h => ofPhase_phaseOf h

/-! ### 2. one request -/

/-- REFINEMENT, one step: inside the model's domain the model and the reference agree on the new
phase, the new tables and every token — also when the request is an EXEC whose block has a failing command
(D12 repaired: no `¬ BlockFails` hypothesis). -/
theorem multi_step_refines : ∀ (st : ConnState) (db : DB) (now : Int) (req : List Bytes) (r : Req),
    WFConn st → classify req = some r → ¬ OutOfDomain st db now req →
    (phaseOf (handle st db now req).1, (handle st db now req).2.1, (handle st db now req).2.2)
      = refStep (phaseOf st) db now r := by
  intro st db now req r hw hc ho
  have h := step_refines st db now req r hw hc
  unfold Refines at h
  cases hcl : stepClass (phaseOf st) db now r with
  | clean => simpa [hcl, implStep] using h
  | fails => simpa [hcl, implStep] using h
  | ood => exact absurd ((stepClass_ood_iff st db now req r hc).mp hcl) ho

/-- The former D12 class, exactly. An EXEC whose block has a failing command: the connection is idle again
with an empty slice, the tables are EXACTLY what they were, and the tokens are `*|q|` followed by ALL |q|
replies — those before the failing command, its own error, and those of the commands after it (which ran
on tables that are then rolled back). This is the reference's step. -/
theorem multi_step_refines_failing : ∀ (st : ConnState) (db : DB) (now : Int) (req : List Bytes),
    WFConn st → BlockFails st db now req →
    handle st db now req =
      ({}, db, .arrayHdr st.cmds.length :: (runBlock now st.cmds db).replies.flatten) ∧
    (phaseOf (handle st db now req).1, (handle st db now req).2.1, (handle st db now req).2.2)
      = refStep (phaseOf st) db now .exec ∧
    (runBlock now st.cmds db).ok = false ∧
    (runBlock now st.cmds db).replies.length = st.cmds.length := by
  intro st db now req hw hf
  have hc := hf.2.1
  have h := (step_spec st db now req .exec hw hc).2
  unfold StepSpec at h
  rw [(stepClass_fails_iff st db now req .exec hc).mpr hf] at h
  obtain ⟨href, q, hq, _, hh, hok⟩ := h
  have hq' : q = st.cmds := by
    have := hf.1
    simp [phaseOf, this] at hq
    exact hq.symm
  subst hq'
  exact ⟨hh, href, hok, runBlock_length _ _ _⟩

/-- the same as an instance of the refinement relation `Spec.Multi.Refines`, for every class -/
theorem multi_step_refines_rel : ∀ (st : ConnState) (db : DB) (now : Int) (req : List Bytes) (r : Req),
    WFConn st → classify req = some r →
    Refines (stepClass (phaseOf st) db now r)
      (phaseOf (handle st db now req).1, (handle st db now req).2.1, (handle st db now req).2.2)
      (refStep (phaseOf st) db now r) :=
  step_refines

/-- the classes of the reference side are the classifiers of the implementation side -/
theorem classes_are_classifiers : ∀ (st : ConnState) (db : DB) (now : Int) (req : List Bytes) (r : Req),
    classify req = some r →
    (stepClass (phaseOf st) db now r = .fails ↔ BlockFails st db now req) ∧
    (stepClass (phaseOf st) db now r = .ood ↔ OutOfDomain st db now req) :=
  fun st db now req r hc => ⟨stepClass_fails_iff st db now req r hc, stepClass_ood_iff st db now req r hc⟩

/-- the reply of a failing block is complete: `*|q|` and exactly |q| replies, the reference's tokens -/
theorem failing_block_reply_complete : ∀ (st : ConnState) (db : DB) (now : Int) (req : List Bytes),
    WFConn st → BlockFails st db now req →
    (handle st db now req).2.2 = (refStep (phaseOf st) db now .exec).2.2 ∧
    (handle st db now req).2.2 = .arrayHdr st.cmds.length :: (runBlock now st.cmds db).replies.flatten ∧
    (runBlock now st.cmds db).replies.length = st.cmds.length := by
  intro st db now req hw hf
  have h := multi_step_refines_failing st db now req hw hf
  exact ⟨congrArg (·.2.2) h.2.1, by rw [h.1], h.2.2.2⟩

/-- every command inside the command model's domain writes at least one token (all 92 `Run`
methods, both runners) -/
theorem command_replies_nonempty : ∀ (c : ParsedCmd) (r : Runner) (now : Int) (db : DB) (o : Option Bytes),
    (run c r now db o).ood = false → (run c r now db o).toks ≠ [] := by
  intro c r now db o h e
  have hw := WireProofs.run_ok c r now db o h
  rw [e] at hw
  cases hw

/-- a request outside the parser model's domain leaves the connection and the tables alone and
writes nothing -/
theorem out_of_scope_inert : ∀ (st : ConnState) (db : DB) (now : Int) (req : List Bytes),
    classify req = none → handle st db now req = (st, db, []) :=
  fun st db now _ h => handle_out_of_scope h st db now

/-- what "outside the parser model's domain" is, exactly: the model cannot decide the request
(non-ASCII command name, a number outside the numeric model) or does not know a construct (the empty
request, an unrecognised grammar). A parser panic (the former D11) is not among the cases: there is
none (`WireProofs.parse_ne_panic`). -/
theorem out_of_scope_iff : ∀ req : List Bytes,
    classify req = none ↔ parse req = .outOfDomain ∨ ∃ t, parse req = .unsupported t := by
  intro req
  unfold classify
  cases hp : parse req with
  | panic => exact absurd hp (WireProofs.parse_ne_panic req)
  | ok pc => simp
  | error e => simp
  | outOfDomain => simp
  | unsupported t => simp

/-! ### 3. request sequences -/

/-- REFINEMENT, every request sequence (induction on the list): with no failing and no
out-of-domain block anywhere in the run, the final phase, the final tables and the tokens of every
single request are those of the reference run. -/
theorem multi_refines : ∀ (reqs : List (Int × List Bytes)) (as : List (Int × Req)) (st : ConnState) (db : DB),
    WFConn st → classifyAll reqs = some as → CleanRun (phaseOf st) db as →
    (phaseOf (implRun st db reqs).1, (implRun st db reqs).2.1, (implRun st db reqs).2.2)
      = refRun (phaseOf st) db as :=
  run_refines_clean

/-- … and with failing blocks ALLOWED (only out-of-domain blocks excluded) the same equality holds: the final
phase, the final tables and the tokens of every single request are those of the reference run. -/
theorem multi_refines_indomain : ∀ (reqs : List (Int × List Bytes)) (as : List (Int × Req)) (st : ConnState) (db : DB),
    WFConn st → classifyAll reqs = some as → InDomainRun (phaseOf st) db as →
    (phaseOf (implRun st db reqs).1, (implRun st db reqs).2.1, (implRun st db reqs).2.2)
      = refRun (phaseOf st) db as :=
  run_refines_indomain

/-- the same, clause by clause, with the well-formedness of the final connection state -/
theorem multi_refines_state : ∀ (reqs : List (Int × List Bytes)) (as : List (Int × Req)) (st : ConnState) (db : DB),
    WFConn st → classifyAll reqs = some as → InDomainRun (phaseOf st) db as →
    WFConn (implRun st db reqs).1 ∧
    phaseOf (implRun st db reqs).1 = (refRun (phaseOf st) db as).1 ∧
    (implRun st db reqs).2.1 = (refRun (phaseOf st) db as).2.1 ∧
    RepliesRefine (runClasses (phaseOf st) db as) (implRun st db reqs).2.2 (refRun (phaseOf st) db as).2.2 :=
  run_refines

/-! ### 4. the clauses of the property, on `handle` directly -/

/-- "MULTI starts queuing": `+OK`, in MULTI with an EMPTY queue, tables untouched -/
theorem multi_starts_queuing : ∀ (st : ConnState) (db : DB) (now : Int) (req : List Bytes),
    WFConn st → st.inMulti = false → classify req = some .multi →
    handle st db now req = ({ inMulti := true, cmds := [] }, db, [okTok]) := by
  intro st db now req hw hs hc
  obtain ⟨pc, hp, h1⟩ := classify_multi hc
  rw [handle_ok hp, stage_idle_multi st db now pc hs h1]
  have := hw hs
  cases st; simp_all

/-- "queued commands are acknowledged but have no effect until EXEC": `+QUEUED`, the command is
appended to the queue, the tables are exactly what they were -/
theorem queued_no_effect : ∀ (st : ConnState) (db : DB) (now : Int) (req : List Bytes) (c : ParsedCmd),
    st.inMulti = true → classify req = some (.cmd c) →
    handle st db now req = ({ st with cmds := st.cmds ++ [c] }, db, [queuedTok]) := by
  intro st db now req c hs hc
  obtain ⟨hp, h1, h2, h3⟩ := classify_cmd hc
  rw [handle_ok hp, stage_multi_cmd st db now c hs h1 h2 h3]
  rfl

/-- "DISCARD drops them": `+OK`, idle, empty slice, tables untouched — whatever was queued -/
theorem discard_drops : ∀ (st : ConnState) (db : DB) (now : Int) (req : List Bytes),
    st.inMulti = true → classify req = some .discard →
    handle st db now req = ({}, db, [okTok]) := by
  intro st db now req hs hc
  obtain ⟨pc, hp, h1, h2, h3⟩ := classify_discard hc
  rw [handle_ok hp, stage_multi_discard st db now pc hs h1 h2 h3]

/-- "EXEC … without MULTI [is] refused without disturbing the connection": exactly one error
token, connection state and tables unchanged -/
theorem exec_without_multi_refused : ∀ (st : ConnState) (db : DB) (now : Int) (req : List Bytes),
    st.inMulti = false → classify req = some .exec →
    handle st db now req = (st, db, [errTok .notInMulti]) := by
  intro st db now req hs hc
  obtain ⟨pc, hp, h1, h2⟩ := classify_exec hc
  rw [handle_ok hp, stage_idle_exec st db now pc hs h1 h2]

/-- the same for DISCARD (the text is the one of EXEC: "ERR EXEC without MULTI") -/
theorem discard_without_multi_refused : ∀ (st : ConnState) (db : DB) (now : Int) (req : List Bytes),
    st.inMulti = false → classify req = some .discard →
    handle st db now req = (st, db, [errTok .notInMulti]) := by
  intro st db now req hs hc
  obtain ⟨pc, hp, h1, h2, h3⟩ := classify_discard hc
  rw [handle_ok hp, stage_idle_discard st db now pc hs h1 h2 h3]

/-- "nested MULTI [is] refused without disturbing the connection": one error token, still in
MULTI with the SAME queue, tables unchanged -/
theorem nested_multi_refused : ∀ (st : ConnState) (db : DB) (now : Int) (req : List Bytes),
    st.inMulti = true → classify req = some .multi →
    handle st db now req = (st, db, [errTok .nestedMulti]) := by
  intro st db now req hs hc
  obtain ⟨pc, hp, h1⟩ := classify_multi hc
  rw [handle_ok hp, stage_multi_multi st db now pc hs h1]

/-- a request that does not parse is answered with one error and is NOT queued: the connection
state — in MULTI or not — and the tables are unchanged -/
theorem unparsable_not_queued : ∀ (st : ConnState) (db : DB) (now : Int) (req : List Bytes) (e : RErr),
    classify req = some (.unparsable e) →
    handle st db now req = (st, db, [.err (errorText (asciiBytes e.text) [])]) :=
  fun st db now _ _ hc => handle_error (classify_unparsable hc) st db now

/-- a command outside MULTI is run alone, against the `*redka.DB` -/
theorem single_command : ∀ (st : ConnState) (db : DB) (now : Int) (req : List Bytes) (c : ParsedCmd),
    WFConn st → st.inMulti = false → classify req = some (.cmd c) →
    handle st db now req = ({}, (run c Model.dbRun now db none).db, (run c Model.dbRun now db none).toks) := by
  intro st db now req c hw hs hc
  obtain ⟨hp, h1, h2, h3⟩ := classify_cmd hc
  rw [handle_ok hp, stage_idle_cmd st db now c hs h1 h2 h3]
  have := hw hs
  cases st; simp_all [ConnState.clear]

/-- "If any queued command fails while executing, none of the block's effects is kept": the
tables after the EXEC are the tables before it, and the connection is idle with an empty slice. -/
theorem exec_atomic : ∀ (st : ConnState) (db : DB) (now : Int) (req : List Bytes),
    WFConn st → BlockFails st db now req →
    (handle st db now req).2.1 = db ∧ (handle st db now req).1 = {} := by
  intro st db now req hw hf
  rw [(multi_step_refines_failing st db now req hw hf).1]
  exact ⟨rfl, rfl⟩

/-- … and on the model's own terms, without the reference: whenever the loop of `handleMulti` sees
a `Run` return an error, EXEC leaves the tables as they were -/
theorem exec_atomic_model : ∀ (st : ConnState) (db : DB) (now : Int) (req : List Bytes),
    st.inMulti = true → classify req = some .exec → (runQueue st.cmds now db [] 1).failed = true →
    (handle st db now req).2.1 = db := by
  intro st db now req hs hc hf
  obtain ⟨pc, hp, h1, h2⟩ := classify_exec hc
  rw [handle_ok hp, stage_multi_exec st db now pc hs h1 h2]
  simp [hf]

/-- `handleMulti` is ONE `db.Update` around the loop over the queue (`Redka.update`, the
all-or-nothing wrapper of the repository model: C07 `usertx_atomic`): some callback `body` that
returns an error exactly when a queued command's `Run` does, with `update body` giving EXEC's tables. -/
theorem exec_is_update : ∀ (st : ConnState) (db : DB) (now : Int),
    ∃ body : DB → Res,
      (∀ d, (body d).db = (runQueue st.cmds now d [] 1).db ∧
        ((∃ e, (body d).out = .error e) ↔ (runQueue st.cmds now d [] 1).failed = true)) ∧
      (handleMulti st db now [] 1).db = (update body db).db := by
  intro st db now
  refine ⟨execBody st.cmds now, fun d => ⟨rfl, ?_⟩, handleMulti_is_update st db now⟩
  simp only [execBody]
  cases (runQueue st.cmds now d [] 1).failed <;> simp

/-- "EXEC runs them in order as one … unit and replies with their individual replies in order":
for a block without failure the tokens are `*|q|` followed by the |q| individual replies; the
i-th reply is what the i-th queued command writes when run as a method of the transaction
(`Model.tx true`) on the tables left by the commands before it; the new tables are those left by
the last command; the connection is idle with an empty slice. -/
theorem exec_replies_in_order : ∀ (st : ConnState) (db : DB) (now : Int) (req : List Bytes),
    WFConn st → st.inMulti = true → classify req = some .exec → blockClass now st.cmds db = .clean →
    handle st db now req =
      ({}, blockDb now st.cmds db, .arrayHdr st.cmds.length :: (runBlock now st.cmds db).replies.flatten) ∧
    (runBlock now st.cmds db).replies.length = st.cmds.length ∧
    ∀ i, (runBlock now st.cmds db).replies[i]? =
      st.cmds[i]?.map (fun c => (run c (Model.tx true) now (blockDb now (st.cmds.take i) db) none).toks) := by
  intro st db now req hw hs hc hcl
  obtain ⟨pc, hp, h1, h2⟩ := classify_exec hc
  have hq := runQueue_clean now st.cmds db 1 hcl
  refine ⟨?_, runBlock_length _ _ _, runBlock_reply _ _ _⟩
  rw [handle_ok hp, stage_multi_exec st db now pc hs h1 h2, hq.1, hq.2.2.1, hq.2.2.2.1, runBlock_db]
  simp

/-! ### 5. connections -/

/-- "On each connection independently": in a process serving two connections a request on one of
them is handled as if the other did not exist, and leaves the other's state untouched. -/
theorem connections_independent : ∀ (a b : ConnState) (db : DB) (now : Int) (req : List Bytes),
    handle2 (a, b) db now false req
      = (((handle a db now req).1, b), (handle a db now req).2.1, (handle a db now req).2.2) ∧
    handle2 (a, b) db now true req
      = ((a, (handle b db now req).1), (handle b db now req).2.1, (handle b db now req).2.2) := by
  intro a b db now req
  exact ⟨rfl, rfl⟩

/-- The phase of a connection — idle, or queuing WITH ITS QUEUE — after any interleaving of the
two connections' requests is the fold of the phase transition over ITS OWN requests: it depends
neither on the other connection's requests nor on the tables nor on the clock. Unconditional
(failing and out-of-domain blocks included). -/
theorem phase_is_own_history : ∀ (l : List (Bool × Int × List Bytes)) (a b : ConnState) (db : DB),
    WFConn a → WFConn b →
    phaseOf (run2 (a, b) db l).1.1 = (ownReqs false l).foldl phaseStepRaw (phaseOf a) ∧
    phaseOf (run2 (a, b) db l).1.2 = (ownReqs true l).foldl phaseStepRaw (phaseOf b) :=
  fun l a b db ha hb => (run2_phases l a b db ha hb).2.2

theorem phaseStep_is_refStep : ∀ (ph : Phase) (db : DB) (now : Int) (r : Req),
    (refStep ph db now r).1 = phaseStep ph r :=
  refStep_phase

/-- after MULTI and then the commands `cs`, the queue is `cs` -/
theorem queue_is_own_commands : ∀ (m : List Bytes) (rs : List (List Bytes)) (cs : List ParsedCmd),
    classify m = some .multi → rs.map classify = cs.map (fun c => some (.cmd c)) →
    (m :: rs).foldl phaseStepRaw .idle = .queuing cs := by
  intro m rs cs hm hrs
  have h : ∀ (q : List ParsedCmd) (rs : List (List Bytes)) (cs : List ParsedCmd),
      rs.map classify = cs.map (fun c => some (.cmd c)) →
      rs.foldl phaseStepRaw (.queuing q) = .queuing (q ++ cs) := by
    intro q rs
    induction rs generalizing q with
    | nil => intro cs h; cases cs <;> simp_all
    | cons r rs ih =>
      intro cs h
      cases cs with
      | nil => simp at h
      | cons c cs =>
        simp only [List.map_cons, List.cons.injEq] at h
        simp [phaseStepRaw, h.1, phaseStep, ih (q ++ [c]) cs h.2]
  simp [phaseStepRaw, hm, phaseStep, h [] rs cs hrs]

/-- "nor have their own commands pulled into it": when connection A sends EXEC after any
interleaving with connection B, the block that runs is the queue determined by A's own requests
(`phase_is_own_history`), on the tables as they are at that moment; B's state is untouched. -/
theorem exec_runs_own_queue : ∀ (l : List (Bool × Int × List Bytes)) (db : DB) (now : Int) (req : List Bytes)
    (q : List ParsedCmd),
    (ownReqs false l).foldl phaseStepRaw .idle = .queuing q → classify req = some .exec →
    blockClass now q (run2 ({}, {}) db l).2.1 = .clean →
    handle2 (run2 ({}, {}) db l).1 (run2 ({}, {}) db l).2.1 now false req =
      (({}, (run2 ({}, {}) db l).1.2), blockDb now q (run2 ({}, {}) db l).2.1,
        .arrayHdr q.length :: (runBlock now q (run2 ({}, {}) db l).2.1).replies.flatten) := by
  intro l db now req q hq hc hcl
  have hp := run2_phases l {} {} db fresh_conn.1 fresh_conn.1
  -- A's phase is `queuing q`: it is in MULTI and its slice is `q`
  have hph : phaseOf (run2 ({}, {}) db l).1.1 = .queuing q := hp.2.2.1.trans hq
  have ⟨hs, hcm⟩ : (run2 ({}, {}) db l).1.1.inMulti = true ∧ (run2 ({}, {}) db l).1.1.cmds = q := by
    unfold phaseOf at hph
    split at hph <;> simp_all
  have := (exec_replies_in_order _ (run2 ({}, {}) db l).2.1 now req hp.1 hs hc (hcm ▸ hcl)).1
  simp only [handle2, this, hcm]
  rfl

/-- Isolation from concurrent callers is C08's (`Props.C08.source_linearizable`: every admitted
schedule is equivalent to the jobs executed one at a time, a transaction block being ONE job,
`Props.C08.transaction_block_is_execTx`). The link: for a queue whose commands each do what one
repository operation does (`OpLikeAlong`), the effect of `handleMulti` on the tables is that of the
job `Sched.Job.block true ops` executed alone, and EXEC fails exactly when that job does. -/
theorem multi_block_is_sched_block : ∀ (st : ConnState) (ops : List Op) (db : DB) (now : Int),
    OpLikeAlong now st.cmds ops db →
    (handleMulti st db now [] 1).db = (Sched.Job.seq (.block true ops) now db).db ∧
    ((runQueue st.cmds now db [] 1).failed = false ↔
      ∃ v, (Sched.Job.seq (.block true ops) now db).out = .ok v) :=
  handleMulti_is_block


/-! ### 6. closed witnesses and non-vacuity (kernel evaluation only) -/

def b (s : String) : Bytes := asciiBytes s

/-- a string `k1 = "7"` and a one-element list `k2 = [a]` -/
def db0 : DB :=
  { keys := [ { id := 1, key := b "k1", ty := TString, version := 1, etime := none, mtime := 1000, len := none },
              { id := 2, key := b "k2", ty := TList, version := 1, etime := none, mtime := 1000, len := some 1 } ]
    strs := [ { kid := 1, value := b "7" } ]
    lists := [ { kid := 2, pos := 0, elem := b "a" } ] }

def pc (r : List Bytes) : ParsedCmd := match parse r with | .ok c => c | _ => ⟨[], [], .unknown⟩

/-- `MULTI; INCR k2 (a list: fails); SET k1 v; EXEC` -/
def seqShort : List (Int × List Bytes) :=
  [(2000, [b "MULTI"]), (2000, [b "INCR", b "k2"]), (2001, [b "SET", b "k1", b "v"]), (2002, [b "EXEC"])]

/-- `MULTI; SET k1 v; INCR k2 (fails); EXEC`: the failing command is the last one -/
def seqLast : List (Int × List Bytes) :=
  [(2000, [b "MULTI"]), (2000, [b "SET", b "k1", b "v"]), (2001, [b "INCR", b "k2"]), (2002, [b "EXEC"])]

/-- `MULTI; INCR k1; LLEN k2; EXEC; GET k1`: a block without failure -/
def seqGood : List (Int × List Bytes) :=
  [(2000, [b "MULTI"]), (2000, [b "INCR", b "k1"]), (2001, [b "LLEN", b "k2"]), (2002, [b "EXEC"]),
   (2003, [b "GET", b "k1"])]

/-- refusals and DISCARD: `EXEC; DISCARD; MULTI; MULTI; GET; SET k1 v; DISCARD; GET k1` -/
def seqRefuse : List (Int × List Bytes) :=
  [(2000, [b "EXEC"]), (2000, [b "discard"]), (2000, [b "MULTI"]), (2000, [b "Multi"]), (2000, [b "GET"]),
   (2000, [b "SET", b "k1", b "v"]), (2000, [b "DISCARD"]), (2000, [b "GET", b "k1"])]

/-- the state before the EXEC of `seqShort` -/
def stShort : ConnState := { inMulti := true, cmds := [pc [b "INCR", b "k2"], pc [b "SET", b "k1", b "v"]] }

/-- D12 repaired: the EXEC announces two replies and delivers two — the error and the `+OK` of the SET, whose
effect is then dropped with the rest of the block — exactly as the reference; phase and tables agree. The step
is in the class `BlockFails`; `multi_step_refines` carries no hypothesis about that class. -/
theorem exec_failing_block_agrees :
    WFConn stShort ∧ classify [b "EXEC"] = some .exec ∧ BlockFails stShort db0 2002 [b "EXEC"] ∧
    handle stShort db0 2002 [b "EXEC"]
      = ({}, db0, [.arrayHdr 2, .err (b "key type mismatch (incr)"), .str (b "OK")]) ∧
    refStep (phaseOf stShort) db0 2002 .exec
      = (.idle, db0, [.arrayHdr 2, .err (b "key type mismatch (incr)"), .str (b "OK")]) ∧
    (phaseOf (handle stShort db0 2002 [b "EXEC"]).1, (handle stShort db0 2002 [b "EXEC"]).2.1,
        (handle stShort db0 2002 [b "EXEC"]).2.2) = refStep (phaseOf stShort) db0 2002 .exec := by
  -- requests are parsed through `witnessRows` (Proofs/WireEval), then the rest is evaluated
  unfold BlockFails stShort pc
  rw [classify]
  simp only [WireProofs.handle_witness, WireProofs.parse_witness]
  open WireProofs.TokenEq in decide +kernel

/-- an OUT-OF-DOMAIN block (`LRANGE k2 0 9223372036854775807`: SQLite's 64-bit `stop - start + 1` overflows, outside the arithmetic domain of the model): the wire model stops at
it without a claim (here: tables unchanged, only the header), the reference goes on and keeps the
SET. So (phase, tables) equality over sequences needs `InDomainRun`; the phase alone does not
(`phase_is_own_history`). This is a limit of the MODEL, not an observation about the server. -/
theorem ood_block_no_claim :
    let st : ConnState := { inMulti := true, cmds := [pc [b "LRANGE", b "k2", b "0", b "9223372036854775807"], pc [b "SET", b "k1", b "v"]] }
    OutOfDomain st db0 2000 [b "EXEC"] ∧ ¬ BlockFails st db0 2000 [b "EXEC"] ∧
    handle st db0 2000 [b "EXEC"] = ({}, db0, [.arrayHdr 2]) ∧
    (refStep (phaseOf st) db0 2000 .exec).2.1 ≠ db0 := by
  dsimp only
  unfold OutOfDomain BlockFails pc
  rw [classify]
  simp only [WireProofs.handle_witness, WireProofs.parse_witness]
  open WireProofs.TokenEq in decide +kernel

open scoped WireProofs.TokenEq

/-! Unfolding lemmas for the closed runs below. They are theorems, not `rfl`, on purpose: a `simp only` step with
a definition's own equation is checked by the kernel as a definitional unfolding, that is by evaluating the closed
term, dispatch table included. -/

theorem classify_eq (req : List Bytes) : classify req = match parse req with
    | .ok pc =>
      some (if named pc.name "multi" then .multi
            else if named pc.name "exec" then .exec
            else if named pc.name "discard" then .discard
            else .cmd pc)
    | .error e => some (.unparsable e)
    | _ => none := by
  unfold classify
  rfl

theorem classifyAll_cons (now : Int) (r : List Bytes) (rest : List (Int × List Bytes)) :
    classifyAll ((now, r) :: rest) = match classify r, classifyAll rest with
      | some a, some as => some ((now, a) :: as)
      | _, _ => none := by
  conv => lhs; unfold classifyAll
  cases classify r <;> cases classifyAll rest <;> rfl

theorem implRun_cons (st : ConnState) (db : DB) (now : Int) (req : List Bytes) (rest : List (Int × List Bytes)) :
    implRun st db ((now, req) :: rest) =
      ((implRun (handle st db now req).1 (handle st db now req).2.1 rest).1,
       (implRun (handle st db now req).1 (handle st db now req).2.1 rest).2.1,
       (handle st db now req).2.2 :: (implRun (handle st db now req).1 (handle st db now req).2.1 rest).2.2) := by
  rw [implRun]

/-- the whole sequence: it reaches `stShort`, the last reply is the complete one, the tables are
untouched, the run is NOT clean but in the domain -/
example : implRun {} db0 seqShort
      = ({}, db0, [[.str (b "OK")], [.str (b "QUEUED")], [.str (b "QUEUED")],
                   [.arrayHdr 2, .err (b "key type mismatch (incr)"), .str (b "OK")]]) ∧
    implRun {} db0 (seqShort.take 3) = (stShort, db0, [[.str (b "OK")], [.str (b "QUEUED")], [.str (b "QUEUED")]]) ∧
    (∃ as, classifyAll seqShort = some as ∧ ¬ CleanRun .idle db0 as ∧ InDomainRun .idle db0 as ∧
      runClasses .idle db0 as = [.clean, .clean, .clean, .fails]) := by
  unfold seqShort stShort pc
  simp only [List.take, implRun_cons, classifyAll_cons, classify_eq, WireProofs.handle_witness, WireProofs.parse_witness]
  decide +kernel

/-- `multi_refines_state` / `multi_refines_indomain` instantiated on it: phase, tables and tokens as the reference -/
example : ∃ as, classifyAll seqShort = some as ∧
    phaseOf (implRun {} db0 seqShort).1 = (refRun .idle db0 as).1 ∧
    (implRun {} db0 seqShort).2.1 = (refRun .idle db0 as).2.1 ∧
    RepliesRefine (runClasses .idle db0 as) (implRun {} db0 seqShort).2.2 (refRun .idle db0 as).2.2 := by
  have ⟨as, hc, hd⟩ : ∃ as, classifyAll seqShort = some as ∧ InDomainRun .idle db0 as := by
    unfold seqShort
    simp only [classifyAll_cons, classify_eq, WireProofs.parse_witness]
    decide +kernel
  exact ⟨as, hc, (multi_refines_state seqShort as {} db0 fresh_conn.1 hc hd).2⟩

/-- the failing command LAST: classified, rolled back, and the reply is
complete — equal to the reference's -/
example : (∃ as, classifyAll seqLast = some as ∧ runClasses .idle db0 as = [.clean, .clean, .clean, .fails] ∧
      (phaseOf (implRun {} db0 seqLast).1, (implRun {} db0 seqLast).2.1, (implRun {} db0 seqLast).2.2)
        = refRun .idle db0 as) ∧
    implRun {} db0 seqLast
      = ({}, db0, [[.str (b "OK")], [.str (b "QUEUED")], [.str (b "QUEUED")],
                   [.arrayHdr 2, .str (b "OK"), .err (b "key type mismatch (incr)")]]) := by
  unfold seqLast
  simp only [implRun_cons, classifyAll_cons, classify_eq, WireProofs.handle_witness, WireProofs.parse_witness]
  decide +kernel

/-- a clean run: the hypotheses of `multi_refines` hold, and its conclusion is about these replies -/
example : ∃ as, classifyAll seqGood = some as ∧ CleanRun .idle db0 as ∧
    (phaseOf (implRun {} db0 seqGood).1, (implRun {} db0 seqGood).2.1, (implRun {} db0 seqGood).2.2)
      = refRun .idle db0 as ∧
    (implRun {} db0 seqGood).2.2 = [[.str (b "OK")], [.str (b "QUEUED")], [.str (b "QUEUED")],
        [.arrayHdr 2, .int 8, .int 1], [.bulk (b "8")]] := by
  unfold seqGood
  simp only [implRun_cons, classifyAll_cons, classify_eq, WireProofs.handle_witness, WireProofs.parse_witness]
  decide +kernel

/-- refusals, an unparsable request inside MULTI, DISCARD: clean, hence as the reference; the
connection ends idle, `k1` still holds 7 -/
example : ∃ as, classifyAll seqRefuse = some as ∧ CleanRun .idle db0 as ∧
    implRun {} db0 seqRefuse = ({}, db0,
      [[.err (b "ERR EXEC without MULTI")], [.err (b "ERR EXEC without MULTI")], [.str (b "OK")],
       [.err (b "ERR MULTI calls can not be nested")], [.err (b "ERR wrong number of arguments ()")],
       [.str (b "QUEUED")], [.str (b "OK")], [.bulk (b "7")]]) := by
  unfold seqRefuse
  simp only [implRun_cons, classifyAll_cons, classify_eq, WireProofs.handle_witness, WireProofs.parse_witness]
  decide +kernel

/-- the single-step theorems have satisfiable hypotheses -/
example : classify [b "MULTI"] = some .multi ∧ classify [b "exec"] = some .exec ∧
    classify [b "Discard", b "x"] = some .discard ∧ classify [b "GET"] = some (.unparsable .invalidArgNum) ∧
    classify [b "SET", b "k1", b "v"] = some (.cmd (pc [b "SET", b "k1", b "v"])) ∧
    classify [b "ZINTER", b "-1", b "k1"] = some (.unparsable .invalidArgNum) ∧     -- D11 repaired
    classify [[0xC3, 0xA9], b "k1"] = none ∧ classify [] = none := by
  unfold pc
  simp only [classify_eq, WireProofs.parse_witness]
  decide +kernel

example : handle { inMulti := true, cmds := [pc [b "INCR", b "k1"]] } db0 2000 [b "MULTI"]
    = ({ inMulti := true, cmds := [pc [b "INCR", b "k1"]] }, db0, [errTok .nestedMulti]) :=
  nested_multi_refused _ db0 2000 _ rfl (by rw [classify, WireProofs.parse_witness]; decide +kernel)

example : handle {} db0 2000 [b "EXEC"] = ({}, db0, [errTok .notInMulti]) :=
  exec_without_multi_refused _ db0 2000 _ rfl (by rw [classify, WireProofs.parse_witness]; decide +kernel)

example : handle { inMulti := true, cmds := [pc [b "INCR", b "k1"]] } db0 2000 [b "DISCARD"] = ({}, db0, [okTok]) :=
  discard_drops _ db0 2000 _ rfl (by rw [classify, WireProofs.parse_witness]; decide +kernel)

example : handle { inMulti := true, cmds := [pc [b "INCR", b "k1"]] } db0 2000 [b "GET"]
    = ({ inMulti := true, cmds := [pc [b "INCR", b "k1"]] }, db0, [.err (b "ERR wrong number of arguments ()")]) :=
  (unparsable_not_queued _ db0 2000 _ .invalidArgNum
    (by rw [classify, WireProofs.parse_witness]; decide +kernel)).trans
    (by unfold pc; rw [WireProofs.parse_witness]; decide +kernel)

/-- two connections: B's MULTI/SET/EXEC interleaved with A's MULTI/INCR/…/EXEC; each block holds
its own commands only, B's state is untouched by A's EXEC -/
def inter : List (Bool × Int × List Bytes) :=
  [(false, 2000, [b "MULTI"]), (true, 2000, [b "MULTI"]), (false, 2001, [b "INCR", b "k1"]),
   (true, 2001, [b "SET", b "k1", b "v"]), (false, 2002, [b "LLEN", b "k2"])]

example : (run2 ({}, {}) db0 inter).1
      = ({ inMulti := true, cmds := [pc [b "INCR", b "k1"], pc [b "LLEN", b "k2"]] },
         { inMulti := true, cmds := [pc [b "SET", b "k1", b "v"]] }) ∧
    (ownReqs false inter).foldl phaseStepRaw .idle = .queuing [pc [b "INCR", b "k1"], pc [b "LLEN", b "k2"]] ∧
    handle2 (run2 ({}, {}) db0 inter).1 (run2 ({}, {}) db0 inter).2.1 2003 false [b "EXEC"]
      = (({}, { inMulti := true, cmds := [pc [b "SET", b "k1", b "v"]] }),
          blockDb 2003 [pc [b "INCR", b "k1"], pc [b "LLEN", b "k2"]] db0, [.arrayHdr 2, .int 8, .int 1]) := by
  decide +kernel

/-- `multi_block_is_sched_block` is not vacuous: `SET k1 v; INCR k2` is the block job
`[strSetExpires k1 v 0, strIncr k2 1]`, which fails and is rolled back -/
example : OpLikeAlong 2000 [pc [b "SET", b "k1", b "v"], pc [b "INCR", b "k2"]]
      [.strSetExpires (b "k1") (b "v") 0, .strIncr (b "k2") 1] db0 ∧
    (Sched.Job.seq (.block true [.strSetExpires (b "k1") (b "v") 0, .strIncr (b "k2") 1]) 2000 db0).db = db0 := by
  decide +kernel

end Redka.Props.C15
