/-
  C06 — one keyspace for all types (refinement of the type-agnostic key operations).

  "All data types share one namespace in which a key has exactly one type at a time: a
  type-specific write to a key of another type is refused with a type error, a type-specific read
  of it sees nothing, and neither changes anything. Deleting a key (individually or by flushing)
  removes all of its elements so that a later key of any type, under any name, starts empty;
  renaming moves the whole value and its expiry to the new name atomically, replacing a same-type
  destination and refusing a different-type one. Existence counts, type lookup, pattern listing,
  type-filtered listing, random key and key count always agree with the set of live keys."

  What is proved here. `Model.dbRun` is the statement-level model of the `DB`-level methods of
  `internal/rkey`; `Spec.step` is the abstract keyspace; `Spec.abs now db` is the keyspace a table
  state stands for at clock value `now`. `key_refines_partial`: one call of any of the thirteen
  operations

      keyCount keyDelete keyDeleteAll keyExists keyExpire keyExpireAt keyGet keyKeys keyLen
      keyPersist keyRandom keyRename keyRenameNX

  on any table state satisfying the C11 invariant, with any arguments and any clock value, returns
  what the abstract keyspace returns and leaves tables that stand for the keyspace's new state —
  outside three narrow, decidable classes of inputs on which the real code (and so the model)
  is known to deviate:

    * `LenStale`  (D06): `Len` while some stored row has expired (it counts stored rows);
    * `EmptyName` (D18): `Rename`/`RenameNX` of a visible key whose name is the empty byte string;
    * `BangClass` (D16): `Keys` with a pattern in which a bracket class starts with `!`;

  and, for `Keys`, inside the domain in which C18 gives patterns a meaning (`Judged`: 7-bit
  well-formed pattern, 7-bit names of visible keys — exactly the guard of `Spec.check`).
  Every class has a kernel-checked witness (`len_counts_expired_deviates`,
  `empty_name_rename_deviates`, `bang_class_keys_deviates`), so the full-strength statement is
  false (`full_strength_is_false`).

  NOT needed, although the catalogue lists it for these operations: D05 (`Stale`, the destination
  name of a rename is held by an expired row that has not been cleaned up). `UPDATE OR REPLACE`
  deletes that row: `rename_onto_stale_refines` is the theorem, `rename_onto_stale_example` a
  concrete instance.

  `keyDeleteExpired` has no result in the specification (the count is a storage-level number);
  its rule is that the abstract keyspace does not change: `deleteExpired_invisible`,
  `deleteExpired_check`. `keyScan` is C16's.

  No hypothesis on `foreign_keys`: the abstraction reads child rows only through stored key
  rows, so orphaned children are invisible to it. `foreign_keys` matters for what a LATER key
  inherits (ids are `max + 1`): `delete_then_fresh_key_starts_empty` and `flush_leaves_nothing`
  need `fk = true`, and `fk_off_deleted_elements_are_inherited` shows why (D14).

  Results are compared with `=`. Where the model returns key rows (`keyGet`, `keyRandom`,
  `keyKeys`) they are first projected by `Model.projV` — `Spec.projVal` by structural recursion,
  the original being a `partial def` and opaque to the kernel — and for `keyKeys` sorted by name
  (`Spec.sortKeyVals`; the API promises no order), exactly as `Spec.check` does: `obs`.

  `keyspace_seq_refines` lifts the single step to any interleaving of key operations, cleaner runs
  and the string operations of C01 at non-decreasing clock values.

  Only property theorems, witnesses and examples here; lemmas are in `Proofs/KeyRef.lean`
  and `Proofs/KeyCross.lean`.
-/
import RedkaModel.Proofs.KeyRef
import RedkaModel.Proofs.KeyCross
import RedkaModel.Props.C01

namespace Redka.Props.C06

open Redka Redka.Model Redka.Spec

/-! ### the family and the classifiers of known deviations -/

/-- the operations of `DB.Key()` the refinement theorem speaks about -/
def isKeyOp : Op → Bool
  | .keyCount _ | .keyDelete _ | .keyDeleteAll | .keyExists _ | .keyExpire .. | .keyExpireAt ..
  | .keyGet _ | .keyKeys _ | .keyLen | .keyPersist _ | .keyRandom _ | .keyRename .. | .keyRenameNX .. => true
  | _ => false

def IsFamOp (op : Op) : Prop := isKeyOp op = true

instance (op : Op) : Decidable (IsFamOp op) := inferInstanceAs (Decidable (_ = true))

/-- every operation of the family is covered; of `DB.Key()` only `keyDeleteExpired` (separate
theorem, the specification gives it no result) and `keyScan` (C16) are outside the family -/
def Covered : Op → Bool := isKeyOp

theorem covered_all : ∀ op, IsFamOp op → Covered op = true := fun _ h => h

/-- D06, exactly as in `Spec.known` -/
def LenStale (op : Op) (now : Int) (db : DB) : Bool :=
  match op with
  | .keyLen => db.keys.any (fun r => !r.live now)
  | _ => false

/-- D18, exactly as in `Spec.known` -/
def EmptyName (op : Op) (now : Int) (db : DB) : Bool :=
  match op with
  | .keyRename k _ | .keyRenameNX k _ => k.isEmpty && (db.liveKey k now).isSome
  | _ => false

/-- D16, exactly as in `Spec.known` -/
def BangClass (op : Op) : Bool :=
  match op with
  | .keyKeys p => !noBangClass p
  | _ => false

/-- the domain in which `Spec.check` judges a pattern listing (C18): well-formed 7-bit pattern,
7-bit names of the visible keys -/
def Judged (op : Op) (now : Int) (db : DB) : Bool :=
  match op with
  | .keyKeys p => wellFormed p && decide (Ascii p) && (Spec.abs now db).all (fun e => decide (Ascii e.1))
  | _ => true

/-- The classifiers are the catalogue of known findings that the driver consults, for every
operation of the family. (`C01.Stale` is the catalogue's D05; the refinement theorem below does
not need it.) -/
theorem classifiers_are_the_catalogue : ∀ (inTx : Bool) (op : Op) (now : Int) (db : DB), IsFamOp op →
    Spec.known inTx op now db
      = (if C01.Stale op now db then ["D05"] else []) ++
        ((if LenStale op now db then ["D06"] else []) ++
         (if EmptyName op now db then ["D18"] else []) ++
         (if BangClass op then ["D16"] else [])) := by
  intro inTx op now db hop
  unfold IsFamOp isKeyOp at hop
  split at hop <;> first | (cases hop; done) | rfl |
    simp [Spec.known, C01.Stale, LenStale, EmptyName, BangClass, Spec.writeKeys]

/-- outside `Judged` the driver's judge does not decide a pattern listing -/
theorem unjudged_is_undecided : ∀ (inTx : Bool) (op : Op) (now : Int) (pre post : DB) (res : Out),
    IsFamOp op → Judged op now pre = false → Spec.check inTx op now pre post res = none := by
  intro inTx op now pre post res hop hj
  unfold Judged at hj
  split at hj
  · unfold Spec.check
    simp [hj]
  · cases hj

/-- How results are compared: key rows are projected onto what the keyspace tracks (name, type,
expiry), and a listing is sorted by name — as `Spec.check` does. The identity on the ten
operations whose results carry no key row. -/
def obs : Op → Out → Out
  | .keyGet _, o | .keyRandom _, o => o.map projV
  | .keyKeys _, o => o.map (fun v => sortKeyVals (projV v))
  | _, o => o

/-! ### the refinement theorem -/

/-- The same under `DB.WF`, the consequence of the invariant that the proof uses (unique names and
ids, type tags in range, a value row for every string key) and that every key operation preserves
(`key_preserves_wf`). -/
theorem key_refines_wf : ∀ (op : Op) (now : Int) (db : DB),
    IsFamOp op → db.WF → LenStale op now db = false → EmptyName op now db = false →
    BangClass op = false → Judged op now db = true →
    let r := Model.dbRun op now db
    obs op r.out = (Spec.step op now (Spec.abs now db)).out ∧
      Spec.abs now r.db = Spec.purge now (Spec.step op now (Spec.abs now db)).st := by
  intro op now db hop hw hlen hemp hbang hj
  unfold IsFamOp isKeyOp at hop
  split at hop
  · exact keyCount_refines hw now _
  · exact keyDelete_refines hw now _
  · exact keyDeleteAll_refines db now
  · exact keyExists_refines hw now _
  · exact keyExpireAt_refines hw now _ (now + _)
  · exact keyExpireAt_refines hw now _ _
  · exact keyGet_refines hw now _
  · next p =>
    have hb : noBangClass p = true := by simpa [BangClass] using hbang
    exact keyKeys_refines hw hj hb
  · exact keyLen_refines hw hlen
  · exact keyPersist_refines hw now _
  · exact keyRandom_refines hw now _
  · next k nk =>
    show Refines now (update (fun d => Model.keyRename d k nk now) db) _
    rw [update_keyRename]
    exact keyRename_refines hw hemp nk
  · next k nk =>
    show Refines now (update (fun d => Model.keyRenameNX d k nk now) db) _
    rw [update_keyRenameNX]
    exact keyRenameNX_refines hw hemp nk
  · cases hop

/-- **C06, partial refinement.** One call of any of the thirteen key operations, on any table
state satisfying the structural invariant, for any arguments and any clock value, outside the
classes `LenStale` (D06), `EmptyName` (D18), `BangClass` (D16) and inside the domain of patterns
(`Judged`): the model returns exactly what the abstract keyspace returns, and the tables
afterwards stand for exactly the keyspace's new state (minus the keys whose newly assigned expiry
is already in the past).

No argument-range hypothesis: the integer arguments (`ttl`, `atMs`) only enter an addition and a
comparison, which model and specification do on unbounded integers alike.

The full-strength statement is FALSE of the code: `full_strength_is_false`. -/
theorem key_refines_partial : ∀ (op : Op) (now : Int) (db : DB),
    IsFamOp op → db.Inv → LenStale op now db = false → EmptyName op now db = false →
    BangClass op = false → Judged op now db = true →
    let r := Model.dbRun op now db
    obs op r.out = (Spec.step op now (Spec.abs now db)).out ∧
      Spec.abs now r.db = Spec.purge now (Spec.step op now (Spec.abs now db)).st :=
  fun op now db hop hinv => key_refines_wf op now db hop (DB.Inv.wf hinv)

/-- On the ten operations whose results carry no key row the comparison is plain equality. -/
theorem obs_is_id : ∀ (op : Op) (o : Out),
    (match op with | .keyGet _ | .keyRandom _ | .keyKeys _ => False | _ => True) → obs op o = o := by
  intro op o h
  unfold obs
  split <;> first | rfl | cases h

/-- **D05 is not a deviation of rename.** The destination name is held by a row that has expired
and has not been cleaned up (the catalogue's `Stale`): `UPDATE OR REPLACE` deletes that row,
whatever its type, and the rename refines the specification all the same. -/
theorem rename_onto_stale_refines : ∀ (k nk : Bytes) (now : Int) (db : DB), db.Inv →
    Spec.staleKey db now nk = true → EmptyName (.keyRename k nk) now db = false →
    let r := Model.dbRun (.keyRename k nk) now db
    r.out = (Spec.step (.keyRename k nk) now (Spec.abs now db)).out ∧
      Spec.abs now r.db = Spec.purge now (Spec.step (.keyRename k nk) now (Spec.abs now db)).st :=
  fun k nk now db hinv _ hemp => key_refines_partial (.keyRename k nk) now db rfl hinv rfl hemp rfl rfl

/-! ### the cleaner -/

/-- **`DeleteExpired` is invisible**: it succeeds with a count, and the abstract keyspace at the
time of the call — and at every later time — is what it was. (Unique ids suffice.) -/
theorem deleteExpired_invisible : ∀ (n now : Int) (db : DB), db.Inv →
    let r := Model.dbRun (.keyDeleteExpired n) now db
    (∃ c, r.out = .ok (.int c)) ∧ ∀ now', now ≤ now' → Spec.abs now' r.db = Spec.abs now' db := by
  intro n now db hinv
  refine ⟨⟨_, Clean.keyDeleteExpired_out db n now⟩, ?_⟩
  intro now' hle
  exact Clean.abs_keyDeleteExpired (DB.Inv.wf hinv).ids n hle

/-- … which is what the driver's judge asks of it. -/
theorem deleteExpired_check : ∀ (inTx : Bool) (n now : Int) (db : DB), db.Inv →
    let r := Model.dbRun (.keyDeleteExpired n) now db
    Spec.check inTx (.keyDeleteExpired n) now db r.db r.out = some true := by
  intro inTx n now db hinv
  obtain ⟨⟨c, hc⟩, ha⟩ := deleteExpired_invisible n now db hinv
  unfold Spec.check
  simp only [hc, ha now (Int.le_refl _), Spec.isErr, decide_true, Bool.not_false, Bool.and_self]

/-- `DeleteAll` inside a transaction (documented: "should not be run inside a database
transaction"): the rows are deleted, then `VACUUM` fails; `key_refines_partial` is about the
`DB`-level call, which runs it on the bare handle. -/
theorem deleteAll_in_tx_fails : ∀ (now : Int) (db : DB),
    (Model.tx true .keyDeleteAll now db).out = .error .sqlOther ∧
    (Model.tx false .keyDeleteAll now db).out = .ok .nil :=
  fun _ _ => ⟨rfl, rfl⟩

/-! ### sequences of operations -/

/-- all fifteen operations of `DB.Key()` -/
def isKeyFamOp : Op → Bool
  | .keyDeleteExpired _ | .keyScan .. => true
  | op => isKeyOp op

/-- Every operation of `DB.Key()` keeps `DB.WF` (for every state and argument, deviation classes
included, `foreign_keys` on or off). -/
theorem key_preserves_wf : ∀ (op : Op) (now : Int) (db : DB), isKeyFamOp op = true → db.WF →
    (Model.dbRun op now db).db.WF := by
  intro op now db hop hw
  unfold isKeyFamOp at hop
  split at hop
  · show (Model.keyDeleteExpired db _ now).db.WF
    rw [Clean.keyDeleteExpired_db]; exact dkw_wf hw _
  · exact hw
  · unfold isKeyOp at hop
    split at hop
    · exact hw
    · exact dkw_wf hw _
    · exact dkw_wf hw _
    · exact hw
    · exact keyExpireAt_wf hw _ (now + _) now
    · exact keyExpireAt_wf hw _ _ now
    · show (Model.keyGet db _ now).db.WF
      rw [Redka.Proofs.NoTrace.keyGet_db]; exact hw
    · exact hw
    · exact hw
    · exact keyPersist_wf hw _ now
    · show (Model.keyRandom db _ now).db.WF
      rw [Redka.Proofs.NoTrace.keyRandom_db]; exact hw
    · exact update_pres hw (keyRename_wf hw _ _ now)
    · exact update_pres hw (keyRenameNX_wf hw _ _ now)
    · cases hop

def isCleaner : Op → Bool
  | .keyDeleteExpired _ => true
  | _ => false

/-- what a run may contain: the string operations of C01, the key operations, cleaner runs -/
def isSeqOp (op : Op) : Bool := C01.isStrOp op || isKeyOp op || isCleaner op

/-- the call does not fall into a known deviation class of its family -/
def StepClean (op : Op) (now : Int) (db : DB) : Bool :=
  if C01.isStrOp op then C01.ArgsInRange op && !C01.Stale op now db && !C01.Overflow op now db
  else !LenStale op now db && !EmptyName op now db && !BangClass op && Judged op now db

/-- the model's result as compared in a run: `obs`; of a cleaner run only success -/
def viewM (op : Op) (o : Out) : Out :=
  match op with
  | .keyDeleteExpired _ => (match o with | .ok _ => .ok .nil | .error e => .error e)
  | _ => obs op o

/-- the specification gives a cleaner run no result -/
def viewS (op : Op) (o : Out) : Out :=
  match op with
  | .keyDeleteExpired _ => .ok .nil
  | _ => o

/-- an operation of a run that is neither is a cleaner run -/
theorem cleaner_of_seq {op : Op} (hop : isSeqOp op = true) (hs : C01.isStrOp op = false)
    (hk : isKeyOp op = false) : ∃ n, op = .keyDeleteExpired n := by
  simp only [isSeqOp, hs, hk, Bool.false_or] at hop
  unfold isCleaner at hop
  split at hop
  · exact ⟨_, rfl⟩
  · cases hop

/-- only a cleaner run is compared otherwise than by `obs` -/
theorem views_of_not_cleaner {op : Op} (hc : isCleaner op = false) :
    viewM op = obs op ∧ viewS op = id := by
  unfold viewM viewS
  constructor <;> funext o <;> split <;> first | rfl | cases hc

theorem seq_step : ∀ (op : Op) (now : Int) (db : DB), isSeqOp op = true → db.WF →
    StepClean op now db = true →
    viewM op (Model.dbRun op now db).out = viewS op (Spec.step op now (Spec.abs now db)).out ∧
      Spec.abs now (Model.dbRun op now db).db
        = Spec.purge now (Spec.step op now (Spec.abs now db)).st := by
  intro op now db hop hw hcl
  cases hs : C01.isStrOp op
  · cases hk : isKeyOp op
    · obtain ⟨n, rfl⟩ := cleaner_of_seq hop hs hk
      refine ⟨?_, ?_⟩
      · show viewM _ (Model.keyDeleteExpired db n now).out = _
        rw [Clean.keyDeleteExpired_out]; rfl
      · show Spec.abs now (Model.keyDeleteExpired db n now).db = Spec.purge now (Spec.abs now db)
        rw [Clean.abs_keyDeleteExpired hw.ids n (Int.le_refl _), purge_abs hw.names]
    · simp only [StepClean, hs, Bool.false_eq_true, if_false, Bool.and_eq_true,
        Bool.not_eq_true'] at hcl
      have hv := views_of_not_cleaner (op := op) (by unfold isCleaner; split <;> first | rfl | cases hk)
      rw [hv.1, hv.2]
      exact key_refines_wf op now db hk hw hcl.1.1.1 hcl.1.1.2 hcl.1.2 hcl.2
  · simp only [StepClean, hs, if_true, Bool.and_eq_true, Bool.not_eq_true'] at hcl
    have hv := views_of_not_cleaner (op := op) (by unfold isCleaner; split <;> first | rfl | cases hs)
    have ho : obs op = id := funext fun o => obs_is_id op o (by split <;> first | trivial | cases hs)
    rw [hv.1, hv.2, ho]
    exact C01.str_refines_wf op now db hs hw hcl.1.1 hcl.1.2 hcl.2

theorem seq_preserves_wf : ∀ (op : Op) (now : Int) (db : DB), isSeqOp op = true → db.WF →
    (Model.dbRun op now db).db.WF := by
  intro op now db hop hw
  cases hs : C01.isStrOp op
  · refine key_preserves_wf op now db ?_ hw
    cases hk : isKeyOp op
    · obtain ⟨n, rfl⟩ := cleaner_of_seq hop hs hk
      rfl
    · unfold isKeyFamOp
      split <;> first | rfl | exact hk
  · exact C01.str_preserves_wf op now db hs hw

/-- a run of timed calls on the tables: the results as compared, and the tables at the end -/
def runModel : List (Op × Int) → DB → List Out × DB
  | [], db => ([], db)
  | (op, now) :: rest, db =>
    let r := Model.dbRun op now db
    let t := runModel rest r.db
    (viewM op r.out :: t.1, t.2)

/-- the same run on the abstract keyspace; a key disappears when the clock reaches its expiry -/
def runSpec : List (Op × Int) → State → List Out × State
  | [], s => ([], s)
  | (op, now) :: rest, s =>
    let r := Spec.step op now (Spec.purge now s)
    let t := runSpec rest (Spec.purge now r.st)
    (viewS op r.out :: t.1, t.2)

/-- no call of the run falls into a known deviation class, judged on the tables it meets -/
def CleanRun : List (Op × Int) → DB → Prop
  | [], _ => True
  | (op, now) :: rest, db =>
    isSeqOp op = true ∧ StepClean op now db = true ∧ CleanRun rest (Model.dbRun op now db).db

/-- **C06 for sequences.** Any interleaving of key operations, cleaner runs and string operations
at non-decreasing clock values, started on tables satisfying the invariant and never meeting a
known deviation class: every call returns what the abstract keyspace returns, and at the end the
tables stand for exactly that keyspace. -/
theorem keyspace_seq_refines : ∀ (tr : List (Op × Int)) (t : Int) (db : DB), db.WF →
    C01.ClockOk t tr → CleanRun tr db →
    (runModel tr db).1 = (runSpec tr (Spec.abs t db)).1 ∧
      Spec.abs (C01.lastClock t tr) (runModel tr db).2 = (runSpec tr (Spec.abs t db)).2
  | [], _, _, _, _, _ => ⟨rfl, rfl⟩
  | (op, now) :: rest, t, db, hw, hc, hcl => by
    obtain ⟨hop, hst, hrest⟩ := hcl
    obtain ⟨href1, href2⟩ := seq_step op now db hop hw hst
    have ih := keyspace_seq_refines rest now (Model.dbRun op now db).db
      (seq_preserves_wf op now db hop hw) hc.2 hrest
    simp only [runModel, runSpec, C01.lastClock]
    rw [← abs_mono hw.names hc.1, ← href1, ← href2]
    exact ⟨by rw [ih.1], ih.2⟩

theorem keyspace_seq_refines_inv : ∀ (tr : List (Op × Int)) (t : Int) (db : DB), db.Inv →
    C01.ClockOk t tr → CleanRun tr db →
    (runModel tr db).1 = (runSpec tr (Spec.abs t db)).1 ∧
      Spec.abs (C01.lastClock t tr) (runModel tr db).2 = (runSpec tr (Spec.abs t db)).2 :=
  fun tr t db hinv => keyspace_seq_refines tr t db (DB.Inv.wf hinv)

/-! ### the property, clause by clause -/

theorem map_eq_error {f : Val → Val} {o : Out} {e : Err} (h : o.map f = .error e) : o = .error e := by
  cases o with
  | error e' => simpa [Except.map] using h
  | ok v => simp [Except.map] at h

/-- "Existence counts … agree with the set of live keys": `Exists` says whether the name is a
visible key. -/
theorem exists_iff_visible : ∀ (k : Bytes) (now : Int) (db : DB), db.Inv →
    (Model.dbRun (.keyExists k) now db).out = .ok (.bool (Spec.get (Spec.abs now db) k).isSome) :=
  fun k now _ h => (keyExists_refines (DB.Inv.wf h) now k).1

/-- `Count` is the number of visible keys among the given names (a name given twice counts once:
it is a count of keys, not of arguments). -/
theorem count_counts_visible : ∀ (ks : List Bytes) (now : Int) (db : DB), db.Inv →
    (Model.dbRun (.keyCount ks) now db).out
      = .ok (.int ((Spec.abs now db).filter (fun p => ks.contains p.1)).length) :=
  fun ks now _ h => (keyCount_refines (DB.Inv.wf h) now ks).1

/-- "… and key count": once no expired row is stored, `Len` is the number of visible keys. -/
theorem len_counts_visible : ∀ (now : Int) (db : DB), db.Inv → LenStale .keyLen now db = false →
    (Model.dbRun .keyLen now db).out = .ok (.int (Spec.abs now db).length) :=
  fun _ _ h hl => (keyLen_refines (DB.Inv.wf h) hl).1

/-- "type lookup": `Get` on a visible key reports its name, its type and its expiry. -/
theorem type_lookup : ∀ (k : Bytes) (e : Entry) (now : Int) (db : DB), db.Inv →
    Spec.get (Spec.abs now db) k = some e →
    (Model.dbRun (.keyGet k) now db).out.map projV
      = .ok (.key { id := 0, key := k, ty := e.val.ty, version := 0, etime := e.etime, mtime := 0,
                    len := none }) := by
  intro k e now db h hg
  have := (keyGet_refines (DB.Inv.wf h) now k).1
  show Except.map projV (Model.keyGet db k now).out = _
  rw [this]; simp [Spec.keyGet, hg, Spec.ok, Spec.keyVal]

/-- … and on anything else (never stored, deleted, expired) reports `ErrNotFound`. -/
theorem type_lookup_missing : ∀ (k : Bytes) (now : Int) (db : DB), db.Inv →
    Spec.get (Spec.abs now db) k = none →
    (Model.dbRun (.keyGet k) now db).out = .error .notFound := by
  intro k now db h hg
  have := (keyGet_refines (DB.Inv.wf h) now k).1
  apply map_eq_error (f := projV)
  show Except.map projV (Model.keyGet db k now).out = _
  rw [this]; simp [Spec.keyGet, hg, Spec.er]

/-- "random key": whatever key `Random` returns is a visible key, reported with its type and
expiry. -/
theorem random_is_visible : ∀ (k : Bytes) (v : Val) (now : Int) (db : DB), db.Inv →
    (Model.dbRun (.keyRandom (some k)) now db).out = .ok v →
    ∃ e, Spec.get (Spec.abs now db) k = some e ∧ projV v = Spec.keyVal k e := by
  intro k v now db h hout
  have := (keyRandom_refines (DB.Inv.wf h) now (some k)).1
  rw [show (Model.keyRandom db (some k) now).out = .ok v from hout] at this
  cases hg : Spec.get (Spec.abs now db) k with
  | none => simp [hg, Spec.skip, Except.map] at this
  | some e =>
    refine ⟨e, rfl, ?_⟩
    simpa [hg, Spec.ok, Except.map] using this

/-- … and `Random` reports "no key" only when no key is visible (the judge of the correspondence
demands exactly this of the real code: `Spec.check` on `.keyRandom none`). -/
theorem random_notfound_only_when_empty : ∀ (o : Option Bytes) (now : Int) (db : DB), db.Inv →
    (Model.dbRun (.keyRandom o) now db).out = .error .notFound → Spec.abs now db = [] := by
  intro o now db h hout
  have hw := DB.Inv.wf h
  have hlen := length_abs hw now
  unfold liveRows at hlen
  change (Model.keyRandom db o now).out = _ at hout
  unfold Model.keyRandom at hout
  cases o with
  | none =>
    cases hl : db.keys.filter (fun r => r.live now) with
    | nil => rw [hl] at hlen; exact List.eq_nil_of_length_eq_zero (by simpa using hlen)
    | cons a t => simp [hl, Res.err] at hout
  | some k =>
    dsimp only at hout
    split at hout <;> simp [Res.err, Res.ok] at hout

/-- the judge's rule for a `Random` that reported "no key" -/
theorem random_check_rule : ∀ (inTx : Bool) (now : Int) (pre post : DB) (res : Out),
    Spec.check inTx (.keyRandom none) now pre post res
      = some (Spec.outEq res (.error .notFound) && (Spec.abs now pre).isEmpty
          && decide (Spec.abs now post = Spec.abs now pre)) := by
  intros; rfl

/-- "Deleting a key …": afterwards exactly the named keys are gone, every other key is as it
was. `foreign_keys` on or off. -/
theorem delete_removes : ∀ (ks : List Bytes) (now : Int) (db : DB), db.Inv → ∀ k,
    Spec.get (Spec.abs now (Model.dbRun (.keyDelete ks) now db).db) k
      = if ks.contains k then none else Spec.get (Spec.abs now db) k := by
  intro ks now db h k
  have hw := DB.Inv.wf h
  have h2 := (keyDelete_refines hw now ks).2
  show Spec.get (Spec.abs now (Model.keyDelete db ks now).db) k = _
  rw [h2]
  simp only [Spec.keyDelete, Spec.ok]
  rw [purge_filter (purge_abs hw.names now)]
  unfold Spec.get
  rw [aget_filter (sorted_abs hw.names now)]
  by_cases hc : k ∈ ks <;> cases aget (Spec.abs now db) k <;> simp [hc]

/-- "… removes all of its elements so that a later key of any type, under any name, starts
empty" (individual delete). With `foreign_keys` on, the tables after a delete satisfy the C11
audit again, so no child row is left without a key row, and in particular no child row carries
the id that the next key created will get. -/
theorem delete_then_fresh_key_starts_empty : ∀ (ks : List Bytes) (now : Int) (db : DB), db.Inv →
    db.fk = true →
    let db' := (Model.dbRun (.keyDelete ks) now db).db
    db'.Inv ∧
    (∀ c ∈ db'.strs, c.kid ≠ db'.nextKeyId) ∧ (∀ c ∈ db'.lists, c.kid ≠ db'.nextKeyId) ∧
    (∀ c ∈ db'.sets, c.kid ≠ db'.nextKeyId) ∧ (∀ c ∈ db'.hashes, c.kid ≠ db'.nextKeyId) ∧
    (∀ c ∈ db'.zsets, c.kid ≠ db'.nextKeyId) := by
  intro ks now db h hfk
  have hinv : (Model.dbRun (.keyDelete ks) now db).db.Inv := Clean.inv_dkw h hfk _
  exact ⟨hinv, no_children_of_next_id hinv⟩

/-- "… (or by flushing)": with `foreign_keys` on, `DeleteAll` at `DB` level leaves six empty
tables. -/
theorem flush_leaves_nothing : ∀ (now : Int) (db : DB), db.Inv → db.fk = true →
    (Model.dbRun .keyDeleteAll now db).db = { fk := true } := by
  intro now db h hfk
  have hinv : (db.deleteKeysWhere (fun _ => true)).1.Inv := Clean.inv_dkw h hfk _
  have hk : (db.deleteKeysWhere (fun _ => true)).1.keys = [] := by
    rw [Clean.deleteKeysWhere_keys]; simp
  obtain ⟨h1, h2, h3, h4, h5⟩ := empty_of_no_keys hinv hk
  have h6 : (db.deleteKeysWhere (fun _ => true)).1.fk = true := by
    rw [Clean.deleteKeysWhere_fk]; exact hfk
  show (db.deleteKeysWhere (fun _ => true)).1 = _
  cases hd : (db.deleteKeysWhere (fun _ => true)).1 with
  | mk a b c d e f g =>
    rw [hd] at hk h1 h2 h3 h4 h5 h6
    simp only at hk h1 h2 h3 h4 h5 h6
    rw [hk, h1, h2, h3, h4, h5, h6]

/-- … and whatever `foreign_keys` is, the keyspace is empty afterwards. -/
theorem flush_empties_keyspace : ∀ (now : Int) (db : DB),
    Spec.abs now (Model.dbRun .keyDeleteAll now db).db = [] :=
  fun now db => (keyDeleteAll_refines db now).2

/-- "renaming moves the whole value and its expiry to the new name atomically, replacing a
same-type destination": the entry that was visible under `k` — value and expiry — is afterwards
visible under `nk`, nothing is visible under `k`, every other key is as it was. The destination
may be free, a visible key of the same type, or an expired leftover of any type. -/
theorem rename_moves : ∀ (k nk : Bytes) (e : Entry) (now : Int) (db : DB), db.Inv →
    k ≠ [] → k ≠ nk → Spec.get (Spec.abs now db) k = some e →
    (∀ e', Spec.get (Spec.abs now db) nk = some e' → e'.val.ty = e.val.ty) →
    let r := Model.dbRun (.keyRename k nk) now db
    r.out = .ok .nil ∧
    ∀ k', Spec.get (Spec.abs now r.db) k'
      = if nk == k' then some e else if k == k' then none else Spec.get (Spec.abs now db) k' := by
  intro k nk e now db h hk hne hg hty
  have hw := DB.Inv.wf h
  have hemp : EmptyName (.keyRename k nk) now db = false := by
    cases k <;> first | rfl | exact absurd rfl hk
  have href := key_refines_partial (.keyRename k nk) now db rfl h rfl hemp rfl rfl
  have hne' : (k == nk) = false := by simpa using hne
  have hstep : Spec.step (.keyRename k nk) now (Spec.abs now db)
      = Spec.ok .nil (Spec.put (Spec.del (Spec.abs now db) k) nk e) := by
    simp only [Spec.step, Spec.keyRename, hg, hne', Bool.false_eq_true, if_false]
    cases hg2 : Spec.get (Spec.abs now db) nk with
    | none => rfl
    | some e' => simp [hty e' hg2]
  rw [hstep] at href
  refine ⟨href.1, ?_⟩
  intro k'
  rw [href.2]
  simp only [Spec.ok]
  rw [purge_moved hw now k nk (get_abs_live hw hg).1, get_put_del]

/-- "… and refusing a different-type one": `ErrKeyType`, and no table row changes. -/
theorem rename_refuses_other_type : ∀ (k nk : Bytes) (e e' : Entry) (now : Int) (db : DB), db.Inv →
    k ≠ [] → k ≠ nk → Spec.get (Spec.abs now db) k = some e →
    Spec.get (Spec.abs now db) nk = some e' → e'.val.ty ≠ e.val.ty →
    let r := Model.dbRun (.keyRename k nk) now db
    r.out = .error .keyType ∧ r.db = db := by
  intro k nk e e' now db h hk hne hg hg2 hty
  have hemp : EmptyName (.keyRename k nk) now db = false := by
    cases k <;> first | rfl | exact absurd rfl hk
  have href := key_refines_partial (.keyRename k nk) now db rfl h rfl hemp rfl rfl
  have hne' : (k == nk) = false := by simpa using hne
  have hout : (Model.dbRun (.keyRename k nk) now db).out = .error .keyType :=
    href.1.trans (by simp [Spec.step, Spec.keyRename, hg, hg2, hne', hty, Spec.er])
  exact ⟨hout, Redka.Proofs.NoTrace.refusal_notrace_db hout⟩

/-- `RenameNX` onto a visible key of any type: `false`, and no table row changes. -/
theorem renameNX_refuses_existing : ∀ (k nk : Bytes) (e e' : Entry) (now : Int) (db : DB), db.Inv →
    k ≠ [] → Spec.get (Spec.abs now db) k = some e → Spec.get (Spec.abs now db) nk = some e' →
    let r := Model.dbRun (.keyRenameNX k nk) now db
    r.out = .ok (.bool false) ∧ r.db = db := by
  intro k nk e e' now db h hk hg hg2
  have hemp : EmptyName (.keyRenameNX k nk) now db = false := by
    cases k <;> first | rfl | exact absurd rfl hk
  have href := key_refines_partial (.keyRenameNX k nk) now db rfl h rfl hemp rfl rfl
  have hout : (Model.dbRun (.keyRenameNX k nk) now db).out = .ok (.bool false) := by
    refine href.1.trans ?_
    cases hkk : k == nk <;> simp [Spec.step, Spec.keyRenameNX, hg, hg2, hkk, Spec.ok]
  refine ⟨hout, ?_⟩
  have hrun : Model.dbRun (.keyRenameNX k nk) now db = Model.keyRenameNX db k nk now :=
    update_keyRenameNX db k nk now
  rw [hrun] at hout ⊢
  exact Redka.Proofs.NoTrace.keyRenameNX_false hout

/-- `ExpireAt` on a visible key sets its expiry and nothing else; an instant that is not in the
future makes the key disappear at once. -/
theorem expireAt_sets_expiry : ∀ (k : Bytes) (t : Int) (e : Entry) (now : Int) (db : DB), db.Inv →
    Spec.get (Spec.abs now db) k = some e →
    let r := Model.dbRun (.keyExpireAt k t) now db
    r.out = .ok .nil ∧
    Spec.get (Spec.abs now r.db) k = if t > now then some { e with etime := some t } else none := by
  intro k t e now db h hg
  have hw := DB.Inv.wf h
  have href := keyExpireAt_refines hw now k t
  simp only [Refines, Spec.keyExpireAt, hg, Spec.ok] at href
  refine ⟨href.1, ?_⟩
  show Spec.get (Spec.abs now (Model.keyExpireAt db k t now).db) k = _
  rw [href.2, get_purge_put_self (sorted_abs hw.names now)]
  simp [liveAt]

/-- `Persist` on a visible key clears its expiry and nothing else. -/
theorem persist_clears_expiry : ∀ (k : Bytes) (e : Entry) (now : Int) (db : DB), db.Inv →
    Spec.get (Spec.abs now db) k = some e →
    let r := Model.dbRun (.keyPersist k) now db
    r.out = .ok .nil ∧ Spec.get (Spec.abs now r.db) k = some { e with etime := none } := by
  intro k e now db h hg
  have hw := DB.Inv.wf h
  have href := keyPersist_refines hw now k
  simp only [Refines, Spec.keyPersist, hg, Spec.ok] at href
  refine ⟨href.1, ?_⟩
  show Spec.get (Spec.abs now (Model.keyPersist db k now).db) k = _
  rw [href.2, get_purge_put_self (sorted_abs hw.names now)]
  simp [liveAt]

/-! ### one name, one type -/

/-- "a type-specific write to a key of another type is refused with a type error, a type-specific
read of it sees nothing, and neither changes anything" — for each of the 54 type-specific
operations that name exactly one key (`singleKey`, in `Proofs/KeyCross.lean`), on any tables
satisfying the invariant in which that name is visibly held by a key of another type
(`Spec.crossType`):

  * no table row changes;
  * an operation that would create the key if the name were free (`creates`, same file: set,
    increment, push, add, hash set …) reports `ErrKeyType`;
  * every other operation — the reads, and the writes that only touch existing elements (pop,
    delete, trim, list set, list insert) — answers exactly what it answers on an empty database.

`Set(...).IfExists()` counts as a read here: for it "the key exists" means "a string exists"
(C01 `setcmd_matrix`). Operations naming several keys are the business of their families. -/
theorem wrong_type_refused_notrace : ∀ (op : Op) (k : Bytes) (now : Int) (db : DB), db.Inv →
    singleKey op = some k → Spec.crossType op now db = true →
    let r := Model.dbRun op now db
    r.db = db ∧ r.out = if creates op then .error .keyType else (Model.dbRun op now {}).out :=
  fun _ _ _ _ hinv hsk hc => cross_type_single (DB.Inv.wf hinv).names hsk hc

/-- … in particular the abstract keyspace is what it was -/
theorem wrong_type_keyspace_unchanged : ∀ (op : Op) (k : Bytes) (now : Int) (db : DB), db.Inv →
    singleKey op = some k → Spec.crossType op now db = true →
    Spec.abs now (Model.dbRun op now db).db = Spec.abs now db := by
  intro op k now db hinv hsk hc
  rw [(wrong_type_refused_notrace op k now db hinv hsk hc).1]

/-! ### the deviations are real -/

def bA : Bytes := [97]           -- "a"
def bB : Bytes := [98]           -- "b"
def bL : Bytes := [108]          -- "l"
def bN : Bytes := [110]          -- "n", not stored
def bM : Bytes := [109]          -- "m", not stored

/-- the key names a listing carries, in the order given -/
def outNames : Out → Option (List Bytes)
  | .ok (.list l) => some (l.filterMap (fun v => match v with | .key r => some r.key | _ => none))
  | _ => none

/-- one string key "a" = "x" whose expiry (5) has passed at `now = 10`, not yet cleaned up -/
def dbStale : DB :=
  { keys := [{ id := 1, key := bA, ty := 1, version := 1, etime := some 5, mtime := 0, len := none }],
    strs := [{ kid := 1, value := [120] }] }

/-- D06 is real. At 10 the keyspace is empty, `Len` must answer 0; the model (like the code, which
counts the rows of `rkey` without the expiry guard) answers 1. -/
theorem len_counts_expired_deviates :
    dbStale.Inv ∧ LenStale .keyLen 10 dbStale = true ∧
    (Model.dbRun .keyLen 10 dbStale).out = .ok (.int 1) ∧
    (Spec.step .keyLen 10 (Spec.abs 10 dbStale)).out = .ok (.int 0) := by
  refine ⟨by unfold DB.Inv; decide, by decide, by rfl, C01.out_of_outInt (by decide +kernel)⟩

/-- one string key whose name is the empty byte string, value "x", no expiry -/
def dbEmptyName : DB :=
  { keys := [{ id := 1, key := [], ty := 1, version := 1, etime := none, mtime := 0, len := none }],
    strs := [{ kid := 1, value := [120] }] }

/-- D18 is real. The key "" exists (`Get`, `Exists` see it), so renaming it to "a" must succeed;
the model (like the code, whose `Key.Exists()` is `key != ""`) answers `ErrNotFound`. -/
theorem empty_name_rename_deviates :
    dbEmptyName.Inv ∧ EmptyName (.keyRename [] bA) 10 dbEmptyName = true ∧
    (Model.dbRun (.keyExists []) 10 dbEmptyName).out = .ok (.bool true) ∧
    (Model.dbRun (.keyRename [] bA) 10 dbEmptyName).out = .error .notFound ∧
    (Spec.step (.keyRename [] bA) 10 (Spec.abs 10 dbEmptyName)).out = .ok .nil ∧
    (Model.dbRun (.keyRenameNX [] bA) 10 dbEmptyName).out = .error .notFound ∧
    (Spec.step (.keyRenameNX [] bA) 10 (Spec.abs 10 dbEmptyName)).out = .ok (.bool true) := by
  refine ⟨by unfold DB.Inv; decide, by decide, by rfl, by rfl, by rfl, by rfl, by rfl⟩

/-- the pattern `k[!a-c]` -/
def pBang : Bytes := [107, 91, 33, 97, 45, 99, 93]

/-- one string key "kd" -/
def dbKd : DB :=
  { keys := [{ id := 1, key := [107, 100], ty := 1, version := 1, etime := none, mtime := 0, len := none }],
    strs := [{ kid := 1, value := [120] }] }

/-- D16 is real. `k[!a-c]` is documented to select `kd`; for SQLite's GLOB the class is `!abc`,
and the model (like the code) lists nothing. The pattern and the name are inside the judged
domain. -/
theorem bang_class_keys_deviates :
    dbKd.Inv ∧ BangClass (.keyKeys pBang) = true ∧ Judged (.keyKeys pBang) 10 dbKd = true ∧
    outNames (obs (.keyKeys pBang) (Model.dbRun (.keyKeys pBang) 10 dbKd).out) = some [] ∧
    outNames (Spec.step (.keyKeys pBang) 10 (Spec.abs 10 dbKd)).out = some [[107, 100]] := by
  have hm : Glob.sqliteGlob pBang [107, 100] = false := by
    show Glob.sqliteGlob [107, 91, 33, 97, 45, 99, 93] [107, 100] = false
    glob_unfold
  refine ⟨by unfold DB.Inv; decide, by decide +kernel, by decide +kernel, ?_, by decide +kernel⟩
  show outNames (obs (.keyKeys pBang) (Model.keyKeys dbKd pBang 10).out) = some []
  simp [Model.keyKeys, dbKd, hm, Res.ok, obs, Except.map, projV, projL, sortKeyVals, sortBy, outNames]

/-- Hence the refinement statement without the classifiers is false. -/
theorem full_strength_is_false :
    ¬ (∀ (op : Op) (now : Int) (db : DB), IsFamOp op → db.Inv → Judged op now db = true →
        obs op (Model.dbRun op now db).out = (Spec.step op now (Spec.abs now db)).out ∧
        Spec.abs now (Model.dbRun op now db).db
          = Spec.purge now (Spec.step op now (Spec.abs now db)).st) := by
  intro h
  have h1 := (h (.keyRename [] bA) 10 dbEmptyName rfl empty_name_rename_deviates.1 rfl).1
  rw [show obs (.keyRename [] bA) = id from rfl, id, empty_name_rename_deviates.2.2.2.1,
    empty_name_rename_deviates.2.2.2.2.1] at h1
  cases h1

/-- … and each classifier is needed on its own: dropping only `LenStale` is refuted by
`dbStale`, dropping only `BangClass` by `dbKd`. -/
theorem lenStale_is_needed :
    ¬ (∀ (now : Int) (db : DB), db.Inv →
        (Model.dbRun .keyLen now db).out = (Spec.step .keyLen now (Spec.abs now db)).out) := by
  intro h
  have h1 := h 10 dbStale len_counts_expired_deviates.1
  rw [len_counts_expired_deviates.2.2.1, len_counts_expired_deviates.2.2.2] at h1
  cases h1

theorem bangClass_is_needed :
    ¬ (∀ (p : Bytes) (now : Int) (db : DB), db.Inv → Judged (.keyKeys p) now db = true →
        obs (.keyKeys p) (Model.dbRun (.keyKeys p) now db).out
          = (Spec.step (.keyKeys p) now (Spec.abs now db)).out) := by
  intro h
  have h1 := congrArg outNames
    (h pBang 10 dbKd bang_class_keys_deviates.1 bang_class_keys_deviates.2.2.1)
  rw [bang_class_keys_deviates.2.2.2.1, bang_class_keys_deviates.2.2.2.2] at h1
  cases h1

/-! ### rename onto an expired leftover (the catalogue's D05 does not apply) -/

/-- a live string "a" = "x" (id 1) and a list "b" = ["e"] (id 2) whose expiry (5) has passed at
`now = 10`, not yet cleaned up -/
def dbStaleDest : DB :=
  { keys := [
      { id := 1, key := bA, ty := 1, version := 1, etime := none, mtime := 0, len := none },
      { id := 2, key := bB, ty := 2, version := 1, etime := some 5, mtime := 0, len := some 1 }],
    strs := [{ kid := 1, value := [120] }],
    lists := [{ kid := 2, pos := 0, elem := [101] }] }

/-- `Rename("a", "b")` at 10: the catalogue flags the call (D05), yet the model does what the
specification asks — the expired list row and its element are deleted, the string moves to "b",
and the tables satisfy the audit. -/
theorem rename_onto_stale_example :
    dbStaleDest.Inv ∧ C01.Stale (.keyRename bA bB) 10 dbStaleDest = true ∧
    (Model.dbRun (.keyRename bA bB) 10 dbStaleDest).db
      = { keys := [{ id := 1, key := bB, ty := 1, version := 2, etime := none, mtime := 10, len := none }],
          strs := [{ kid := 1, value := [120] }] } ∧
    Spec.abs 10 (Model.dbRun (.keyRename bA bB) 10 dbStaleDest).db = [(bB, ⟨.str [120], none⟩)] ∧
    (Spec.step (.keyRename bA bB) 10 (Spec.abs 10 dbStaleDest)).st = [(bB, ⟨.str [120], none⟩)] ∧
    (Model.dbRun (.keyRename bA bB) 10 dbStaleDest).db.Inv := by
  unfold DB.Inv
  decide +kernel

/-! ### why "starts empty" needs `foreign_keys` (D14) -/

/-- one set "s" (id 1) with the members "1" and "2" -/
def dbOneSet (fk : Bool) : DB :=
  { keys := [{ id := 1, key := [115], ty := 3, version := 2, etime := none, mtime := 0, len := some 2 }],
    sets := [{ rowid := 1, kid := 1, elem := [49] }, { rowid := 2, kid := 1, elem := [50] }],
    fk := fk }

/-- With `foreign_keys = 0` a deleted (or flushed) key leaves its members behind; ids are
`max + 1`, so the next key created (`SADD t z`) gets id 1 and INHERITS them: `t` reads as
`{1, 2, z}`. With `foreign_keys = 1` it is `{z}`. The keyspace right after the delete is correct
in both cases (`key_refines_partial` has no `fk` hypothesis). -/
theorem fk_off_deleted_elements_are_inherited :
    (dbOneSet false).Inv ∧
    Spec.abs 10 (Model.dbRun (.keyDelete [[115]]) 10 (dbOneSet false)).db = [] ∧
    Spec.abs 10 (Model.dbRun (.setAdd [116] [[122]]) 10
        (Model.dbRun (.keyDelete [[115]]) 10 (dbOneSet false)).db).db
      = [([116], ⟨.set [[49], [50], [122]], none⟩)] ∧
    Spec.abs 10 (Model.dbRun (.setAdd [116] [[122]]) 10
        (Model.dbRun .keyDeleteAll 10 (dbOneSet false)).db).db
      = [([116], ⟨.set [[49], [50], [122]], none⟩)] ∧
    Spec.abs 10 (Model.dbRun (.setAdd [116] [[122]]) 10
        (Model.dbRun (.keyDelete [[115]]) 10 (dbOneSet true)).db).db
      = [([116], ⟨.set [[122]], none⟩)] := by
  unfold DB.Inv
  decide +kernel

/-- so `delete_then_fresh_key_starts_empty` needs `fk = true` -/
theorem fresh_key_starts_empty_needs_fk :
    ¬ ∀ (ks : List Bytes) (now : Int) (db : DB), db.Inv →
        (Model.dbRun (.keyDelete ks) now db).db.Inv := by
  intro h
  have := h [[115]] 10 (dbOneSet false) (by unfold DB.Inv; decide)
  revert this
  unfold DB.Inv
  decide

/-! ### non-vacuity: the hypotheses are satisfiable for every kind of operation -/

/-- a live string "a" = "41", a live string "b" = "x" that expires at 100, a list "l" = ["e"] -/
def demo : DB :=
  { keys := [
      { id := 1, key := bA, ty := 1, version := 1, etime := none, mtime := 0, len := none },
      { id := 2, key := bB, ty := 1, version := 3, etime := some 100, mtime := 0, len := none },
      { id := 3, key := bL, ty := 2, version := 1, etime := none, mtime := 0, len := some 1 }],
    strs := [{ kid := 1, value := [52, 49] }, { kid := 2, value := [120] }],
    lists := [{ kid := 3, pos := 0, elem := [101] }] }

theorem demo_inv : demo.Inv := by unfold DB.Inv; decide

example : demo.Inv := demo_inv

/-- every hypothesis of `key_refines_partial` holds for an operation of each kind on `demo` -/
example : ∀ op ∈ [Op.keyCount [bA, bN, bL], .keyDelete [bA, bL, bN], .keyDeleteAll, .keyExists bB,
      .keyExists bN, .keyExpire bB 50, .keyExpireAt bA 5, .keyGet bL, .keyGet bN,
      .keyKeys (str "*"), .keyKeys (str "[a-b]"), .keyKeys (str "[^a]"), .keyLen, .keyPersist bB,
      .keyRandom (some bA), .keyRandom none, .keyRename bA bN, .keyRename bA bB, .keyRename bA bL,
      .keyRename bN bA, .keyRenameNX bA bN, .keyRenameNX bA bB],
    IsFamOp op ∧ LenStale op 10 demo = false ∧ EmptyName op 10 demo = false ∧
      BangClass op = false ∧ Judged op 10 demo = true := by
  decide +kernel

/-- the classifiers do fire: `Len` on a table with an expired row, a rename of the key "" -/
example : LenStale .keyLen 10 dbStale = true ∧ EmptyName (.keyRenameNX [] bA) 10 dbEmptyName = true ∧
    BangClass (.keyKeys pBang) = true ∧ Judged (.keyKeys [200]) 10 demo = false := by
  decide +kernel

/-- the theorem instantiated: `Rename("a", "b")` on `demo` replaces the string "b" (same type) and
the value "41" arrives without expiry; "a" is gone; the list "l" is untouched -/
example :
    (Model.dbRun (.keyRename bA bB) 10 demo).out = .ok .nil ∧
    Spec.abs 10 (Model.dbRun (.keyRename bA bB) 10 demo).db
      = [(bB, ⟨.str [52, 49], none⟩), (bL, ⟨.list [[101]], none⟩)] := by
  have h := key_refines_partial (.keyRename bA bB) 10 demo rfl demo_inv rfl rfl rfl rfl
  refine ⟨by rw [show obs (.keyRename bA bB) = id from rfl] at h; exact h.1.trans (by rfl), ?_⟩
  rw [h.2]; decide +kernel

/-- the clause instantiated: `Rename("a", "l")` is refused, the list being of another type -/
example :
    (Model.dbRun (.keyRename bA bL) 10 demo).out = .error .keyType ∧
    (Model.dbRun (.keyRename bA bL) 10 demo).db = demo :=
  rename_refuses_other_type bA bL ⟨.str [52, 49], none⟩ ⟨.list [[101]], none⟩ 10 demo
    demo_inv (by decide) (by decide) (by decide) (by decide) (by decide)

/-- the clause instantiated: an `ExpireAt` in the past makes the key disappear at once -/
example : Spec.get (Spec.abs 10 (Model.dbRun (.keyExpireAt bA 5) 10 demo).db) bA = none :=
  (expireAt_sets_expiry bA 5 ⟨.str [52, 49], none⟩ 10 demo demo_inv
    (by decide)).2.trans (by decide)

/-- every hypothesis of `wrong_type_refused_notrace` holds for operations of each type on `demo`
("a" is a string, "l" a list) -/
example : ∀ op ∈ [Op.listPushBack bA [120], .listLen bA, .listPopFront bA, .listRange bA 0 (-1),
      .setAdd bA [[120]], .setItems bL, .hashSet bL [102] [118], .hashGet bA [102], .hashLen bL,
      .zAdd bA [109] (.fin 1), .zLen bL, .zRangeRank bA 0 5 false, .strSet bL [120], .strGet bL,
      .strIncr bL 1, .strSetWith bL [120] { ifExists := true }],
    (singleKey op).isSome = true ∧ Spec.crossType op 10 demo = true := by
  decide +kernel

/-- the theorem instantiated: a push onto the string "a" is refused, its length as a list is 0 -/
example :
    (Model.dbRun (.listPushBack bA [120]) 10 demo).out = .error .keyType ∧
    (Model.dbRun (.listPushBack bA [120]) 10 demo).db = demo ∧
    (Model.dbRun (.listLen bA) 10 demo).out = .ok (.int 0) := by
  have h1 := wrong_type_refused_notrace (.listPushBack bA [120]) bA 10 demo demo_inv
    rfl (by decide)
  have h2 := wrong_type_refused_notrace (.listLen bA) bA 10 demo demo_inv
    rfl (by decide)
  exact ⟨h1.2, h1.1, h2.2⟩

/-- a run on `demo` that satisfies the hypotheses of `keyspace_seq_refines`: create "n", give it
five milliseconds to live, rename it, read it under the new name, let it expire, run the cleaner,
count and list what is left -/
def demoRun : List (Op × Int) :=
  [(.strSet bN [55], 10), (.keyExpire bN 5, 10), (.keyRename bN bM, 11), (.strGet bM, 12),
   (.keyExists bN, 12), (.keyDeleteExpired 0, 20), (.keyLen, 20), (.keyKeys (str "*"), 20),
   (.keyDelete [bA, bM], 21), (.keyCount [bA, bB, bL], 21)]

instance decCleanRun : ∀ tr db, Decidable (CleanRun tr db)
  | [], _ => isTrue trivial
  | (op, now) :: rest, db =>
    have := decCleanRun rest (Model.dbRun op now db).db
    inferInstanceAs (Decidable (_ ∧ _ ∧ _))

example : C01.ClockOk 10 demoRun ∧ CleanRun demoRun demo := by decide +kernel

/-- what the abstract keyspace answers along that run: the renamed key is read under its new
name, is gone at 20, `Len` is 3, the final count is 2 -/
example : ((runSpec demoRun (Spec.abs 10 demo)).1.filterMap (fun o => match o with
      | .ok (.int i) => some (Sum.inl i)
      | .ok (.bytes b) => some (Sum.inr b)
      | _ => none))
    = [.inr [55], .inl 3, .inl 1, .inl 2] := by
  decide +kernel

example : (runSpec demoRun (Spec.abs 10 demo)).2
    = [(bB, ⟨.str [120], some 100⟩), (bL, ⟨.list [[101]], none⟩)] := by
  decide +kernel

end Redka.Props.C06
