/-
  Property C08: linearizability.

  "When any number of goroutines share one database handle, or any number of clients share one
  server, every single operation and every transaction block takes effect atomically at some instant
  between its call and its return: the observed results are explainable by some sequential order of
  the operations that respects real time. No update is lost, no element is delivered to two poppers,
  no reader observes part of a transaction, and no operation fails merely because another one is
  running."

  WHAT THIS IS. The theorems are about `Model/Sched.lean`: a contract-level model of how the two
  `database/sql` handles and SQLite's locking serialise the SQL events of concurrent callers. It is
  a model of SQLite's CONTRACT, not of SQLite; the rules (1)–(4) written at the top of that file are
  assumptions, parameterised by a configuration `Cfg = ⟨rwConns, txImmediate, journal⟩`. A client
  asks for a `Job`: one `DB`-level method, or a user-defined `Update` block of several operations.
  What a job does to the tables when its event happens is the statement-level model `Model.tx`
  validated against the real code (`Model.runOps` for a block's callback); that a method is one SQL
  statement or one `Update` transaction is C07 (`model_wrap_matches_source`,
  `multi_statement_writers_are_wrapped`). The sequential reference `seqRun` runs each job alone:
  `Model.dbRun` for a method, `execTx` around the callback for a block
  (`transaction_block_is_execTx`).

  The configuration is READ FROM THE SOURCE: `cfgOfSource` is computed from the generated constants
  (`d.RW.SetMaxOpenConns(1)`, `params.Set("_txlock","immediate")` under `writable`,
  `journal_mode=wal`, `cache=shared` for ":memory:", `vfs=memdb` for the server), and
  `cfg_is_expected` ties it to `cfgWal = ⟨1, true, wal⟩`. Change the argument of `SetMaxOpenConns`,
  drop the `_txlock`, or change the journal mode, and `cfg_is_expected` stops compiling.

  PROVED, for one RW connection and committed-snapshot readers (`cfgWal`, `cfgMemdb`; the lemmas in
  `Proofs/Sched.lean` need only `rwConns = 1 ∧ journal ≠ sharedCache` — with a single RW connection
  `_txlock` does not matter inside one process):
    * `wal_linearizable`, `memdb_linearizable`: for every complete schedule the protocol admits,
      the operations, ordered by linearization point (the `commit` of a transaction, the single
      statement of the others), form a permutation of the calls that respects real time and whose
      sequential run on `Model.dbRun` yields exactly the observed results and the final state.
      `linearizable_in_flight` is the same for schedules with operations still in flight.
    * `no_lost_update`, `no_double_pop`, `no_double_pop_set`: corollaries through the sequential
      behaviour of `strIncr`, `listPop`, `setPop` (`Proofs/SchedSeq.lean`).
    * `readers_see_whole_transactions`, `no_spurious_failure`, `no_busy_no_locked`, `no_deadlock`.
  REFUTED, by kernel-checked schedules, for the weaker instances: `deferred_two_conns_*`
  (`rwConns = 2`, deferred `BEGIN`), `immediate_two_conns_busy` (`rwConns = 2`, immediate), and
  `sharedcache_reader_fails` — the last one IS an instance the source selects (":memory:", known
  defect D15: `memory_store_is_shared_cache`).

  NOT EXHIBITED (trusted): the Go scheduler, `database/sql`'s pool beyond its `MaxOpenConns`
  contract, busy-handler timeouts (a wait is a later event; that the wait ends is `no_deadlock` in
  the model and a timeout assumption in reality), other processes on the same file, `View` blocks
  (a WAL read transaction keeps one snapshot: it would be one `stmt` event by assumption), faults
  during a concurrent run (C07 treats them one transaction at a time), and the wire server (one
  goroutine per connection calling these same methods; MULTI/EXEC is an `Update` block).
-/
import RedkaModel.Proofs.SchedSeq

namespace Redka.Props.C08

open Redka Redka.Model Redka.Sched Redka.Proofs.Sched

/-! ### 0. the instance the source selects -/

/-- The default on-disk configuration, computed from the generated constants: one RW connection,
`BEGIN IMMEDIATE`, WAL. -/
theorem cfg_is_expected : cfgOfSource = ⟨1, true, .wal⟩ := cfgOf_tie.1

/-- Every store the source can open, and the regime each gets: the library and the server on a file
are single-writer WAL; the server's in-memory store is single-writer `memdb`; the library's
":memory:" is single-writer SHARED CACHE. -/
theorem source_instance_is_wal_single_writer :
    cfgOfSource = cfgWal ∧ cfgOf .diskLib = cfgWal ∧ cfgOf .diskServer = cfgWal ∧
    cfgOf .memoryServer = cfgMemdb ∧ SingleWriter cfgOfSource :=
  ⟨cfgOf_tie.1, cfgOf_tie.1, cfgOf_tie.2.1, cfgOf_tie.2.2.1,
    (by show SingleWriter (cfgOf .diskLib); rw [cfgOf_tie.1]; exact singleWriter_wal)⟩

/-- ":memory:" gets the shared-cache regime, for which the positive theorems below do NOT hold
(`sharedcache_reader_fails`). -/
theorem memory_store_is_shared_cache : cfgOf .memoryLib = cfgShared := cfgOf_tie.2.2.2

/-! ### 1. linearizability -/

/-- the property, for a configuration -/
def Linearizable (cfg : Cfg) : Prop :=
  ∀ (init : DB) (s : Schedule), Valid cfg init s →
    ∃ order : List Rec,
      order.Perm (history cfg init s) ∧
      (order.map Rec.key).Perm (calls s) ∧
      RespectsRealTime order ∧
      order.map Rec.out = (seqRun (order.map Rec.inv) init).1.map Outcome.done ∧
      finalState cfg init s = (seqRun (order.map Rec.inv) init).2

theorem linearizable_of_singleWriter {cfg : Cfg} (hc : SingleWriter cfg) : Linearizable cfg := by
  intro init s hv
  obtain ⟨h, hr, ha⟩ := valid_iff.mp hv
  obtain ⟨hk, hrt, ho, hst⟩ := linearizable_run hc hr
  obtain ⟨hh, hf⟩ := history_of_run hr
  rw [ha] at hk
  simp only [List.map_nil, List.append_nil] at hk
  exact ⟨h.log, by rw [hh], hk, hrt, ho, by rw [hf]; exact hst⟩

/-- **C08 for the on-disk configuration.** Every complete schedule that one RW connection and WAL
readers admit — any number of clients, any interleaving of their calls, `begin`s, bodies, commits
and statements — has an order of its operations that (a) is a rearrangement of the recorded
history, (b) consists of exactly the calls of the schedule, (c) never places an operation before
one that had returned before it was called, and (d) run SEQUENTIALLY on the `DB`-level methods gives
every operation the result it observed, and the committed state at the end. The order is that of
the linearization points: the `commit` of an `Update`-wrapped operation, the one statement of the
others; each lies between the operation's call and its return. -/
theorem wal_linearizable : Linearizable cfgWal := linearizable_of_singleWriter singleWriter_wal

/-- The same for the server's in-memory store (`vfs=memdb`). -/
theorem memdb_linearizable : Linearizable cfgMemdb := linearizable_of_singleWriter singleWriter_memdb

/-- … and for what the source actually configures. -/
theorem source_linearizable : Linearizable cfgOfSource := cfg_is_expected ▸ wal_linearizable

/-- Schedules that end with operations in flight: the completed operations are linearizable as
above; the ones in flight (whatever their phase — called, transaction begun, body run on the
private copy) have had no effect on the committed state and are simply absent from the order. -/
theorem linearizable_in_flight : ∀ (cfg : Cfg), cfg = cfgWal ∨ cfg = cfgMemdb →
    ∀ (init : DB) (s : Schedule), Admitted cfg init s →
      (((history cfg init s).map Rec.key) ++ (inFlight cfg init s).map Act.key).Perm (calls s) ∧
      RespectsRealTime (history cfg init s) ∧
      (history cfg init s).map Rec.out =
        (seqRun ((history cfg init s).map Rec.inv) init).1.map Outcome.done ∧
      finalState cfg init s = (seqRun ((history cfg init s).map Rec.inv) init).2 := by
  intro cfg hcfg init s ha
  have hc := singleWriter_of hcfg
  obtain ⟨h, hr⟩ := admitted_iff.mp ha
  obtain ⟨hk, hrt, ho, hst⟩ := linearizable_run hc hr
  obtain ⟨hh, hf⟩ := history_of_run hr
  rw [hh, hf, inFlight_of_run hr]
  exact ⟨hk, hrt, ho, hst⟩

/-- The model lets an operation return at its last SQL event. Returning any amount later keeps the
same order admissible (it only removes real-time constraints). -/
theorem later_returns_are_covered : ∀ (order : List Rec) (delay : Rec → Nat), RespectsRealTime order →
    RespectsRealTime (order.map (fun r => { r with ret := r.ret + delay r })) :=
  respects_of_later_returns

/-- In every recorded history the call of an operation precedes its return, and the history is in
the order of return (under every configuration). -/
theorem call_before_return : ∀ (cfg : Cfg) (init : DB) (s : Schedule),
    (∀ r ∈ history cfg init s, r.call < r.ret) ∧
    (history cfg init s).Pairwise (fun a b => a.ret < b.ret) := by
  intro cfg init s
  cases hr : run cfg init s with
  | none => simp [history, hr]
  | some h =>
    obtain ⟨hp, _⟩ := run_facts_any hr
    rw [(history_of_run hr).1]
    exact ⟨fun r hr => (hp.log_lt r hr).1, hp.sorted⟩

/-! ### 2. no lost update, no double pop -/

/-- the property, for a configuration: increments of one counter by any number of clients, in any
schedule, all succeed and add up -/
def NoLostUpdate (cfg : Cfg) : Prop :=
  ∀ (init : DB) (k : Bytes) (n : Int) (s : Schedule), Valid cfg init s → Counter init k n →
    (∀ c ∈ opsOf s, ∃ d, c.1 = .op (.strIncr k d)) →
    (n.natAbs + totalAbs (opsOf s) : Int) ≤ maxInt64 →
    (∀ r ∈ history cfg init s, r.out.isOk = true) ∧
    Counter (finalState cfg init s) k (n + total (opsOf s))

theorem noLostUpdate_of_singleWriter {cfg : Cfg} (hc : SingleWriter cfg) : NoLostUpdate cfg := by
  intro init k n s hv hcnt hops hb
  obtain ⟨tr, hperm, hout, hfin⟩ := seq_view hc hv
  have htot : total tr = total (opsOf s) := sum_perm (fun a b c => by omega) (hperm.map _)
  have habs : totalAbs tr = totalAbs (opsOf s) := sum_perm (fun a b c => by omega) (hperm.map _)
  obtain ⟨hok, hc'⟩ := seqRun_incr k tr init n hcnt
    (fun c hc => hops c (hperm.mem_iff.mp hc)) (by rw [habs]; exact hb)
  refine ⟨?_, by rw [hfin, ← htot]; exact hc'⟩
  intro r hr
  have : r.out ∈ (history cfg init s).map Rec.out := List.mem_map_of_mem hr
  rw [hout] at this
  obtain ⟨o, ho, heq⟩ := List.mem_map.mp this
  obtain ⟨v, rfl⟩ := hok o ho
  rw [← heq]; rfl

/-- **No update is lost.** `k` is a counter standing at `n` (absent, or a number without expiry);
any number of clients each call `Incr(k, dᵢ)`; in EVERY schedule the on-disk configuration admits
every call succeeds and the counter ends at `n + Σ dᵢ` — as long as no partial sum, in any order,
can leave int64 (beyond that the code wraps around: known finding D17). -/
theorem no_lost_update : NoLostUpdate cfgWal := noLostUpdate_of_singleWriter singleWriter_wal

theorem no_lost_update_memdb : NoLostUpdate cfgMemdb := noLostUpdate_of_singleWriter singleWriter_memdb

/-- what a counter reads as afterwards -/
theorem counter_reads : ∀ (db : DB) (k : Bytes) (n : Int), Counter db k n → ∀ now : Int,
    (db.findKey k = none ∧ n = 0 ∧ (Model.dbRun (.strGet k) now db).out = .error .notFound) ∨
    ∃ b, valueInt b = some n ∧ (Model.dbRun (.strGet k) now db).out = .ok (.bytes b) := by
  intro db k n hc now
  obtain ⟨hw, hcase⟩ := hc
  have hrun : Model.dbRun (.strGet k) now db = Model.strGet db k now := rfl
  rcases hcase with ⟨hf, hn0⟩ | ⟨b, now0, hb, hg0⟩
  · refine .inl ⟨hf, hn0, ?_⟩
    have hraw := strGetRaw_absent hw hf now
    rw [hrun]; simp [Model.strGet, hraw, Res.err]
  · refine .inr ⟨b, hb, ?_⟩
    have hraw := strGetRaw_of_get hw (get_abs_any_now hw.names hg0 now)
    rw [hrun]; simp [Model.strGet, hraw, Res.ok]

/-- **No element is delivered to two poppers (lists).** The name `k` holds at most one list
element; any number of clients pop it, from either end; in every admitted schedule at most one of
them gets an element. -/
theorem no_double_pop : ∀ (cfg : Cfg), cfg = cfgWal ∨ cfg = cfgMemdb →
    ∀ (init : DB) (k : Bytes) (s : Schedule), Valid cfg init s → listCount init k ≤ 1 →
    (∀ c ∈ opsOf s, isListPop k c.1 = true) → succeeded (history cfg init s) ≤ 1 := by
  intro cfg hcfg init k s hv hcount hops
  have hc := singleWriter_of hcfg
  obtain ⟨tr, hperm, hout, _⟩ := seq_view hc hv
  rw [succeeded_eq hout]
  exact seqRun_listPop_one k tr init (fun c hc => hops c (hperm.mem_iff.mp hc)) hcount

/-- **… (sets).** -/
theorem no_double_pop_set : ∀ (cfg : Cfg), cfg = cfgWal ∨ cfg = cfgMemdb →
    ∀ (init : DB) (k : Bytes) (s : Schedule), Valid cfg init s → setCount init k ≤ 1 →
    (∀ c ∈ opsOf s, isSetPop k c.1 = true) → succeeded (history cfg init s) ≤ 1 := by
  intro cfg hcfg init k s hv hcount hops
  have hc := singleWriter_of hcfg
  obtain ⟨tr, hperm, hout, _⟩ := seq_view hc hv
  rw [succeeded_eq hout]
  exact seqRun_setPop_one k tr init (fun c hc => hops c (hperm.mem_iff.mp hc)) hcount

/-! ### 3. readers, failures, waiting -/

/-- the property, for a configuration: every operation returns what its `DB`-level method returns
on the state left by the operations that returned before it — never "busy", never "locked" -/
def NoSpuriousFailure (cfg : Cfg) : Prop :=
  ∀ (init : DB) (s : Schedule), Admitted cfg init s →
    ∀ (pre post : List Rec) (r : Rec), history cfg init s = pre ++ r :: post →
      r.out = .done (r.job.seq r.now (seqRun (pre.map Rec.inv) init).2).out

theorem noSpuriousFailure_of_singleWriter {cfg : Cfg} (hc : SingleWriter cfg) : NoSpuriousFailure cfg := by
  intro init s ha pre post r hsplit
  obtain ⟨h, hr⟩ := admitted_iff.mp ha
  obtain ⟨hs, _, _⟩ := run_facts hc hr
  rw [(history_of_run hr).1] at hsplit
  exact result_at hs.outs hsplit

/-- **No operation fails merely because another one is running.** In every schedule the on-disk
configuration admits — complete or not — each operation's result is exactly the result of its
`DB`-level method in the sequential order. -/
theorem no_spurious_failure : NoSpuriousFailure cfgWal ∧ NoSpuriousFailure cfgMemdb :=
  ⟨noSpuriousFailure_of_singleWriter singleWriter_wal, noSpuriousFailure_of_singleWriter singleWriter_memdb⟩

/-- … in particular the outcomes "database is locked" and "database table is locked" do not occur. -/
theorem no_busy_no_locked : ∀ (cfg : Cfg), cfg = cfgWal ∨ cfg = cfgMemdb →
    ∀ (init : DB) (s : Schedule), ∀ r ∈ history cfg init s,
      r.out.isBusy = false ∧ r.out.isLocked = false := by
  intro cfg hcfg init s r hr
  have hc := singleWriter_of hcfg
  cases hrun : run cfg init s with
  | none => simp [history, hrun] at hr
  | some h =>
    obtain ⟨pre, post, hsplit⟩ := List.append_of_mem hr
    have := noSpuriousFailure_of_singleWriter hc init s (admitted_iff.mpr ⟨h, hrun⟩) pre post r hsplit
    rw [this]; exact ⟨rfl, rfl⟩

/-- **No reader observes part of a transaction.** The result of every operation on the read-only
handle is its result on the state `seqRun prefix`, the state left by WHOLE operations (those that
returned before it) — never a transaction's private copy, although such copies exist in the model
while the reader runs (`reader_during_open_transaction` below). -/
theorem readers_see_whole_transactions : ∀ (cfg : Cfg), cfg = cfgWal ∨ cfg = cfgMemdb →
    ∀ (init : DB) (s : Schedule), Admitted cfg init s →
    ∀ (pre post : List Rec) (r : Rec) (o : Op), history cfg init s = pre ++ r :: post →
      r.job = .op o → Model.wrapOf o = .roDirect →
      r.out = .done (Model.tx false o r.now (seqRun (pre.map Rec.inv) init).2).out := by
  intro cfg hcfg init s ha pre post r o hsplit hj hw
  have hc := singleWriter_of hcfg
  rw [← Dispatch.dbRun_of_direct (by rw [hw]; decide)]
  have := noSpuriousFailure_of_singleWriter hc init s ha pre post r hsplit
  rw [hj] at this
  exact this

/-- **Waiting ends.** The model writes "waits for the connection" as "this event cannot happen
yet". That is never for ever: every admitted schedule with an operation in flight can be extended
by one more event (under every configuration). -/
theorem no_deadlock : ∀ (cfg : Cfg) (init : DB) (s : Schedule), Admitted cfg init s →
    inFlight cfg init s ≠ [] → ∃ e, Admitted cfg init (s ++ [e]) := by
  intro cfg init s ha hne
  obtain ⟨h, hr⟩ := admitted_iff.mp ha
  rw [inFlight_of_run hr] at hne
  obtain ⟨e, h', he⟩ := progress hr hne
  exact ⟨e, admitted_iff.mpr ⟨h', he⟩⟩

/-! ### 4. the weaker configurations: kernel-checked counterexamples -/

def bK : Bytes := [107]          -- "k"
def bL : Bytes := [108]          -- "l"
def bA : Bytes := [97]           -- "a"

/-- two RW connections, deferred `BEGIN` -/
def cfgDeferred2 : Cfg := ⟨2, false, .wal⟩
/-- two RW connections, `BEGIN IMMEDIATE` -/
def cfgImmediate2 : Cfg := ⟨2, true, .wal⟩

/-- the integer an operation returned, if it did -/
def outInt : Outcome → Option Int
  | .done (.ok (.int i)) => some i
  | _ => none

/-- 0 ok, 1 the method's own error, 2 busy, 3 locked -/
def code : Outcome → Nat
  | .done (.ok _) => 0
  | .done (.error _) => 1
  | .busy => 2
  | .locked => 3

/-- who, called at, returned at, outcome, integer result -/
def view (cfg : Cfg) (init : DB) (s : Schedule) : List (Client × Nat × Nat × Nat × Option Int) :=
  (history cfg init s).map (fun r => (r.client, r.call, r.ret, code r.out, outInt r.out))

/-- a schedule whose first operation to return got "busy" or "locked" refutes the property -/
theorem not_noSpuriousFailure {cfg : Cfg} {init : DB} {s : Schedule} (ha : Admitted cfg init s)
    (h : ∃ r post, history cfg init s = [] ++ r :: post ∧ r.out.isDone = false) :
    ¬ NoSpuriousFailure cfg := by
  intro hn
  obtain ⟨r, post, hs, hb⟩ := h
  rw [hn init s ha [] post r hs] at hb
  cases hb

/-- two clients increment `k`; both transactions are open at the same time -/
def twoIncr : Schedule :=
  [(1, .call (.op (.strIncr bK 1)) 7), (2, .call (.op (.strIncr bK 1)) 7),
   (1, .begin), (2, .begin), (1, .body), (2, .body), (1, .commit)]

/-- With two RW connections and deferred `BEGIN` this IS a schedule of the system; client 2's
upgrade to a write transaction fails with SQLITE_BUSY, and of the two increments one is lost: the
counter stands at 1. (SQLite does not let the stale transaction overwrite — the loss comes with an
error, not silently.) With the source's configuration the same interleaving is not a schedule at
all: the second `begin` waits. -/
theorem deferred_two_conns_lost_update :
    Valid cfgDeferred2 {} twoIncr ∧
    view cfgDeferred2 {} twoIncr = [(2, 1, 5, 2, none), (1, 0, 6, 0, some 1)] ∧
    (finalState cfgDeferred2 {} twoIncr).strs = [{ kid := 1, value := [49] }] ∧
    ¬ Admitted cfgWal {} twoIncr := by decide +kernel

/-- `no_lost_update` is FALSE for that instance. -/
theorem deferred_two_conns_refutes_no_lost_update : ¬ NoLostUpdate cfgDeferred2 := by
  intro h
  have hv : Valid cfgDeferred2 {} twoIncr := by decide +kernel
  have := (h {} bK 0 twoIncr hv ⟨emptyWF, .inl ⟨rfl, rfl⟩⟩
    (by intro c hc
        simp only [opsOf, calls, twoIncr, callsFrom, List.map_cons, List.map_nil, List.mem_cons,
          List.not_mem_nil, or_false] at hc
        rcases hc with rfl | rfl <;> exact ⟨1, rfl⟩)
    (by decide +kernel)).1
  have hbusy : ∃ r ∈ history cfgDeferred2 {} twoIncr, r.out.isOk = false := by decide +kernel
  obtain ⟨r, hr, hf⟩ := hbusy
  rw [this r hr] at hf
  cases hf

/-- … and so is `no_spurious_failure`. -/
theorem deferred_two_conns_refutes_no_spurious_failure : ¬ NoSpuriousFailure cfgDeferred2 :=
  not_noSpuriousFailure (init := {}) (s := twoIncr) (by decide +kernel) ⟨_, _, rfl, by decide +kernel⟩

/-- two clients increment `k`; the second `begin` comes while the first transaction is open and
its busy handler gives up -/
def twoIncrImmediate : Schedule :=
  [(1, .call (.op (.strIncr bK 1)) 7), (2, .call (.op (.strIncr bK 1)) 7),
   (1, .begin), (2, .begin), (1, .body), (1, .commit)]

/-- Two RW connections with `BEGIN IMMEDIATE`: nothing is overwritten, but the second caller can be
refused with SQLITE_BUSY. (Why `SetMaxOpenConns(1)` matters even with `_txlock=immediate`.) -/
theorem immediate_two_conns_busy :
    Valid cfgImmediate2 {} twoIncrImmediate ∧
    view cfgImmediate2 {} twoIncrImmediate = [(2, 1, 3, 2, none), (1, 0, 5, 0, some 1)] ∧
    ¬ Admitted cfgWal {} twoIncrImmediate := by decide +kernel

/-- a writer sets `k` while a reader gets it; the read comes between body and commit -/
def readDuringWrite : Schedule :=
  [(1, .call (.op (.strSet bK bA)) 7), (2, .call (.op (.strGet bK)) 7),
   (1, .begin), (1, .body), (2, .stmt), (1, .commit)]

/-- **D15.** The shared-cache regime that `DataSource` selects for ":memory:"
(`memory_store_is_shared_cache`): the reader fails with "database table is locked". Under WAL the
very same schedule gives the reader the committed state (`k` not found: the method's own answer). -/
theorem sharedcache_reader_fails :
    Valid cfgShared {} readDuringWrite ∧
    view cfgShared {} readDuringWrite = [(2, 1, 4, 3, (none : Option Int)), (1, 0, 5, 0, none)] ∧
    Valid cfgWal {} readDuringWrite ∧
    view cfgWal {} readDuringWrite = [(2, 1, 4, 1, (none : Option Int)), (1, 0, 5, 0, none)] :=
  ⟨by decide +kernel, by decide +kernel, by decide +kernel, by decide +kernel⟩

theorem sharedcache_refutes_no_spurious_failure : ¬ NoSpuriousFailure (cfgOf .memoryLib) :=
  memory_store_is_shared_cache ▸
    not_noSpuriousFailure (init := {}) (s := readDuringWrite) (by decide +kernel) ⟨_, _, rfl, by decide +kernel⟩

/-! ### 5. non-vacuity: three clients -/

/-- clients 1 and 2 increment `k` by 1 and 2, client 3 reads it twice; client 2 calls while client
1's transaction is open and waits; client 3's first read falls between client 1's body and commit -/
def s3 : Schedule :=
  [(1, .call (.op (.strIncr bK 1)) 7), (2, .call (.op (.strIncr bK 2)) 7), (3, .call (.op (.strGet bK)) 8),
   (1, .begin), (1, .body), (3, .stmt), (1, .commit), (2, .begin), (3, .call (.op (.strGet bK)) 9),
   (2, .body), (2, .commit), (3, .stmt)]

/-- what the read returned -/
def outBytes : Outcome → Option Bytes
  | .done (.ok (.bytes b)) => some b
  | _ => none

example : Valid cfgWal {} s3 ∧ Valid cfgMemdb {} s3 := by decide +kernel
example : view cfgWal {} s3 =
    [(3, 2, 5, 1, none), (1, 0, 6, 0, some 1), (2, 1, 10, 0, some 3), (3, 8, 11, 0, none)] := by
  decide +kernel
/-- the reads: "not found" while client 1's transaction is open, "3" at the end -/
example : (history cfgWal {} s3).map (fun r => outBytes r.out) = [none, none, none, some [51]] := by
  decide +kernel

/-- `wal_linearizable` applied: the order exists, and it is the recorded one -/
example : ∃ order : List Rec, order.Perm (history cfgWal {} s3) ∧ (order.map Rec.key).Perm (calls s3) ∧
    RespectsRealTime order ∧
    order.map Rec.out = (seqRun (order.map Rec.inv) {}).1.map Outcome.done :=
  let ⟨o, h1, h2, h3, h4, _⟩ := wal_linearizable {} s3 (by decide +kernel)
  ⟨o, h1, h2, h3, h4⟩

/-- While the reader runs there IS a private, uncommitted state that differs from the committed
one: after `[call, call, call, begin, body]` client 1's transaction holds `k = 1` privately; the
reader (next event) answers "not found". -/
theorem reader_during_open_transaction :
    ((run cfgWal {} (s3.take 5)).map fun h =>
        (h.committed.strs, h.acts.map fun a => match a.phase with
          | .bodied _ p => p.strs
          | _ => [])) = some ([], [[{ kid := 1, value := [49] }], [], []]) ∧
    ((run cfgWal {} (s3.take 6)).map fun h => h.log.map fun r => (r.client, code r.out)) = some [(3, 1)] := by
  decide +kernel

/-- three clients add 1, 2 and 3 -/
def s3incr : Schedule :=
  [(1, .call (.op (.strIncr bK 1)) 7), (2, .call (.op (.strIncr bK 2)) 7), (3, .call (.op (.strIncr bK 3)) 6),
   (2, .begin), (2, .body), (2, .commit), (3, .begin), (3, .body), (3, .commit),
   (1, .begin), (1, .body), (1, .commit)]

example : Valid cfgWal {} s3incr ∧
    view cfgWal {} s3incr = [(2, 1, 5, 0, some 2), (3, 2, 8, 0, some 5), (1, 0, 11, 0, some 6)] := by
  decide +kernel

/-- `no_lost_update` applied: the hypotheses can be met, and the counter stands at 6 -/
example : Counter (finalState cfgWal {} s3incr) bK 6 := by
  have := (no_lost_update {} bK 0 s3incr (by decide +kernel) ⟨emptyWF, .inl ⟨rfl, rfl⟩⟩
    (by intro c hc
        simp only [opsOf, calls, s3incr, callsFrom, List.map_cons, List.map_nil, List.mem_cons,
          List.not_mem_nil, or_false] at hc
        rcases hc with rfl | rfl | rfl <;> exact ⟨_, rfl⟩)
    (by decide +kernel)).2
  simpa [opsOf, calls, s3incr, callsFrom, total, delta] using this

/-- a list `l` with the one element `a` -/
def dbOne : DB :=
  { keys := [{ id := 1, key := bL, ty := TList, version := 1, etime := none, mtime := 0, len := some 1 }],
    lists := [{ kid := 1, pos := 0, elem := bA }] }

/-- three clients pop it, from both ends -/
def s3pop : Schedule :=
  [(1, .call (.op (.listPopBack bL)) 7), (2, .call (.op (.listPopFront bL)) 7), (3, .call (.op (.listPopBack bL)) 7),
   (3, .begin), (3, .body), (3, .commit), (1, .begin), (1, .body), (1, .commit),
   (2, .begin), (2, .body), (2, .commit)]

example : Valid cfgWal dbOne s3pop ∧ listCount dbOne bL = 1 ∧
    view cfgWal dbOne s3pop = [(3, 2, 5, 0, none), (1, 0, 8, 1, none), (2, 1, 11, 1, none)] ∧
    succeeded (history cfgWal dbOne s3pop) = 1 := by decide +kernel

example : succeeded (history cfgWal dbOne s3pop) ≤ 1 :=
  no_double_pop cfgWal (.inl rfl) dbOne bL s3pop (by decide +kernel) (by decide +kernel) (by decide +kernel)

/-- a set `s` with the one member `a`; three clients pop it -/
def dbOneSet : DB :=
  { keys := [{ id := 1, key := bL, ty := TSet, version := 1, etime := none, mtime := 0, len := some 1 }],
    sets := [{ rowid := 1, kid := 1, elem := bA }] }

def s3spop : Schedule :=
  [(1, .call (.op (.setPop bL (some bA))) 7), (2, .call (.op (.setPop bL (some bA))) 7), (3, .call (.op (.setPop bL (some bA))) 7),
   (2, .begin), (2, .body), (2, .commit), (1, .begin), (1, .body),
   (1, .commit), (3, .begin), (3, .body), (3, .commit)]

example : Valid cfgMemdb dbOneSet s3spop ∧ setCount dbOneSet bL = 1 ∧
    succeeded (history cfgMemdb dbOneSet s3spop) = 1 := by decide +kernel

example : succeeded (history cfgMemdb dbOneSet s3spop) ≤ 1 :=
  no_double_pop_set cfgMemdb (.inr rfl) dbOneSet bL s3spop (by decide +kernel) (by decide +kernel) (by decide +kernel)

/-! #### transaction blocks -/

/-- A block job executed alone is C07's `execTx` around its callback (fault-free): the same tables
afterwards, success exactly when `execTx` returns nil. So "`Job.seq` of a block" in the theorems
above is the all-or-nothing transaction of `usertx_atomic`. -/
theorem transaction_block_is_execTx : ∀ (env : Env) (p : Bool) (ops : List Op) (now : Int) (db : DB),
    (runTx env p ops .none now db).2 = (Job.seq (.block p ops) now db).db ∧
    ((runTx env p ops .none now db).1 = .ok () ↔ ∃ v, (Job.seq (.block p ops) now db).out = .ok v) :=
  Proofs.Sched.block_is_execTx

/-- client 1 sets `k` and `l` in one `Update` block; clients 2 and 3 count how many of the two
exist: client 2 between the block's body and its commit, client 3 after the commit -/
def s3block : Schedule :=
  [(1, .call (.block true [.strSet bK bA, .strSet bL bA]) 7), (2, .call (.op (.keyCount [bK, bL])) 7),
   (1, .begin), (1, .body), (2, .stmt), (3, .call (.op (.keyCount [bK, bL])) 8), (1, .commit), (3, .stmt)]

/-- none or both, never one -/
example : Valid cfgWal {} s3block ∧
    view cfgWal {} s3block = [(2, 1, 4, 0, some 0), (1, 0, 6, 0, none), (3, 5, 7, 0, some 2)] := by decide +kernel

/-- the same with a block whose second operation fails (a set operation on the string it has just
written): the block reports the error and nothing of it is ever visible -/
def s3blockBad : Schedule :=
  [(1, .call (.block true [.strSet bK bA, .setAdd bK [bA], .strSet bL bA]) 7),
   (2, .call (.op (.keyCount [bK, bL])) 7),
   (1, .begin), (1, .body), (2, .stmt), (3, .call (.op (.keyCount [bK, bL])) 8), (1, .commit), (3, .stmt)]

example : Valid cfgWal {} s3blockBad ∧
    view cfgWal {} s3blockBad = [(2, 1, 4, 0, some 0), (1, 0, 6, 1, none), (3, 5, 7, 0, some 0)] ∧
    finalState cfgWal {} s3blockBad = {} := by decide +kernel

/-- a schedule with an operation in flight, and its continuation (`no_deadlock`) -/
example : Admitted cfgWal {} (s3.take 5) ∧ (inFlight cfgWal {} (s3.take 5)).length = 3 ∧
    ∃ e, Admitted cfgWal {} (s3.take 5 ++ [e]) :=
  ⟨by decide +kernel, by decide +kernel, no_deadlock cfgWal {} (s3.take 5) (by decide +kernel) (by decide +kernel)⟩

/-- a schedule that breaks the protocol: a second `begin` on the single RW connection -/
example : ¬ Admitted cfgWal {} [(1, .call (.op (.strIncr bK 1)) 7), (2, .call (.op (.strIncr bK 1)) 7),
    (1, .begin), (2, .begin)] := by decide +kernel

end Redka.Props.C08
