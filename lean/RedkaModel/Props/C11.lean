/-
  C11 — structural consistency of the stored representation.

  "After every operation or transaction, successful or not, the stored representation is
  consistent: the length reported for a list, set, hash or sorted set equals the number of elements
  it enumerates, every stored element belongs to exactly one existing key of the matching type,
  elements are unique where the type demands it, list positions are distinct, and the documented
  SQL views show exactly the live keys and elements that the API shows, in the same order.
  Consistency is preserved by any mix of operations, by failed operations, by caller-managed
  transactions that ignore an operation's error, and by connection replacement."

  The invariant is `DB.Inv` (= the Bool audit `DB.invB` that the driver runs on every real dump);
  `InvP.WF` is its Prop-level form (`inv_characterisation`).  What is proved, for EVERY state,
  EVERY argument and EVERY clock value, over ALL constructors of `Op` (`Covered op = true` for all):

    * `inv_step_db_partial` / `inv_step_db`: every `DB`-level method preserves `Inv`
      (`KnownC11 false` is empty — `known_db_empty`);
    * `inv_step_tx_partial`: every `Tx`-level method preserves `Inv`, partial effects of a FAILING
      method included (the "caller-managed transaction that ignores the error" clause), outside
      `KnownC11 true` = a list push whose computed position collides with a stored one: `sqlPush`
      has already added one to `len` when the row insert fails with the UNIQUE error.  The
      classifier is exact (`inv_step_tx_exact`) and inhabited (`push_collision_breaks_inv`);
    * `fk_preserved`, `fk_preserved_tx`: no method changes `pragma foreign_keys`;
    * `reachable_inv_partial` / `reachable_inv`: every history of `DB`-level calls from the empty
      database ends in a consistent state;
    * connection replacement: only the five methods that rely on `ON DELETE CASCADE` look at the
      flag — all others preserve `Inv` whatever its value (`inv_step_tx_any_fk`); with the flag on,
      the deleting methods never orphan a row (`orphans_need_fk_off`), with it off they do
      (`orphan_witness`, the D14 mechanism).
  The SQL-view clause of C11 is not part of `DB.invB` and is not treated here.
  Only property theorems and non-vacuity examples live here; definitions (`Covered`, `KnownC11`,
  `init`, `run`, `NoKnown`, the witness databases `sample`, `collide`, `sampleOff`) are in
  `Proofs/InvStep.lean`, the lemma library in `Proofs/Inv*.lean`.
-/
import RedkaModel.Proofs.InvStep

namespace Redka.Props.C11

open Redka Redka.Model Redka.InvP

/-- the Prop-level invariant (17 clauses) is exactly the Bool audit -/
theorem inv_characterisation : ∀ db : DB, WF db ↔ db.Inv := wf_iff_invB

theorem covered_all : ∀ op : Op, Covered op = true := fun _ => rfl

/-- at the `DB` level nothing is classified -/
theorem known_db_empty : ∀ (op : Op) (now : Int) (db : DB), KnownC11 false op now db = false :=
  fun _ _ _ => rfl

/-! ### one step -/

theorem inv_step_tx_partial : ∀ (op : Op) (now : Int) (db : DB), db.Inv → db.fk = true →
    Covered op = true → KnownC11 true op now db = false → (Model.tx true op now db).db.Inv := by
  intro op now db h hfk _ hk
  exact (tx_wf true op now db (WF.of_inv h) (fun _ => hfk) (by simpa [KnownC11] using hk)).inv

theorem inv_step_db_partial : ∀ (op : Op) (now : Int) (db : DB), db.Inv → db.fk = true →
    Covered op = true → KnownC11 false op now db = false → (Model.dbRun op now db).db.Inv := by
  intro op now db h hfk _ _
  exact (dbRun_wf op now db (WF.of_inv h) hfk).inv

/-- the `DB`-level methods need no exclusion at all -/
theorem inv_step_db : ∀ (op : Op) (now : Int) (db : DB), db.Inv → db.fk = true →
    (Model.dbRun op now db).db.Inv :=
  fun op now db h hfk => inv_step_db_partial op now db h hfk rfl rfl

/-- the classifier is exact: inside a transaction the step preserves the invariant if and only if
it is not a colliding push -/
theorem inv_step_tx_exact : ∀ (op : Op) (now : Int) (db : DB), db.Inv → db.fk = true →
    ((Model.tx true op now db).db.Inv ↔ KnownC11 true op now db = false) := by
  intro op now db h hfk
  constructor
  · intro hpost
    cases hk : KnownC11 true op now db
    · rfl
    · exact absurd (WF.of_inv hpost)
        (tx_not_wf op now db (WF.of_inv h) (by simpa [KnownC11] using hk))
  · exact inv_step_tx_partial op now db h hfk rfl

/-- connection replacement: a method that does not rely on `ON DELETE CASCADE` preserves the
invariant whatever the value of `foreign_keys` -/
theorem inv_step_tx_any_fk : ∀ (b : Bool) (op : Op) (now : Int) (db : DB), db.Inv →
    usesCascade op = false → (isPush op && isSqlUnique (Model.tx b op now db).out) = false →
    (Model.tx b op now db).db.Inv := by
  intro b op now db h hc hk
  exact (tx_wf b op now db (WF.of_inv h) (fun hu => by rw [hc] at hu; cases hu) hk).inv

/-! ### the connection flag -/

theorem fk_preserved : ∀ (op : Op) (now : Int) (db : DB), (Model.dbRun op now db).db.fk = db.fk :=
  dbRun_fk

theorem fk_preserved_tx : ∀ (b : Bool) (op : Op) (now : Int) (db : DB),
    (Model.tx b op now db).db.fk = db.fk := tx_fk

/-! ### all histories -/

theorem inv_init : init.Inv := by decide +kernel

theorem reachable_inv_partial : ∀ (ops : List (Op × Int)), (∀ p ∈ ops, Covered p.1 = true) →
    NoKnown ops init → (run ops init).Inv := by
  intro ops _ _
  exact (run_wf ops init (WF.of_inv inv_init) rfl).1.inv

theorem reachable_inv : ∀ (ops : List (Op × Int)), (run ops init).Inv ∧ (run ops init).fk = true :=
  fun ops => ⟨(run_wf ops init (WF.of_inv inv_init) rfl).1.inv, (run_wf ops init (WF.of_inv inv_init) rfl).2⟩

/-- from any consistent state, not only the empty one -/
theorem run_inv : ∀ (ops : List (Op × Int)) (db : DB), db.Inv → db.fk = true → (run ops db).Inv :=
  fun ops db h hfk => (run_wf ops db (WF.of_inv h) hfk).1.inv

/-! ### orphans need `foreign_keys = off` -/

/-- with `foreign_keys = on`, the owner clause alone is preserved by the four deleting methods -/
theorem orphans_need_fk_off : ∀ (db : DB), db.fk = true → db.ownersOk = true →
    (∀ ks now, (keyDelete db ks now).db.ownersOk = true) ∧
    (∀ b, (keyDeleteAll db b).db.ownersOk = true) ∧
    (∀ n now, (keyDeleteExpired db n now).db.ownersOk = true) ∧
    (∀ k nk now, (keyRename db k nk now).db.ownersOk = true) := by
  intro db hfk h
  refine ⟨fun ks now => ownersOk_deleteKeysWhere db hfk _ h, fun b => ?_,
    fun n now => ownersOk_deleteKeysWhere db hfk _ h, fun k nk now => ?_⟩
  · unfold keyDeleteAll
    cases b <;> exact ownersOk_deleteKeysWhere db hfk _ h
  · unfold keyRename
    repeat' split
    all_goals first | exact h | exact ownersOk_renameStmt db hfk k nk now h

/-! ### witnesses and non-vacuity -/

theorem sample_inv : sample.Inv := by decide +kernel

/-- the step theorems instantiated on the sample (their hypotheses are satisfiable) -/
example : (Model.dbRun (.listInsertAfter [108] [97] [99]) 7 sample).db.Inv :=
  inv_step_db_partial _ 7 sample sample_inv rfl rfl rfl
example : (Model.tx true (.listPushBack [108] [99]) 7 sample).db.Inv :=
  inv_step_tx_partial _ 7 sample sample_inv rfl rfl (by decide +kernel)
example : errOf (Model.tx true (.setMove [116] [108] [120]) 7 sample).out = some .keyType ∧
    (Model.tx true (.setMove [116] [108] [120]) 7 sample).db ≠ sample ∧
    (Model.tx true (.setMove [116] [108] [120]) 7 sample).db.Inv :=
  ⟨by decide +kernel, by decide +kernel, inv_step_tx_partial _ 7 sample sample_inv rfl rfl (by decide +kernel)⟩
/-- and the steps do something -/
example : (Model.dbRun (.listInsertAfter [108] [97] [99]) 7 sample).db.lists.length = 3 := by decide +kernel
example : (run [(.setAdd [97] [[1], [2]], 1), (.listPushBack [98] [3], 2), (.keyDelete [[97]], 3)] init).keys.length = 1 := by
  decide +kernel

/-- Inside a transaction, a push whose position collides returns the UNIQUE error after `len` has
been bumped: the invariant is broken if the caller commits. At the `DB` level it is rolled back. -/
theorem push_collision_breaks_inv :
    collide.Inv ∧ collide.fk = true ∧
    KnownC11 true (.listPushBack [108] [98]) 0 collide = true ∧
    errOf (Model.tx true (.listPushBack [108] [98]) 0 collide).out = some .sqlUnique ∧
    ¬ (Model.tx true (.listPushBack [108] [98]) 0 collide).db.Inv ∧
    (Model.dbRun (.listPushBack [108] [98]) 0 collide).db = collide := by
  decide +kernel

/-- D14 mechanism: with `foreign_keys = off`, `Delete` leaves the child rows of the deleted key
behind, and the invariant (its owner clause) fails -/
theorem orphan_witness :
    sampleOff.Inv ∧
    (keyDelete sampleOff [[108]] 0).db.lists.length = 2 ∧
    (keyDelete sampleOff [[108]] 0).db.ownersOk = false ∧
    ¬ (Model.dbRun (.keyDelete [[108]]) 0 sampleOff).db.Inv ∧
    (Model.dbRun (.keyDelete [[108]]) 0 sample).db.Inv := by
  decide +kernel

end Redka.Props.C11
