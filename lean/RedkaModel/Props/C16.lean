/-
  C16 — cursor iteration.

  "Iterating any collection or the keyspace with a cursor - by repeated scan calls feeding back the
  returned cursor until it yields nothing, or with the iterator object - returns every element that
  matches the pattern (and type filter) and is present for the whole iteration exactly once, for
  every page size, every insertion and deletion history that produced the collection, and every
  pattern; a finished iteration is signalled unambiguously."

  `Model/Scan.lean` is the abstract iteration: candidate rows IN THE ORDER THE SQL STATEMENT
  PRODUCES THEM, one call = `page`, the scanner = `iterate`, two cursor rules (`last`: rkey,
  `max`: rset / rhash / rzset).  `Model/Scanner.lean` is scanner.go run over the Model's
  `keyScan` / `setScan` / `hashScan` / `zScan`.

  What is proved:
    * keys (`order by id`, the cursor column): complete, for every page size (including 0 = default
      and negative = unlimited), every pattern and type filter, every table with distinct positive
      ids — `keyscanner_complete`;
    * sets / hashes / sorted sets (no `order by`: rows come in member-byte order — for sorted
      sets in (score, member) order unless the pattern has a literal prefix —, cursor = max
      rowid): complete
      IF AND ONLY IF the matching rows come in increasing rowid order
      (`scan_complete_iff_no_inversion`); ascending insertion gives that (`scan_monotone_complete`,
      `setscanner_monotone_complete`), descending insertion does not (`scan_skips_deviates`,
      `setscanner_skips_deviates`, `zscanner_skips_deviates`,
      `zscanner_prefix_skips_deviates` — known finding D10);
    * for every row order and both rules: the iteration terminates with an empty page, cursor 0
      comes only with an empty page, nothing is returned that does not match
      (`scan_always_finishes`, `scan_cursor_zero_iff_empty`, `scan_sound`), and the max rule never
      returns a row twice (`scan_max_at_most_once`).
  Only property theorems and non-vacuity examples live here; lemmas are in `Proofs/Scan.lean` and
  `Proofs/ScanInst.lean`.
-/
import RedkaModel.Proofs.Scan
import RedkaModel.Proofs.ScanInst

namespace Redka.Props.C16

open Redka Redka.Model Redka.Scan

variable {α : Type}

/-! ### completeness when the statement produces the rows in cursor-column order -/

/-- The concatenation of all pages is exactly the matching rows, each once, in order — for both
cursor rules, every page size other than 0 ("no limit", a negative Go `count`, included), every
predicate. -/
theorem scan_complete_sorted_rows :
    ∀ (rule : CursorRule) (rows : List (Row α)) (p : α → Bool) (count : Option Nat),
      count ≠ some 0 → SortedById rows →
      iterate rule rows p count = rows.filter (fun r => p r.val) :=
  fun rule rows p _ hc hs => iterate_sorted_matching rule rows p hc (hs.1.filter _) hs.2

/-- In particular the ids, for every positive page size … -/
theorem scan_complete_sorted :
    ∀ (rule : CursorRule) (rows : List (Row α)) (p : α → Bool) (count : Nat), 0 < count →
      SortedById rows →
      (iterate rule rows p (some count)).map (·.id) = (rows.filter (fun r => p r.val)).map (·.id) := by
  intro rule rows p count hc hs
  rw [scan_complete_sorted_rows rule rows p _ (by intro h; cases h; omega) hs]

/-- … and the values. -/
theorem scan_complete_sorted_val :
    ∀ (rule : CursorRule) (rows : List (Row α)) (p : α → Bool) (count : Nat), 0 < count →
      SortedById rows →
      (iterate rule rows p (some count)).map (·.val)
        = (rows.filter (fun r => p r.val)).map (·.val) := by
  intro rule rows p count hc hs
  rw [scan_complete_sorted_rows rule rows p _ (by intro h; cases h; omega) hs]

theorem scan_complete_sorted_is_complete :
    ∀ (rule : CursorRule) (rows : List (Row α)) (p : α → Bool) (count : Option Nat),
      count ≠ some 0 → SortedById rows → Complete rule rows p count := by
  intro rule rows p count hc hs
  unfold Complete
  rw [scan_complete_sorted_rows rule rows p count hc hs]

/-! ### the end-of-iteration signal -/

/-- One call returns nothing iff nothing beyond the cursor matches — in any row order. -/
theorem scan_terminates_signal :
    ∀ (rows : List (Row α)) (p : α → Bool) (c : Int) (count : Nat), 0 < count →
      (page rows p c (some count) = [] ↔ ∀ r ∈ rows, r.id > c → p r.val = false) :=
  fun rows p c _ hc => page_eq_nil_iff rows p c (by intro h; cases h; omega)

theorem scan_terminates_signal_unlimited :
    ∀ (rows : List (Row α)) (p : α → Bool) (c : Int),
      (page rows p c none = [] ↔ ∀ r ∈ rows, r.id > c → p r.val = false) :=
  fun rows p c => page_eq_nil_iff rows p c (by intro h; cases h)

/-- The scanner always reaches an empty page within `rows.length + 1` calls, and every page
before it is non-empty — any row order, either rule, any page size. -/
theorem scan_always_finishes :
    ∀ (rule : CursorRule) (rows : List (Row α)) (p : α → Bool) (count : Option Nat),
      (pages rule rows p count).getLast? = some [] ∧
      (∀ pg ∈ (pages rule rows p count).dropLast, pg ≠ []) ∧
      (pages rule rows p count).flatten = iterate rule rows p count :=
  fun rule rows p count =>
    ⟨pagesFrom_getLast rule rows p count _ 0 (length_filter_sel_le rows p 0),
     pagesFrom_dropLast_ne_nil rule rows p count _ 0,
     flatten_pagesFrom rule rows p count _ 0⟩

/-- More calls than `rows.length + 1` never change what the scanner hands out. -/
theorem scan_fuel_irrelevant :
    ∀ (rule : CursorRule) (rows : List (Row α)) (p : α → Bool) (count : Option Nat) (extra : Nat),
      iterateFrom rule rows p count (rows.length + 1 + extra) 0 = iterate rule rows p count :=
  fun rule rows p count _ =>
    (iterate_eq_of_fuel rule rows p count _
      (Nat.lt_of_lt_of_le (length_filter_sel_le rows p 0) (Nat.le_add_right _ _))).symm

/-- The cursor `0` (which would restart the iteration) is returned only with an empty page. -/
theorem scan_cursor_zero_iff_empty :
    ∀ (rule : CursorRule) (rows : List (Row α)) (p : α → Bool) (c : Int) (count : Option Nat),
      (∀ r ∈ rows, 0 < r.id) →
      (rule.next (page rows p c count) = 0 ↔ page rows p c count = []) :=
  fun rule _ _ _ _ hpos => next_eq_zero_iff rule (fun a ha => hpos a (mem_page ha).1)

/-! ### what holds in every row order -/

/-- Everything the scanner hands out is a row of the table that matches. -/
theorem scan_sound :
    ∀ (rule : CursorRule) (rows : List (Row α)) (p : α → Bool) (count : Option Nat),
      ∀ r ∈ iterate rule rows p count, r ∈ rows ∧ 0 < r.id ∧ p r.val = true :=
  fun rule rows p count r hr => mem_iterateFrom rule rows p count _ 0 r hr

/-- With the max-rowid rule no row is handed out twice. -/
theorem scan_max_at_most_once :
    ∀ (rows : List (Row α)) (p : α → Bool) (count : Option Nat), (rows.map (·.id)).Nodup →
      ((iterate .max rows p count).map (·.id)).Nodup :=
  fun rows p count hnd => iterateFrom_max_nodup rows p count hnd _ 0

/-! ### the Model's scan functions are instances -/

/-- `Model.keyScan` is `page` over `db.keys` sorted by id, with the expiry guard, the glob and the
type filter as predicate, and the last-row cursor rule. -/
theorem keyscan_is_sorted_instance :
    ∀ (db : DB) (cursor : Int) (pat : Bytes) (ty count now : Int),
      keyScan db cursor pat ty count now =
        .ok (.list [.int (nextCursorLast (page (keyRows db) (keyPred pat ty now) cursor (goCount count))),
                    .list ((page (keyRows db) (keyPred pat ty now) cursor (goCount count)).map
                      (fun r => keyVal r.val))]) db := by
  intro db cursor pat ty count now
  unfold keyScan keyRows
  rw [page_map_view KeyRow.id, nextCursorLast_map_view KeyRow.id, List.map_map]
  simp only [sqlLimit_goCount]
  rw [filter_sortBy KeyRow.id]
  have hpred : (fun r : KeyRow => decide (r.id > cursor) && Glob.sqliteGlob pat r.key
        && (ty == 0 || r.ty == ty) && r.live now)
      = (fun k : KeyRow => decide (k.id > cursor) && keyPred pat ty now k) := by
    funext r
    simp only [keyPred, Bool.and_assoc]
  rw [hpred]
  simp only [Function.comp_def]
  congr 4
  cases (limit (goCount count) (sortBy (fun a b : KeyRow => decide (a.id < b.id))
    (List.filter (fun k => decide (k.id > cursor) && keyPred pat ty now k) db.keys))).getLast? <;> rfl

/-- `order by id` on a key table with distinct positive ids is `SortedById`. -/
theorem keyrows_sorted :
    ∀ db : DB, (db.keys.map (·.id)).Nodup → (∀ r ∈ db.keys, 0 < r.id) → SortedById (keyRows db) := by
  intro db hnd hpos
  constructor
  · unfold keyRows
    rw [List.pairwise_map]
    have := pairwise_sortBy KeyRow.id strictTotal_int db.keys hnd
    exact this.imp (fun h => by simpa using h)
  · intro r hr
    unfold keyRows at hr
    obtain ⟨k, hk, rfl⟩ := List.mem_map.1 hr
    exact hpos k ((mem_sortBy _ k _).1 hk)

/-- `Model.setScan` is `page` over the set's rows sorted by ELEM, with the max-rowid rule. -/
theorem setscan_is_elem_ordered_instance :
    ∀ (db : DB) (k : Bytes) (cursor : Int) (pat : Bytes) (count now : Int),
      setScan db k cursor pat count now =
        match db.liveKeyT k TSet now with
        | none => .ok (.list [.int 0, .list []]) db
        | some r =>
          .ok (.list [.int (nextCursorMax (page (setRowsOf db r.id)
                        (fun x => Glob.sqliteGlob pat x.elem) cursor (goCount count))),
                      .list ((page (setRowsOf db r.id)
                        (fun x => Glob.sqliteGlob pat x.elem) cursor (goCount count)).map
                        (fun x => .bytes x.val.elem))]) db := by
  intro db k cursor pat count now
  unfold setScan
  cases db.liveKeyT k TSet now with
  | none => rfl
  | some r =>
    simp only [setRowsOf]
    rw [page_map_view SetRow.rowid, nextCursorMax_map_view SetRow.rowid, List.map_map]
    simp only [sqlLimit_goCount, bytesList, List.map_map]
    rfl

/-- `Model.hashScan`: rows sorted by FIELD, max-rowid rule. -/
theorem hashscan_is_field_ordered_instance :
    ∀ (db : DB) (k : Bytes) (cursor : Int) (pat : Bytes) (count now : Int),
      hashScan db k cursor pat count now =
        match db.liveKeyT k THash now with
        | none => .ok (.list [.int 0, .list []]) db
        | some r =>
          .ok (.list [.int (nextCursorMax (page (hashRowsOf db r.id)
                        (fun x => Glob.sqliteGlob pat x.field) cursor (goCount count))),
                      .list ((page (hashRowsOf db r.id)
                        (fun x => Glob.sqliteGlob pat x.field) cursor (goCount count)).map
                        (fun x => pairVal (x.val.field, x.val.value)))]) db := by
  intro db k cursor pat count now
  unfold hashScan hashLiveRows
  cases db.liveKeyT k THash now with
  | none =>
    simp only [sqlLimit_goCount, List.filter_nil, limit_nil]
    rfl
  | some r =>
    simp only [hashRowsOf]
    rw [page_map_view HashRow.rowid, nextCursorMax_map_view HashRow.rowid, List.map_map]
    simp only [sqlLimit_goCount]
    rfl

/-- `Model.zScan`: the row order depends on the PATTERN (`Model.zScanByElem`): with a usable
literal prefix SQLite's GLOB optimisation walks `rzset_pk_idx` — rows by ELEM (`b = true`) —,
otherwise the covering index `rzset_score_idx` — rows by (SCORE, ELEM) (`b = false`); max-rowid
rule in both cases.  A pattern whose literal prefix looks numeric is outside the model. -/
theorem zscan_is_pattern_ordered_instance :
    ∀ (db : DB) (k : Bytes) (cursor : Int) (pat : Bytes) (count now : Int),
      zScan db k cursor pat count now =
        match zScanByElem pat with
        | none => .err .outOfDomain db
        | some b =>
          match db.liveKeyT k TZSet now with
          | none => .ok (.list [.int 0, .list []]) db
          | some r =>
            .ok (.list [.int (nextCursorMax (page (zRowsOfBy b db r.id)
                          (fun x => Glob.sqliteGlob pat x.elem) cursor (goCount count))),
                        .list ((page (zRowsOfBy b db r.id)
                          (fun x => Glob.sqliteGlob pat x.elem) cursor (goCount count)).map
                          (fun x => zItem x.val))]) db := by
  intro db k cursor pat count now
  unfold zScan zLiveRows
  cases zScanByElem pat with
  | none => rfl
  | some b =>
    cases db.liveKeyT k TZSet now with
    | none =>
      cases b <;>
        simp only [sqlLimit_goCount, List.filter_nil, limit_nil, sortBy, List.foldr_nil,
          Bool.false_eq_true, if_false, if_true] <;> rfl
    | some r =>
      simp only [zRowsOfBy]
      rw [page_map_view ZRow.rowid, nextCursorMax_map_view ZRow.rowid, List.map_map]
      simp only [sqlLimit_goCount]
      rfl

/-- The iterator objects are the abstract iteration (Go page size 0 = 10, negative = unlimited). -/
theorem scanners_are_instances :
    ∀ (db : DB) (k pat : Bytes) (ty pageSize now : Int),
      keyScanner db pat ty pageSize now
        = (iterate .last (keyRows db) (keyPred pat ty now) (goCount pageSize)).map
            (fun r => keyVal r.val) ∧
      setScanner db k pat pageSize now =
        (match db.liveKeyT k TSet now with
         | none => []
         | some r => (iterate .max (setRowsOf db r.id) (fun x => Glob.sqliteGlob pat x.elem)
             (goCount pageSize)).map (fun x => .bytes x.val.elem)) ∧
      hashScanner db k pat pageSize now =
        (match db.liveKeyT k THash now with
         | none => []
         | some r => (iterate .max (hashRowsOf db r.id) (fun x => Glob.sqliteGlob pat x.field)
             (goCount pageSize)).map (fun x => pairVal (x.val.field, x.val.value))) ∧
      zScanner db k pat pageSize now =
        (match zScanByElem pat with
         | none => []
         | some b =>
           match db.liveKeyT k TZSet now with
           | none => []
           | some r => (iterate .max (zRowsOfBy b db r.id) (fun x => Glob.sqliteGlob pat x.elem)
               (goCount pageSize)).map (fun x => zItem x.val)) := by
  intro db k pat ty pageSize now
  refine ⟨?_, ?_, ?_, ?_⟩
  · unfold keyScanner
    apply scannerLoop_iterate _ .last
    · rw [length_keyRows]; exact Nat.le_refl _
    · intro c
      rw [keyscan_is_sorted_instance]
      rfl
  · unfold setScanner
    cases hl : db.liveKeyT k TSet now with
    | none =>
      apply scannerLoop_nothing
      intro c; rw [setscan_is_elem_ordered_instance, hl]; rfl
    | some r =>
      apply scannerLoop_iterate _ .max _ _ _ _ _ (length_setRowsOf db r.id)
      intro c; rw [setscan_is_elem_ordered_instance, hl]; rfl
  · unfold hashScanner
    cases hl : db.liveKeyT k THash now with
    | none =>
      apply scannerLoop_nothing
      intro c; rw [hashscan_is_field_ordered_instance, hl]; rfl
    | some r =>
      apply scannerLoop_iterate _ .max _ _ _ _ _ (length_hashRowsOf db r.id)
      intro c; rw [hashscan_is_field_ordered_instance, hl]; rfl
  · unfold zScanner
    cases hb : zScanByElem pat with
    | none =>
      apply scannerLoop_error
      intro c; rw [zscan_is_pattern_ordered_instance, hb]; rfl
    | some b =>
      cases hl : db.liveKeyT k TZSet now with
      | none =>
        apply scannerLoop_nothing
        intro c; rw [zscan_is_pattern_ordered_instance, hb, hl]; rfl
      | some r =>
        apply scannerLoop_iterate _ .max _ _ _ _ _ (length_zRowsOfBy b db r.id)
        intro c; rw [zscan_is_pattern_ordered_instance, hb, hl]; rfl

/-- KEYS: the key scanner over the Model's `keyScan` hands out exactly the live keys matching the
pattern and the type filter, each once, in id order — for EVERY Go page size (0, positive,
negative), every pattern, every type filter, every table with distinct positive ids. -/
theorem keyscanner_complete :
    ∀ (db : DB) (pat : Bytes) (ty pageSize now : Int),
      (db.keys.map (·.id)).Nodup → (∀ r ∈ db.keys, 0 < r.id) →
      keyScanner db pat ty pageSize now
        = ((sortBy (fun a b => decide (a.id < b.id)) db.keys).filter (keyPred pat ty now)).map keyVal := by
  intro db pat ty pageSize now hnd hpos
  rw [(scanners_are_instances db [] pat ty pageSize now).1, scan_complete_sorted_rows .last _ _ _ (goCount_ne_zero pageSize) (keyrows_sorted db hnd hpos)]
  unfold keyRows
  rw [filter_map_view KeyRow.id, List.map_map]
  rfl

/-- … and that list is a rearrangement of the matching rows of the table: nothing is lost, nothing
is doubled. -/
theorem keyscanner_complete_mem :
    ∀ (db : DB) (pat : Bytes) (ty pageSize now : Int),
      (db.keys.map (·.id)).Nodup → (∀ r ∈ db.keys, 0 < r.id) →
      ∃ l : List KeyRow, keyScanner db pat ty pageSize now = l.map keyVal ∧
        (l.map (·.id)).Nodup ∧ ∀ k, k ∈ l ↔ k ∈ db.keys ∧ keyPred pat ty now k = true := by
  intro db pat ty pageSize now hnd hpos
  refine ⟨_, keyscanner_complete db pat ty pageSize now hnd hpos, ?_, ?_⟩
  · have hs := (keyrows_sorted db hnd hpos).1
    unfold keyRows at hs
    rw [List.pairwise_map] at hs
    have hs' := hs.filter (keyPred pat ty now)
    rw [List.nodup_iff_pairwise_ne, List.pairwise_map]
    exact hs'.imp (fun h => by simp at h ⊢; omega)
  · intro k
    rw [List.mem_filter, mem_sortBy]

/-! ### collections: complete when member order and rowid order agree -/

/-- If the order in which the statement produces the rows (by member, relation `lt`) agrees with
the rowid order, the rows are id-sorted and the iteration is complete.  This is why inserting in
ascending order — what the repository's tests do — works. -/
theorem scan_monotone_complete :
    ∀ (lt : α → α → Prop) (rule : CursorRule) (rows : List (Row α)) (p : α → Bool)
      (count : Option Nat), count ≠ some 0 →
      rows.Pairwise (fun a b => lt a.val b.val) → (∀ r ∈ rows, 0 < r.id) →
      (∀ r ∈ rows, ∀ s ∈ rows, lt r.val s.val → r.id < s.id) →
      iterate rule rows p count = rows.filter (fun r => p r.val) := by
  intro lt rule rows p count hc hord hpos hmono
  apply scan_complete_sorted_rows rule rows p count hc
  exact ⟨hord.imp_of_mem (fun ha hb h => hmono _ ha _ hb h), hpos⟩

/-- SETS, on the Model: if within the set the byte order of the members agrees with the rowid
order, the set scanner hands out exactly the matching members, each once, for every page size. -/
theorem setscanner_monotone_complete :
    ∀ (db : DB) (k pat : Bytes) (pageSize now : Int) (r : KeyRow),
      db.liveKeyT k TSet now = some r →
      ((db.sets.filter (fun x => x.kid == r.id)).map (·.elem)).Nodup →
      (∀ x ∈ db.sets, x.kid = r.id → 0 < x.rowid) →
      (∀ x ∈ db.sets, ∀ y ∈ db.sets, x.kid = r.id → y.kid = r.id →
        bytesLt x.elem y.elem = true → x.rowid < y.rowid) →
      setScanner db k pat pageSize now
        = (((setRows db r.id).filter (fun x => Glob.sqliteGlob pat x.elem)).map (·.elem)).map .bytes := by
  intro db k pat pageSize now r hl hnd hpos hmono
  rw [(scanners_are_instances db k pat 0 pageSize now).2.1, hl]
  simp only []
  rw [scan_complete_sorted_rows .max _ _ _ (goCount_ne_zero pageSize) (setRowsOf_sorted db r.id hnd hpos hmono)]
  unfold setRowsOf
  rw [filter_map_view SetRow.rowid _ (fun x => Glob.sqliteGlob pat x.elem), List.map_map, List.map_map]
  rfl

/-! ### collections: incomplete otherwise (known finding D10) -/

/-- Three members inserted in descending byte order (rowids 1, 2, 3 for c, b, a), produced in
member order, page size 1, max-rowid rule: the first page is `[a]` with cursor 3, the second page
is empty, `b` and `c` are never handed out. -/
theorem scan_skips_deviates :
    iterate .max [⟨3, "a"⟩, ⟨2, "b"⟩, ⟨1, "c"⟩] (fun _ => true) (some 1) = [⟨3, "a"⟩] ∧
    pages .max [⟨3, "a"⟩, ⟨2, "b"⟩, ⟨1, "c"⟩] (fun _ => true) (some 1) = [[⟨3, "a"⟩], []] ∧
    ¬ Complete .max [⟨3, "a"⟩, ⟨2, "b"⟩, ⟨1, "c"⟩] (fun _ : String => true) (some 1) := by
  refine ⟨by decide +kernel, by decide +kernel, ?_⟩
  intro h
  have hlen := h.length_eq
  have h1 : iterate .max [⟨3, "a"⟩, ⟨2, "b"⟩, ⟨1, "c"⟩] (fun _ : String => true) (some 1)
      = [⟨3, "a"⟩] := by decide +kernel
  rw [h1] at hlen
  simp at hlen

/-- SORTED SETS, on the Model, pattern `*` (no literal prefix: rows by (score, elem)): after
`ZADD z 3 a; ZADD z 2 b; ZADD z 1 c` (rowids 1, 2, 3; the (score, elem) order is c, b, a) draining
the sorted-set scanner with page size 1 yields `c` only, while the sorted set has three members.
The members WERE added in ascending byte order: here it is the score order that has to agree with
the rowids. -/
theorem zscanner_skips_deviates :
    zScanByElem [42] = some false ∧
    zScanner d10ZDb [122] [42] 1 0 = [.list [.bytes [99], .score (.fin 1)]] ∧
    (zRows d10ZDb 1).map (·.elem) = [[99], [98], [97]] ∧
    (zRows d10ZDb 1).map (·.rowid) = [3, 2, 1] := by
  refine ⟨by decide +kernel, ?_, by decide +kernel, by decide +kernel⟩
  rw [(scanners_are_instances d10ZDb [122] [42] 0 1 0).2.2.2,
    show zScanByElem [42] = some false by decide,
    show d10ZDb.liveKeyT [122] TZSet 0 = some d10ZKey by decide]
  simp only []
  rw [iterate_glob_all .max _ ZRow.elem [42] _ (by decide +kernel)]
  rfl

/-- SORTED SETS, pattern `m*` (literal prefix: rows by elem): after `ZADD z 1 mc; ZADD z 2 mb;
ZADD z 3 ma` — scores ascending with the rowids, so pattern `*` would be complete — draining the
scanner with page size 1 yields `ma` only. -/
theorem zscanner_prefix_skips_deviates :
    zScanByElem [109, 42] = some true ∧
    zScanner d10ZDbPrefix [122] [109, 42] 1 0 = [.list [.bytes [109, 97], .score (.fin 3)]] ∧
    (zRowsOfBy true d10ZDbPrefix 1).map (·.id) = [3, 2, 1] ∧
    (zRowsOfBy false d10ZDbPrefix 1).map (·.id) = [1, 2, 3] := by
  refine ⟨by decide +kernel, ?_, by decide +kernel, by decide +kernel⟩
  rw [(scanners_are_instances d10ZDbPrefix [122] [109, 42] 0 1 0).2.2.2,
    show zScanByElem [109, 42] = some true by decide,
    show d10ZDbPrefix.liveKeyT [122] TZSet 0 = some d10ZKey by decide]
  simp only []
  rw [iterate_glob_all .max _ ZRow.elem [109, 42] _ (by decide +kernel)]
  rfl

/-- The same on the Model: after `SADD s c; SADD s b; SADD s a`, draining the set scanner with
pattern `*` and page size 1 yields `a` only, while the set has three members. -/
theorem setscanner_skips_deviates :
    setScanner d10Db [115] [42] 1 0 = [.bytes [97]] ∧
    (setRows d10Db 1).map (·.elem) = [[97], [98], [99]] := by
  refine ⟨?_, by decide +kernel⟩
  rw [(scanners_are_instances d10Db [115] [42] 0 1 0).2.1,
    show d10Db.liveKeyT [115] TSet 0 = some d10Key by decide]
  simp only []
  rw [iterate_glob_all .max _ SetRow.elem [42] _ (by decide +kernel)]
  rfl

/-- The exact boundary, for either cursor rule and every row order with positive ids: the iteration
is complete for ALL page sizes iff the matching rows are produced in increasing id order; and page
size 1 alone already decides it. -/
theorem scan_complete_iff_no_inversion :
    ∀ (rule : CursorRule) (rows : List (Row α)) (p : α → Bool), (∀ r ∈ rows, 0 < r.id) →
      ((∀ count : Option Nat, count ≠ some 0 → Complete rule rows p count)
        ↔ (rows.filter (fun r => p r.val)).Pairwise (fun a b => a.id < b.id)) ∧
      (Complete rule rows p (some 1)
        ↔ (rows.filter (fun r => p r.val)).Pairwise (fun a b => a.id < b.id)) := by
  intro rule rows p hpos
  have hone : Complete rule rows p (some 1) →
      (rows.filter (fun r => p r.val)).Pairwise (fun a b => a.id < b.id) := by
    intro h
    have hlen := h.length_eq
    unfold iterate at hlen
    rw [← filter_sel_zero rows p hpos] at hlen ⊢
    exact (iterateFrom_one_spec rule rows p _ 0 (Int.le_refl 0)).2 hlen
  have hall : (rows.filter (fun r => p r.val)).Pairwise (fun a b => a.id < b.id) →
      ∀ count : Option Nat, count ≠ some 0 → Complete rule rows p count := by
    intro hs count hc
    unfold Complete
    rw [iterate_sorted_matching rule rows p hc hs hpos]
  exact ⟨⟨fun h => hone (h (some 1) (by intro h; cases h)), hall⟩,
         ⟨hone, fun hs => hall hs (some 1) (by intro h; cases h)⟩⟩

/-! ### non-vacuity -/

/-- `SortedById` is satisfiable by a table with a deletion gap and a non-matching row; three page
sizes and both rules give the two matching rows. -/
example : SortedById [(⟨1, ['a']⟩ : Row (List Char)), ⟨4, ['b']⟩, ⟨5, ['a', 'b']⟩] := by
  refine ⟨by decide +kernel, ?_⟩
  intro r hr
  simp only [List.mem_cons, List.not_mem_nil, or_false] at hr
  rcases hr with rfl | rfl | rfl <;> decide

example : (iterate .last [⟨1, ['a']⟩, ⟨4, ['b']⟩, ⟨5, ['a', 'b']⟩] (fun s => s.head? == some 'a') (some 1)).map (·.id)
    = [1, 5] := by decide +kernel
example : (iterate .max [⟨1, ['a']⟩, ⟨4, ['b']⟩, ⟨5, ['a', 'b']⟩] (fun s => s.head? == some 'a') (some 2)).map (·.id)
    = [1, 5] := by decide +kernel
example : (iterate .max [⟨1, ['a']⟩, ⟨4, ['b']⟩, ⟨5, ['a', 'b']⟩] (fun s => s.head? == some 'a') none).map (·.id)
    = [1, 5] := by decide +kernel

/-- the signal: a non-empty page while something matches beyond the cursor, an empty one after -/
example : page [(⟨1, "a"⟩ : Row String), ⟨4, "b"⟩] (fun _ => true) 1 (some 3) = [⟨4, "b"⟩] := by decide +kernel
example : page [(⟨1, "a"⟩ : Row String), ⟨4, "b"⟩] (fun _ => true) 4 (some 3) = [] := by decide +kernel
example : pages .last [(⟨1, "a"⟩ : Row String), ⟨4, "b"⟩] (fun _ => true) (some 1)
    = [[⟨1, "a"⟩], [⟨4, "b"⟩], []] := by decide +kernel

/-- the Go page sizes -/
example : goCount 0 = some 10 ∧ goCount 3 = some 3 ∧ goCount (-1) = none := by decide +kernel

/-- ascending insertion (rowids follow the member order) is complete under the max rule at page
size 1, the page size that loses rows in `scan_skips_deviates` -/
example : iterate .max [⟨1, "a"⟩, ⟨2, "b"⟩, ⟨3, "c"⟩] (fun _ => true) (some 1)
    = [⟨1, "a"⟩, ⟨2, "b"⟩, ⟨3, "c"⟩] := by decide +kernel

/-- an inversion among NON-matching rows is harmless (`scan_complete_iff_no_inversion` looks at the
matching rows only) -/
example : iterate .max [⟨3, ['x']⟩, ⟨1, ['a']⟩, ⟨2, ['a', 'b']⟩] (fun s => s.head? == some 'a') (some 1)
    = [⟨1, ['a']⟩, ⟨2, ['a', 'b']⟩] := by decide +kernel

/-- the last-row rule on an unsorted order can even hand out a row twice, which the max rule never
does (`scan_max_at_most_once`) -/
example : (iterate .last [⟨2, "a"⟩, ⟨3, "b"⟩, ⟨1, "c"⟩] (fun _ => true) (some 3)).map (·.id)
    = [2, 3, 1, 2, 3] := by decide +kernel

/-- the hypotheses of `keyscanner_complete` are satisfiable -/
example : (d10Db.keys.map (·.id)).Nodup ∧ ∀ r ∈ d10Db.keys, 0 < r.id := by decide +kernel

/-- the hypotheses of `setscanner_monotone_complete` are satisfiable (`SADD s a; SADD s b; SADD s c`),
and fail on the D10 database -/
example : ascDb.liveKeyT [115] TSet 0 = some d10Key ∧
    ((ascDb.sets.filter (fun x => x.kid == d10Key.id)).map (·.elem)).Nodup ∧
    (∀ x ∈ ascDb.sets, x.kid = d10Key.id → 0 < x.rowid) ∧
    (∀ x ∈ ascDb.sets, ∀ y ∈ ascDb.sets, x.kid = d10Key.id → y.kid = d10Key.id →
      bytesLt x.elem y.elem = true → x.rowid < y.rowid) := by decide +kernel

example : ¬ (∀ x ∈ d10Db.sets, ∀ y ∈ d10Db.sets, x.kid = d10Key.id → y.kid = d10Key.id →
      bytesLt x.elem y.elem = true → x.rowid < y.rowid) := by decide +kernel

end Redka.Props.C16
